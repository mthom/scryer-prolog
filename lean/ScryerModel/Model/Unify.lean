import ScryerModel.Model.Term
/-
C10 — executable model of first-order unification on finite Prolog terms.

What is modelled.  `src/machine/unify.rs` (`Unifier::unify_internal`) pops pairs of cells
from the PDL stack, dereferences both sides and then either binds a variable
(`bind`, or `bind_with_occurs_check` when the `occurs_check` flag is `true`/`error` or the
goal is `unify_with_occurs_check/2`), pushes the argument pairs of two compounds with the
same name and arity (first argument on top: depth-first, left to right), compares two
constants, or fails.  The model keeps exactly this work-list discipline but works on
terms instead of heap cells:

* the store (heap bindings + `deref`) is replaced by *eager* substitution: when `x` is bound
  to `t`, `x ↦ t` is applied to the remaining work list and recorded in the accumulator.
  The accumulator is a *triangular* substitution (newest binding first), like the trail;
* the tabu list (pairs of compound cells already visited) is an optimisation for shared
  sub-structures and for rational trees; on finite terms it never changes the outcome and
  is not modelled;
* binding direction (`bind`: younger cell to older cell, non-variables win) is not
  modelled; the result is compared up to renaming of variables;
* `Outcome.cyclic` marks the point where the implementation's `bind_with_occurs_check`
  finds the variable inside the value.  With the flag `false` the implementation leaves
  the world of finite terms at this point (it creates a rational tree).

Numbers: an integer unifies with an integer of the same value whatever the representation
(fixnum / big integer), a float only with a float with the same bits, a rational only with
the same rational; strings are lists of one-character atoms (`Scryer.Term`).

Import-free (Lean core only).
-/
namespace Scryer
namespace Term

mutual
/-- variables of a term, with repetitions, left to right. -/
def vars : Term → List String
  | .var x => [x]
  | .str _ args => varsL args
  | .int _ => []
  | .rat _ _ => []
  | .flt _ => []
  | .atom _ => []
def varsL : List Term → List String
  | [] => []
  | t :: ts => vars t ++ varsL ts
end

mutual
/-- number of nodes. -/
def size : Term → Nat
  | .str _ args => 1 + sizeL args
  | .var _ => 1
  | .int _ => 1
  | .rat _ _ => 1
  | .flt _ => 1
  | .atom _ => 1
def sizeL : List Term → Nat
  | [] => 0
  | t :: ts => size t + sizeL ts
end

mutual
/-- simultaneous substitution of terms for variables. -/
def subst (f : String → Term) : Term → Term
  | .var x => f x
  | .str g args => .str g (substL f args)
  | .int v => .int v
  | .rat n d => .rat n d
  | .flt b => .flt b
  | .atom a => .atom a
def substL (f : String → Term) : List Term → List Term
  | [] => []
  | t :: ts => subst f t :: substL f ts
end

end Term

namespace Unify
open Term

/-- the elementary substitution `x ↦ u`. -/
def single (x : String) (u : Term) : String → Term :=
  fun y => if y = x then u else .var y

/-- `t[x ↦ u]`. -/
def subst1 (x : String) (u : Term) (t : Term) : Term := t.subst (single x u)

/-- work list of equations. -/
abbrev Eqs := List (Term × Term)

/-- triangular substitution: the LAST element is applied first, the head last
    (the head is the most recent binding). -/
abbrev Subst := List (String × Term)

def applyS : Subst → Term → Term
  | [], t => t
  | (x, u) :: σ, t => subst1 x u (applyS σ t)

/-- the substitution as a function on variables. -/
def Subst.toFun (σ : Subst) : String → Term := fun x => applyS σ (.var x)

/-- the variables bound by `σ`. -/
def Subst.dom (σ : Subst) : List String := σ.map Prod.fst

def substE (x : String) (u : Term) (eqs : Eqs) : Eqs :=
  eqs.map fun p => (subst1 x u p.1, subst1 x u p.2)

def varsE : Eqs → List String
  | [] => []
  | (s, t) :: r => s.vars ++ t.vars ++ varsE r

def sizeE : Eqs → Nat
  | [] => 0
  | (s, t) :: r => s.size + t.size + sizeE r

/-- equality of two constants (integers by value, floats by bits, rationals by
    numerator and denominator, atoms by name); `false` when one side is not a constant. -/
def constEq : Term → Term → Bool
  | .int a, .int b => decide (a = b)
  | .rat a b, .rat c d => decide (a = c) && decide (b = d)
  | .flt a, .flt b => decide (a = b)
  | .atom a, .atom b => decide (a = b)
  | _, _ => false

/-! ### counting distinct variables (termination measure) -/

def dedup : List String → List String
  | [] => []
  | a :: l => if a ∈ l then dedup l else a :: dedup l

/-- number of distinct elements. -/
def card (l : List String) : Nat := (dedup l).length

theorem mem_dedup {a : String} : ∀ {l : List String}, a ∈ dedup l ↔ a ∈ l
  | [] => Iff.rfl
  | b :: l => by
      rw [dedup]
      split
      · rename_i h
        rw [mem_dedup, List.mem_cons, or_iff_right_of_imp fun e => e ▸ h]
      · rw [List.mem_cons, List.mem_cons, mem_dedup]

theorem nodup_dedup : ∀ (l : List String), (dedup l).Nodup
  | [] => List.nodup_nil
  | b :: l => by
      rw [dedup]
      split
      · exact nodup_dedup l
      · rename_i h
        exact List.nodup_cons.mpr ⟨fun h' => h (mem_dedup.mp h'), nodup_dedup l⟩

theorem card_le_of_subset {l1 l2 : List String} (h : ∀ a ∈ l1, a ∈ l2) : card l1 ≤ card l2 :=
  (nodup_dedup l1).length_le_of_subset fun a ha => mem_dedup.mpr (h a (mem_dedup.mp ha))

theorem card_lt_of_subset {l1 l2 : List String} {x : String} (h : ∀ a ∈ l1, a ∈ l2)
    (hx2 : x ∈ l2) (hx1 : x ∉ l1) : card l1 < card l2 :=
  -- `x :: dedup l1` is still duplicate-free and inside `dedup l2`
  (List.nodup_cons.mpr ⟨fun h' => hx1 (mem_dedup.mp h'), nodup_dedup l1⟩).length_le_of_subset
    (List.forall_mem_cons.mpr ⟨mem_dedup.mpr hx2, fun a ha => mem_dedup.mpr (h a (mem_dedup.mp ha))⟩)

/-! ### variables and sizes under substitution and decomposition -/

mutual
theorem mem_vars_subst (f : String → Term) : ∀ (t : Term) (y : String),
    y ∈ (t.subst f).vars → ∃ z, z ∈ t.vars ∧ y ∈ (f z).vars
  | .var x, _, h => ⟨x, List.mem_singleton_self x, h⟩
  | .str _ args, y, h => mem_varsL_substL f args y h
  | .int _, _, h | .rat _ _, _, h | .flt _, _, h | .atom _, _, h => nomatch h
theorem mem_varsL_substL (f : String → Term) : ∀ (ts : List Term) (y : String),
    y ∈ varsL (substL f ts) → ∃ z, z ∈ varsL ts ∧ y ∈ (f z).vars
  | [], _, h => nomatch h
  | t :: ts, y, h =>
      (List.mem_append.mp h).elim
        (fun h => let ⟨z, hz, hy⟩ := mem_vars_subst f t y h; ⟨z, List.mem_append_left _ hz, hy⟩)
        (fun h => let ⟨z, hz, hy⟩ := mem_varsL_substL f ts y h; ⟨z, List.mem_append_right _ hz, hy⟩)
end

theorem mem_vars_subst1 {x : String} {u t : Term} {y : String} (h : y ∈ (subst1 x u t).vars) :
    (y ∈ t.vars ∧ y ≠ x) ∨ y ∈ u.vars := by
  obtain ⟨z, hz, hy⟩ := mem_vars_subst (single x u) t y h
  unfold single at hy
  split at hy
  · exact Or.inr hy
  · cases List.mem_singleton.mp hy
    exact Or.inl ⟨hz, ‹_›⟩

theorem mem_varsE_substE {x : String} {u : Term} {y : String} : ∀ {eqs : Eqs},
    y ∈ varsE (substE x u eqs) → (y ∈ varsE eqs ∧ y ≠ x) ∨ y ∈ u.vars
  | (s, t) :: r, h => by
      simp only [substE, List.map_cons, varsE, List.mem_append] at h ⊢
      rcases h with (h | h) | h
      · exact (mem_vars_subst1 h).imp_left (And.imp_left fun h1 => Or.inl (Or.inl h1))
      · exact (mem_vars_subst1 h).imp_left (And.imp_left fun h1 => Or.inl (Or.inr h1))
      · exact (mem_varsE_substE (eqs := r) h).imp_left (And.imp_left Or.inr)

theorem varsE_append (a b : Eqs) : varsE (a ++ b) = varsE a ++ varsE b := by
  induction a with
  | nil => rfl
  | cons p a ih => simp only [List.cons_append, varsE, ih, List.append_assoc]

theorem sizeE_append (a b : Eqs) : sizeE (a ++ b) = sizeE a + sizeE b := by
  induction a with
  | nil => exact (Nat.zero_add _).symm
  | cons p a ih => simp only [List.cons_append, sizeE, ih, Nat.add_assoc]

theorem mem_varsE_zip {y : String} : ∀ {as bs : List Term},
    y ∈ varsE (as.zip bs) → y ∈ varsL as ∨ y ∈ varsL bs
  | a :: as, b :: bs, h => by
      simp only [List.zip_cons_cons, varsE, List.mem_append, Term.varsL] at h ⊢
      rcases h with (h | h) | h
      · exact Or.inl (Or.inl h)
      · exact Or.inr (Or.inl h)
      · exact (mem_varsE_zip h).imp Or.inr Or.inr

theorem sizeE_zip_le : ∀ (as bs : List Term), sizeE (as.zip bs) ≤ sizeL as + sizeL bs
  | [], _ | _ :: _, [] => Nat.zero_le _
  | a :: as, b :: bs => by
      have := sizeE_zip_le as bs
      simp only [List.zip_cons_cons, sizeE, Term.sizeL]
      omega

theorem size_pos : ∀ (t : Term), 0 < t.size
  | .str _ _ => Nat.lt_add_right _ Nat.one_pos
  | .var _ | .int _ | .rat _ _ | .flt _ | .atom _ => Nat.one_pos

theorem mem_varsE_decomp {y f g : String} {as bs : List Term} {rest : Eqs}
    (h : y ∈ varsE (as.zip bs ++ rest)) : y ∈ varsE ((Term.str f as, Term.str g bs) :: rest) := by
  rw [varsE_append, List.mem_append] at h
  exact List.mem_append.mpr (h.imp (fun h => List.mem_append.mpr (mem_varsE_zip h)) id)

/-- dropping the first equation. -/
theorem measure_drop (s t : Term) (rest : Eqs) :
    Prod.Lex (· < ·) (· < ·) (card (varsE rest), sizeE rest)
      (card (varsE ((s, t) :: rest)), sizeE ((s, t) :: rest)) :=
  Prod.Lex.right' _ (card_le_of_subset fun _ ha => List.mem_append_right _ ha)
    (Nat.lt_add_of_pos_left (Nat.add_pos_left (size_pos s) _))

/-- eliminating the variable `x` (which does not occur in `u`). -/
theorem measure_elim (x : String) (u s t : Term) (rest : Eqs) (hx : x ∉ u.vars)
    (hsub : ∀ a ∈ u.vars, a ∈ varsE ((s, t) :: rest)) (hmem : x ∈ varsE ((s, t) :: rest)) :
    Prod.Lex (· < ·) (· < ·) (card (varsE (substE x u rest)), sizeE (substE x u rest))
      (card (varsE ((s, t) :: rest)), sizeE ((s, t) :: rest)) :=
  Prod.Lex.left _ _ <| card_lt_of_subset
    (fun a ha => (mem_varsE_substE ha).elim (fun h => List.mem_append_right _ h.1) (hsub a))
    hmem fun h => (mem_varsE_substE h).elim (fun h => h.2 rfl) hx

/-- decomposing two compounds. -/
theorem measure_decomp (f g : String) (as bs : List Term) (rest : Eqs) :
    Prod.Lex (· < ·) (· < ·)
      (card (varsE (as.zip bs ++ rest)), sizeE (as.zip bs ++ rest))
      (card (varsE ((Term.str f as, Term.str g bs) :: rest)),
        sizeE ((Term.str f as, Term.str g bs) :: rest)) := by
  refine Prod.Lex.right' _ (card_le_of_subset fun _ => mem_varsE_decomp) ?_
  have := sizeE_zip_le as bs
  rw [sizeE_append]
  simp only [sizeE, Term.size]
  omega

/-! ### the algorithm -/

/-- result of running the work list. -/
inductive Outcome where
  /-- all equations solved; the accumulated (triangular) substitution. -/
  | ok (σ : Subst)
  /-- two different constants / functors / arities, or constant against compound. -/
  | clash
  /-- a variable had to be bound to a compound term containing it
      (`bind_with_occurs_check` returns `true`). -/
  | cyclic
  deriving Repr, Inhabited

/-- Work-list unification.  `solve eqs acc`: `eqs` is the PDL (head = top of stack),
    `acc` the bindings made so far, already applied to `eqs`.  Terminates for every input:
    the measure is (number of distinct variables in the work list, size of the work list). -/
def solve : Eqs → Subst → Outcome
  | [], acc => .ok acc
  | (.var x, .var y) :: rest, acc =>
      if x = y then solve rest acc
      else solve (substE x (.var y) rest) ((x, .var y) :: acc)
  | (.var x, t) :: rest, acc =>
      -- t is a constant or a compound
      if x ∈ t.vars then .cyclic
      else solve (substE x t rest) ((x, t) :: acc)
  | (s, .var y) :: rest, acc =>
      -- s is a constant or a compound
      if y ∈ s.vars then .cyclic
      else solve (substE y s rest) ((y, s) :: acc)
  | (.str f as, .str g bs) :: rest, acc =>
      if f = g ∧ as.length = bs.length then solve (as.zip bs ++ rest) acc else .clash
  | (s, t) :: rest, acc =>
      if constEq s t then solve rest acc else .clash
termination_by eqs => (card (varsE eqs), sizeE eqs)
decreasing_by
  · exact measure_drop _ _ _
  · rename_i h
    exact measure_elim x (.var y) _ _ rest (by simpa [Term.vars] using h)
      (by intro a ha; simp [Term.vars] at ha; simp [varsE, Term.vars, ha])
      (by simp [varsE, Term.vars])
  · rename_i h
    exact measure_elim x t _ _ rest h
      (by intro a ha; simp [varsE, ha])
      (by simp [varsE, Term.vars])
  · rename_i h
    exact measure_elim y s _ _ rest h
      (by intro a ha; simp [varsE, ha])
      (by simp [varsE, Term.vars])
  · exact measure_decomp _ _ _ _ _
  · exact measure_drop _ _ _

/-- the work list run to the end: `some σ` when every equation was solved, `none` on a
    clash or a cyclic binding. -/
def unify (eqs : Eqs) (acc : Subst) : Option Subst :=
  match solve eqs acc with
  | .ok σ => some σ
  | _ => none

/-- `=/2` with the occurs check (flag `occurs_check = true`) and
    `unify_with_occurs_check/2`: failure on a clash and on a cyclic binding. -/
def unifyOC (t1 t2 : Term) : Option Subst := unify [(t1, t2)] []

/-- flag `occurs_check = error`: a cyclic binding raises
    `representation_error(term)` (`Except.error ()`), a clash fails (`ok none`). -/
def unifyErr (t1 t2 : Term) : Except Unit (Option Subst) :=
  match solve [(t1, t2)] [] with
  | .ok σ => .ok (some σ)
  | .clash => .ok none
  | .cyclic => .error ()

/-- flag `occurs_check = false`: `true` when the implementation would create a cyclic
    binding; from this point on it works with rational trees, which this model of finite
    terms does not describe.  When `false`, `=/2` behaves as `unifyOC`. -/
def leavesFiniteTerms (t1 t2 : Term) : Bool :=
  match solve [(t1, t2)] [] with
  | .cyclic => true
  | _ => false

end Unify
end Scryer
