import ScryerModel.Model.Term
import ScryerModel.Model.Order
/-
C25 — all-solutions predicates, list level.

`bagof/3` and `setof/3` of src/lib/builtins.pl work on the list `PairedSolutions` of copies
`Witnesses-Template` that `findall/3` delivers for the goal:

    unify_variant_variables(PairedSolutions, _Dict),      -- canonical names for witness variables
    keysort(PairedSolutions, PairedSolutions1),           -- setof: sort/2
    split_by_variant(PairedSolutions1, Witnesses, Solution).

Mirrored here (clause by clause where the code is Prolog):
* `splitPrefix`  = `split_by_variant/4`, `splitGroups` = `split_by_variant/3` (the list of the
  alternatives it offers on backtracking, in order);
* `keysort` / `sortDedup` = `keysort/2` / `sort/2` (Rust, stable merge sort; modelled by the core
  `List.mergeSort`, which is a stable merge sort as well) — generic in the key and value types and in
  the comparison, instantiated with the standard order `Scryer.Order.termCompare` (C13);
* `canonPair` = the effect of `unify_variant_variables/2` on one solution: the i-th variable (in
  `term_variables/2` order) of every witness is unified with the i-th element of one shared open
  list `Dict`, i.e. it is renamed to the i-th dictionary variable, in witness and template alike;
* `termVars` = `term_variables/2`; `rightmostPower` = `rightmost_power/3`; `witnesses0`,
  `witPinned`, `witFixed` = the witness computation of `bagof/3` + `findall_with_existential/5`
  (`witPinned`: the `lists:append/3` call of the pinned code; `witFixed`: set difference, the
  repaired code, finding C25-1).

Abstracted: heap representation, the lifted heap used by findall, attributed variables.
An order that is decided by comparing two *distinct variables* is implementation defined
(variables are ordered by heap address): `varDecided` detects it and the interpreter level
(`Model/AllSolRun.lean`) treats such a sort as outside the model.
Import-free (only the shared Term and Order models).
-/
namespace Scryer.AllSol
open Scryer

/-! ### grouping, generic in keys `κ` (witness instances) and values `α` (template instances) -/
section generic
variable {κ α : Type}

/-- `@=<` on the keys of two pairs. -/
def keyLe (cmp : κ → κ → Ordering) (p q : κ × α) : Bool := cmp p.1 q.1 != .gt

/-- `keysort/2`: stable sort by key. -/
def keysort (cmp : κ → κ → Ordering) (l : List (κ × α)) : List (κ × α) :=
  l.mergeSort (keyLe cmp)

/-- `split_by_variant/4`: the solutions of the maximal prefix of `pairs` whose keys are `==` to
    `v1`, and the rest. -/
def splitPrefix (cmp : κ → κ → Ordering) (v1 : κ) : List (κ × α) → List α × List (κ × α)
  | [] => ([], [])
  | (v2, s2) :: ps =>
      if cmp v1 v2 == .eq then
        let r := splitPrefix cmp v1 ps
        (s2 :: r.1, r.2)
      else ([], (v2, s2) :: ps)

theorem splitPrefix_length (cmp : κ → κ → Ordering) (v1 : κ) (l : List (κ × α)) :
    (splitPrefix cmp v1 l).2.length ≤ l.length := by
  induction l with
  | nil => simp [splitPrefix]
  | cons p ps ih =>
    obtain ⟨v2, s2⟩ := p
    simp only [splitPrefix]
    split
    · simp only [List.length_cons]; omega
    · simp

/-- `split_by_variant/3`: the alternatives `(V, [S|Solutions0])` in the order in which they are
    offered on backtracking (first the group of the first pair, then those of `Rest`). -/
def splitGroups (cmp : κ → κ → Ordering) : List (κ × α) → List (κ × List α)
  | [] => []
  | (v, s) :: ps =>
      (v, s :: (splitPrefix cmp v ps).1) :: splitGroups cmp (splitPrefix cmp v ps).2
termination_by l => l.length
decreasing_by
  have := splitPrefix_length cmp v ps
  simp only [List.length_cons]; omega

/-- the groups `bagof/3` enumerates for the (canonicalised) solution pairs `sols`. -/
def bagofGroups (cmp : κ → κ → Ordering) (sols : List (κ × α)) : List (κ × List α) :=
  splitGroups cmp (keysort cmp sols)

/-- the standard order on `K-V` pair terms: key first, then value. -/
def pairCmp (cmpK : κ → κ → Ordering) (cmpA : α → α → Ordering) (p q : κ × α) : Ordering :=
  (cmpK p.1 q.1).then (cmpA p.2 q.2)

/-- remove an element that is `==` to its successor (the dedup step of `sort/2`). -/
def dedupAdj {β : Type} (cmp : β → β → Ordering) : List β → List β
  | [] => []
  | x :: r =>
      match r with
      | [] => [x]
      | y :: _ => if cmp x y == .eq then dedupAdj cmp r else x :: dedupAdj cmp r

/-- `sort/2`: sort by the standard order and remove duplicates. -/
def sortDedup {β : Type} (cmp : β → β → Ordering) (l : List β) : List β :=
  dedupAdj cmp (l.mergeSort (fun a b => cmp a b != .gt))

/-- the groups `setof/3` enumerates: `sort/2` on the pairs, then the same split. -/
def setofGroups (cmpK : κ → κ → Ordering) (cmpA : α → α → Ordering) (sols : List (κ × α)) :
    List (κ × List α) :=
  splitGroups cmpK (sortDedup (pairCmp cmpK cmpA) sols)

end generic

/-! ### variables of a term -/

/-- keep the first occurrence of every element. -/
def dedup : List String → List String
  | [] => []
  | x :: xs => x :: (dedup xs).filter (fun y => y != x)

mutual
/-- all variable occurrences, depth first, left to right. -/
def occVars : Term → List String
  | .var v => [v]
  | .str _ args => occVarsL args
  | _ => []
def occVarsL : List Term → List String
  | [] => []
  | t :: ts => occVars t ++ occVarsL ts
end

/-- `term_variables/2`: the variables in order of first occurrence. -/
def termVars (t : Term) : List String := dedup (occVars t)

def idxOf (v : String) : List String → Nat
  | [] => 0
  | x :: xs => if x == v then 0 else idxOf v xs + 1

mutual
/-- rename variables with `ρ`. -/
def mapVars (ρ : String → String) : Term → Term
  | .var v => .var (ρ v)
  | .str f args => .str f (mapVarsL ρ args)
  | t => t
def mapVarsL (ρ : String → String) : List Term → List Term
  | [] => []
  | t :: ts => mapVars ρ t :: mapVarsL ρ ts
end

/-- the renaming `unify_variant_variables/2` effects on a solution whose witness has the
    variables `vs`: the i-th one becomes the i-th dictionary variable `d i`. -/
def dictRen (d : Nat → String) (vs : List String) (v : String) : String :=
  if vs.contains v then d (idxOf v vs) else v

/-- one solution `Witness-Template` after `unify_variant_variables/2`. -/
def canonPair (d : Nat → String) (p : Term × Term) : Term × Term :=
  let vs := termVars p.1
  (mapVars (dictRen d vs) p.1, mapVars (dictRen d vs) p.2)

/-- two terms are variants: equal up to a renaming that is injective on the variables of the
    first (specification; not executable). -/
def Variant (a b : Term) : Prop :=
  ∃ ρ : String → String, (∀ x ∈ occVars a, ∀ y ∈ occVars a, ρ x = ρ y → x = y) ∧ mapVars ρ a = b

/-! ### which comparisons are implementation defined -/

mutual
/-- `some true`: the first difference (pre-order) between `a` and `b` is a pair of distinct
    variables; `some false`: it is something else; `none`: no difference found structurally. -/
def firstDiffVar : Term → Term → Option Bool
  | .var x, .var y => if x == y then none else some true
  | .str f as, .str g bs =>
      if as.length != bs.length || f != g then some false else firstDiffVarL as bs
  | .int a, .int b => if a == b then none else some false
  | .atom a, .atom b => if a == b then none else some false
  | _, _ => some false
def firstDiffVarL : List Term → List Term → Option Bool
  | a :: as, b :: bs =>
      match firstDiffVar a b with
      | none => firstDiffVarL as bs
      | r => r
  | _, _ => none
end

/-- the standard order of `a` and `b` depends on the order of two distinct variables. -/
def varDecided (a b : Term) : Bool := firstDiffVar a b == some true

/-- no comparison between two elements of the list depends on the order of variables. -/
def orderFixed : List Term → Bool
  | [] => true
  | x :: xs => xs.all (fun y => !varDecided x y) && orderFixed xs

/-! ### free-variable analysis (`^`) -/

/-- `loader:strip_module/3` as far as the model needs it: peel `M:` qualifications. -/
def stripModule : Term → Term
  | .str ":" [_, g] => stripModule g
  | t => t

def isVar : Term → Bool
  | .var _ => true
  | _ => false

def qual (m : Option Term) (t : Term) : Term :=
  match m with
  | some m => .str ":" [m, t]
  | none => t

/-- `rightmost_power(Term, FinalTerm, Xs)`; `rightmostPower m t` is the call on `t` (for
    `m = none`) resp. on `M:t` (for `m = some M`, the recursive call of the second branch):

    (  Term = X ^ Y   -> ( var(Y) -> FinalTerm = Y,   Xs = [X] ; Xs = [X|Xss], rightmost_power(Y, …) )
    ;  Term = M:X ^ Y -> ( var(Y) -> FinalTerm = M:Y, Xs = [X] ; Xs = [X|Xss], rightmost_power(M:Y, …) )
    ;  Xs = [], FinalTerm = Term ). -/
def rightmostPower : Option Term → Term → Term × List Term
  | none, .str "^" [x, y] =>
      if isVar y then (y, [x]) else
        let r := rightmostPower none y
        (r.1, x :: r.2)
  | none, .str ":" [m, .str "^" [x, y]] =>
      if isVar y then (.str ":" [m, y], [x]) else
        let r := rightmostPower (some m) y
        (r.1, x :: r.2)
  | some m, .str "^" [x, y] =>
      if isVar y then (.str ":" [m, y], [x]) else
        let r := rightmostPower (some m) y
        (r.1, x :: r.2)
  | m, t => (qual m t, [])

/-- `bagof/3`: `term_variables(Template, TVs), term_variables(Goal, GVs),
    term_variables(TVs+GVs, TGVs), append(TVs, Witnesses0, TGVs)`. -/
def witnesses0 (tmpl goal : Term) : List String :=
  let tvs := termVars tmpl
  (dedup (tvs ++ termVars goal)).drop tvs.length

/-- the variables of the `^` prefix: `term_variables(ExistentialVars0, ExistentialVars)`. -/
def existVars (xs : List Term) : List String := dedup (occVarsL xs)

/-- the PINNED code: `lists:append(Witnesses0, Witnesses, ExistentialVars)` on two lists of
    distinct variables. It *unifies* the i-th witness candidate with the i-th existential
    variable (the list of aliasings) and takes the remaining existential variables as
    witnesses; it fails when there are more candidates than existential variables. -/
def witPinned (w0 ev : List String) : Option (List (String × String) × List String) :=
  if w0.length ≤ ev.length then some (w0.zip ev, ev.drop w0.length) else none

/-- the REPAIRED code: the candidates that are not existentially quantified. -/
def witFixed (w0 ev : List String) : List String := w0.filter (fun v => !ev.contains v)

end Scryer.AllSol
