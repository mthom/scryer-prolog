/-!
# Codec models for C37 (hex, Base64, UTF-8)

Executable, import-free models of

* `hex_bytes/2` (`src/lib/crypto.pl`): `bytes_hex//1`, `hex_bytes//1`, `char_hexval/2`,
  `hexval_char/2`, `must_be_bytes/2` — mirrored clause by clause (`hexEncode`, `hexDecode`,
  `hexVal`, `hexDigit`, `hexBytesEnc`);
* `chars_base64/3` (`src/lib/charsio.pl` → `'$chars_base64'` → crate `base64` 0.22 engines
  `STANDARD`, `URL_SAFE`, `STANDARD_NO_PAD`, `URL_SAFE_NO_PAD`): the *specification* RFC 4648 §4/§5
  with the two documented options; the decoder is the strict one those engines implement
  (canonical padding required / no padding allowed, zero trailing bits required);
* `chars_utf8bytes/2` (`src/lib/charsio.pl`): the encoder `code_to_utf8//1`, `encode//3` is mirrored
  (`utf8EncodeCharMech`) next to the RFC 3629 table (`utf8EncodeChar`); the decoder has two
  models: the strict RFC 3629 / Unicode Table 3-7 decoder `utf8Decode` (the specification) and
  `utf8DecodeMech`, a clause-by-clause mirror of `decode_utf8//1`, `leading//2`,
  `continuation//3` under `once/1` (first solution of the DCG, exceptions of `char_code/2`).

Bytes are `Nat`s; `Bytes bs` says every element is `< 256`. Characters of the hex and Base64
texts are `Char`s, code points of `chars_utf8bytes/2` are `Nat`s (`isScalar`).
-/
namespace Scryer.Codec

/-- every element is an octet -/
def Bytes (bs : List Nat) : Prop := ∀ b ∈ bs, b < 256

/-! ## Hex (`crypto.pl`) -/

/-- the 16 facts of `hexval_char/2`, in order (lower case) -/
def lowerHex : List Char :=
  ['0','1','2','3','4','5','6','7','8','9','a','b','c','d','e','f']

/-- the second string of `char_hexval/2` -/
def upperHex : List Char :=
  ['0','1','2','3','4','5','6','7','8','9','A','B','C','D','E','F']

/-- `hexval_char(H, C)`: defined for `0..15` only. The fallback `'?'` is not a hex digit
    (`hexVal '?' = none`), so an out-of-range argument can never round-trip. -/
def hexDigit (n : Nat) : Char := lowerHex.getD n '?'

/-- `char_hexval(C, H)` with `H` unbound: `nth0(H, "0123456789abcdef", C), !` and then the
    same with the upper-case string. -/
def hexVal (c : Char) : Option Nat :=
  let i := lowerHex.idxOf c
  if i < 16 then some i
  else
    let j := upperHex.idxOf c
    if j < 16 then some j else none

/-- `bytes_hex//1`: `High #= B>>4, Low #= B /\ 0xf`, two digits per byte. -/
def hexEncode : List Nat → List Char
  | [] => []
  | b :: bs => hexDigit (b >>> 4) :: hexDigit (b &&& 0xf) :: hexEncode bs

/-- `hex_bytes//1`: two digits at a time, `Byte #= High*16 + Low`; `none` is the failure of
    `phrase/2` that `hex_bytes/2` turns into `domain_error(hex_encoding, Hs)`. -/
def hexDecode : List Char → Option (List Nat)
  | [] => some []
  | [_] => none
  | h1 :: h2 :: hs =>
    match hexVal h1, hexVal h2, hexDecode hs with
    | some hi, some lo, some bs => some ((hi * 16 + lo) :: bs)
    | _, _, _ => none

/-- first element outside `0..255` (the `member(B, Bytes), \+ between(0,255,B)` of
    `must_be_bytes/2`) -/
def firstNonByte : List Int → Option Int
  | [] => none
  | b :: bs => if 0 ≤ b ∧ b ≤ 255 then firstNonByte bs else some b

/-- `hex_bytes(Hs, Bytes)` with `Hs` unbound and `Bytes` a list of integers:
    `type_error(byte, B)` for the first non-octet, else the hex text. -/
def hexBytesEnc (bs : List Int) : Except Int (List Char) :=
  match firstNonByte bs with
  | some b => .error b
  | none => .ok (hexEncode (bs.map Int.toNat))

/-! ## Base64 (RFC 4648 §4, §5) -/

structure B64Opts where
  /-- `padding(true|false)` -/
  pad : Bool
  /-- `charset(url)` (true) or `charset(standard)` (false) -/
  url : Bool
deriving Repr, DecidableEq

def b64Std : List Char :=
  ['A','B','C','D','E','F','G','H','I','J','K','L','M','N','O','P','Q','R','S','T','U','V','W','X','Y','Z',
   'a','b','c','d','e','f','g','h','i','j','k','l','m','n','o','p','q','r','s','t','u','v','w','x','y','z',
   '0','1','2','3','4','5','6','7','8','9','+','/']

def b64Url : List Char :=
  ['A','B','C','D','E','F','G','H','I','J','K','L','M','N','O','P','Q','R','S','T','U','V','W','X','Y','Z',
   'a','b','c','d','e','f','g','h','i','j','k','l','m','n','o','p','q','r','s','t','u','v','w','x','y','z',
   '0','1','2','3','4','5','6','7','8','9','-','_']

def b64Alphabet (url : Bool) : List Char := if url then b64Url else b64Std

/-- the character of a 6-bit value (Table 1 / Table 2 of RFC 4648) -/
def b64Char (url : Bool) (n : Nat) : Char := (b64Alphabet url).getD n '='

/-- the 6-bit value of a character; `none` outside the alphabet (in particular for `'='`) -/
def b64Val (url : Bool) (c : Char) : Option Nat :=
  let i := (b64Alphabet url).idxOf c
  if i < 64 then some i else none

/-- 24-bit groups → four 6-bit values; a final group of 1 / 2 bytes gives 2 / 3 values whose
    unused low bits are zero (RFC 4648 §4). -/
def sextets : List Nat → List Nat
  | [] => []
  | [a] => [a / 4, a % 4 * 16]
  | [a, b] => [a / 4, a % 4 * 16 + b / 16, b % 16 * 4]
  | a :: b :: c :: rest =>
    a / 4 :: (a % 4 * 16 + b / 16) :: (b % 16 * 4 + c / 64) :: c % 64 :: sextets rest

/-- number of `'='` characters for `n` input bytes -/
def padCount (n : Nat) : Nat := (3 - n % 3) % 3

def b64Encode (o : B64Opts) (bs : List Nat) : List Char :=
  (sextets bs).map (b64Char o.url)
    ++ (if o.pad then List.replicate (padCount bs.length) '=' else [])

/-- inverse of `sextets`: a lone value is an error, and the unused low bits of the last value
    must be zero (`decode_allow_trailing_bits = false` in the crate's engines). -/
def unsextets : List Nat → Option (List Nat)
  | [] => some []
  | [_] => none
  | [a, b] => if b % 16 = 0 then some [a * 4 + b / 16] else none
  | [a, b, c] => if c % 4 = 0 then some [a * 4 + b / 16, b % 16 * 16 + c / 4] else none
  | a :: b :: c :: d :: rest =>
    match unsextets rest with
    | some r => some ((a * 4 + b / 16) :: (b % 16 * 16 + c / 4) :: (c % 4 * 64 + d) :: r)
    | none => none

/-- every character must be in the alphabet -/
def b64Vals (url : Bool) : List Char → Option (List Nat)
  | [] => some []
  | c :: cs =>
    match b64Val url c, b64Vals url cs with
    | some v, some vs => some (v :: vs)
    | _, _ => none

/-- number of `'='` a text with `n` alphabet characters must end in when padding is on
    (`DecodePaddingMode::RequireCanonical`); `n % 4 = 1` is never valid. -/
def padFor (n : Nat) : Option Nat :=
  match n % 4 with
  | 0 => some 0
  | 2 => some 2
  | 3 => some 1
  | _ => none

def notPad (c : Char) : Bool := c != '='

/-- the text from the first `'='` on: with padding exactly the canonical number of `'='`
    (`RequireCanonical`), without padding nothing at all (`RequireNone`: no `'='` anywhere). -/
def tailOk (pad : Bool) (bodyLen : Nat) (tail : List Char) : Bool :=
  if pad then
    match padFor bodyLen with
    | some k => tail == List.replicate k '='
    | none => false
  else tail.isEmpty

/-- strict decoder: `body` is the text up to the first `'='`, `tail` the rest. -/
def b64Decode (o : B64Opts) (cs : List Char) : Option (List Nat) :=
  let body := cs.takeWhile notPad
  let tail := cs.dropWhile notPad
  if tailOk o.pad body.length tail then
    match b64Vals o.url body with
    | some vs => unsextets vs
    | none => none
  else none

/-! ## UTF-8 (RFC 3629) -/

/-- Unicode scalar value -/
def isScalar (c : Nat) : Prop := c < 0xD800 ∨ (0xDFFF < c ∧ c < 0x110000)

instance (c : Nat) : Decidable (isScalar c) := by unfold isScalar; exact inferInstance

/-- RFC 3629 §3 table -/
def utf8EncodeChar (c : Nat) : List Nat :=
  if c < 0x80 then [c]
  else if c < 0x800 then [0xC0 + c / 64, 0x80 + c % 64]
  else if c < 0x10000 then [0xE0 + c / 4096, 0x80 + c / 64 % 64, 0x80 + c % 64]
  else [0xF0 + c / 262144, 0x80 + c / 4096 % 64, 0x80 + c / 64 % 64, 0x80 + c % 64]

def utf8Encode : List Nat → List Nat
  | [] => []
  | c :: cs => utf8EncodeChar c ++ utf8Encode cs

/-- `encode(Code, Prefix, Nb)` of charsio.pl:
    `Byte is Prefix \/ ((Code >> (6 * Nb1)) /\ 0x3F)`, then `encode(Code, 0x80, Nb1)`. -/
def encodeGo (code : Nat) (pre : Nat) : Nat → List Nat
  | 0 => []
  | nb + 1 => (pre ||| ((code >>> (6 * nb)) &&& 0x3F)) :: encodeGo code 0x80 nb

/-- `code_to_utf8//1`: four guarded clauses; a code `≥ 0x110000` makes all of them fail
    (`none`; unreachable from `char_code/2`). -/
def utf8EncodeCharMech (c : Nat) : Option (List Nat) :=
  if c < 0x80 then some [c]
  else if c < 0x800 then some (encodeGo c 0xC0 2)
  else if c < 0x10000 then some (encodeGo c 0xE0 3)
  else if c < 0x110000 then some (encodeGo c 0xF0 4)
  else none

def isCont (b : Nat) : Prop := 0x80 ≤ b ∧ b < 0xC0

instance (b : Nat) : Decidable (isCont b) := by unfold isCont; exact inferInstance

def cp2 (b0 b1 : Nat) : Nat := b0 % 32 * 64 + b1 % 64
def cp3 (b0 b1 b2 : Nat) : Nat := b0 % 16 * 4096 + b1 % 64 * 64 + b2 % 64
def cp4 (b0 b1 b2 b3 : Nat) : Nat := b0 % 8 * 262144 + b1 % 64 * 4096 + b2 % 64 * 64 + b3 % 64

/-- Strict decoder (RFC 3629 §3/§4, Unicode D92 / Table 3-7): lead byte pattern, `10xxxxxx`
    continuation bytes, shortest form only, no surrogates, nothing above U+10FFFF. -/
def utf8Decode : List Nat → Option (List Nat)
  | [] => some []
  | b0 :: bs =>
    if b0 < 0x80 then (utf8Decode bs).map (b0 :: ·)
    else if b0 < 0xC0 then none
    else if b0 < 0xE0 then
      match bs with
      | b1 :: r =>
        if isCont b1 ∧ 0x80 ≤ cp2 b0 b1 then (utf8Decode r).map (cp2 b0 b1 :: ·) else none
      | _ => none
    else if b0 < 0xF0 then
      match bs with
      | b1 :: b2 :: r =>
        if isCont b1 ∧ isCont b2 ∧ 0x800 ≤ cp3 b0 b1 b2 ∧ isScalar (cp3 b0 b1 b2) then
          (utf8Decode r).map (cp3 b0 b1 b2 :: ·)
        else none
      | _ => none
    else if b0 < 0xF8 then
      match bs with
      | b1 :: b2 :: b3 :: r =>
        if isCont b1 ∧ isCont b2 ∧ isCont b3 ∧ 0x10000 ≤ cp4 b0 b1 b2 b3
            ∧ cp4 b0 b1 b2 b3 < 0x110000 then
          (utf8Decode r).map (cp4 b0 b1 b2 b3 :: ·)
        else none
      | _ => none
    else none

/-! ### mirror of `decode_utf8//1` -/

/-- result of the continuation search for ONE character -/
inductive Step where
  /-- the DCG body failed (only when the input ends inside a multi-byte sequence) -/
  | fail
  /-- `char_code(H, Code)` threw `representation_error(character_code)` -/
  | reprErr
  /-- one character produced, remaining bytes -/
  | char (c : Nat) (rest : List Nat)
deriving Repr, DecidableEq

/-- smallest code point that needs `Nb` bytes. Only used by the `fix = true` variant below,
    which mirrors the patch proposed in `notes/findings/C37-1.md` (HEAD has no such test). -/
def minCode : Nat → Nat
  | 2 => 0x80
  | 3 => 0x800
  | 4 => 0x10000
  | _ => 0

/-- `continuation(Code, Chars, Nb)`:
    * clause 1 (`Nb = 1`): `char_code(H, Code)` — an exception for a non-scalar code — and the
      decoding continues with the remaining bytes (`min` is `0` for the code at HEAD; in the
      patched variant a code below `min`, i.e. an overlong form, gives U+FFFD instead);
    * clause 2: the next byte is `10xxxxxx`: `NextCode is (Code << 6) \/ (Byte - 0x80)`;
      if that branch fails, clause 3 is tried on backtracking;
    * clause 3: any next byte is *consumed* and U+FFFD produced;
    * no byte left: failure.
    (The recursive call `decode_utf8(T)` never fails — see `utf8DecodeMech` — so under
    `once/1` no later clause is ever tried after clause 1 or 3 has succeeded.) -/
def contStep (min code : Nat) : Nat → List Nat → Step
  | 0, _ => .fail                      -- not reachable: `leading` gives Nb ≥ 1
  | 1, bs =>
    if code < min then .char 0xFFFD bs
    else if isScalar code then .char code bs else .reprErr
  | _ + 2, [] => .fail
  | nb + 2, b :: r =>
    if b &&& 0xC0 = 0x80 then
      match contStep min ((code <<< 6) ||| (b - 0x80)) (nb + 1) r with
      | .fail => .char 0xFFFD r
      | s => s
    else .char 0xFFFD r

/-- `leading(Nb, Code)` clauses 1–4 (mutually exclusive tests on the first byte) -/
def leading (b : Nat) : Option (Nat × Nat) :=
  if b &&& 0x80 = 0 then some (1, b)
  else if b &&& 0xE0 = 0xC0 then some (2, b - 0xC0)
  else if b &&& 0xF0 = 0xE0 then some (3, b - 0xE0)
  else if b &&& 0xF8 = 0xF0 then some (4, b - 0xF0)
  else none

/-- one character: clauses 1–4 of `leading`, and on failure of the continuation (or of all
    four tests) the fifth clause `leading(1, 0xFFFD) --> [_]`.
    `fix = false` is the code at HEAD, `fix = true` the proposed patch. -/
def mechStep (fix : Bool) (b : Nat) (rest : List Nat) : Step :=
  match leading b with
  | some (nb, code) =>
    match contStep (if fix then minCode nb else 0) code nb rest with
    | .fail => .char 0xFFFD rest
    | s => s
  | none => .char 0xFFFD rest

theorem contStep_rest_le (min code nb : Nat) (bs : List Nat) (c : Nat) (r : List Nat)
    (h : contStep min code nb bs = .char c r) : r.length ≤ bs.length := by
  fun_induction contStep min code nb bs with
  -- `nb = 1`: a character, no byte consumed
  | case2 | case3 => cases h; exact Nat.le_refl _
  -- U+FFFD after one byte (clause 3, or clause 2 whose continuation failed)
  | case6 | case8 => cases h; exact Nat.le_succ _
  -- clause 2: the result of the recursive call
  | case7 _ _ _ _ _ _ ih => exact Nat.le_succ_of_le (ih h)
  -- `.fail` and `.reprErr`
  | _ => cases h

theorem mechStep_rest_le (fix : Bool) (b : Nat) (rest : List Nat) (c : Nat) (r : List Nat)
    (h : mechStep fix b rest = .char c r) : r.length ≤ rest.length := by
  unfold mechStep at h
  split at h
  · split at h
    · cases h; exact Nat.le_refl _
    · exact contStep_rest_le _ _ _ _ _ _ h
  · cases h; exact Nat.le_refl _

/-- outcome of `once(phrase(decode_utf8(Cs), Bs))` -/
inductive Dec where
  /-- the goal fails -/
  | fail
  /-- `representation_error(character_code)` -/
  | reprErr
  /-- the code points of `Cs` -/
  | ok (cs : List Nat)
deriving Repr, DecidableEq

set_option linter.unusedVariables false in
/-- `once(phrase(decode_utf8(Cs), Bs))`. (`Props/C37` proves it never fails.) -/
def utf8DecodeMech (fix : Bool) : List Nat → Dec
  | [] => .ok []
  | b :: rest =>
    match h : mechStep fix b rest with
    | .fail => .fail
    | .reprErr => .reprErr
    | .char c r =>
      match utf8DecodeMech fix r with
      | .ok cs => .ok (c :: cs)
      | d => d
termination_by bs => bs.length
decreasing_by
  have := mechStep_rest_le fix b rest c r h
  simp; omega

end Scryer.Codec
