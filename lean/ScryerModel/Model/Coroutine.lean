import ScryerModel.Model.Unify
/-
C26 — executable model of the coroutining constraints dif/2, freeze/2 and when/2.

What is modelled (specification level; the Prolog libraries src/lib/dif.pl, freeze.pl, when.pl and
the wake-up mechanism src/machine/attributed_variables.{rs,pl} are tied to it by the correspondence
run only):

* a *store* is a substitution `σ` (triangular, from `Model.Unify`; always a most general unifier of
  all equations posted so far — field `eqs` keeps those equations, nothing ever reads it: it is
  the "logical content" the theorems talk about), the list `difs` of pending disequations, the
  list `allDifs` of all disequations ever posted (again only for the theorems), the suspended
  goals `susps` and the goals already woken `fired` (the run log is `fired.map id`);
* `dif(s,t)` under the current `σ` (dif.pl: `X \== Y, ( X \= Y -> true ; suspend on the variables )`):
  *violated* when `sσ` and `tσ` are identical (failure), *entailed* when they are not unifiable
  (dropped), otherwise *pending*: stored as posted and re-examined after every later unification
  (dif.pl re-posts `dif(L,R)` from `verify_attributes/3` for the variables that were bound; a
  pending dif none of whose variables was touched is unchanged, so re-examining all of them gives
  the same store);
* `freeze(X,G)` is `when(nonvar(X),G)`; `when(Cond,G)` with `Cond` built from `nonvar/1`,
  `ground/1`, `,`/2 and `;`/2 (these are the conditions accepted by `when_condition/1` of when.pl;
  `?=/2` is NOT accepted by the pinned library: domain_error).  A goal `G` is abstract: an
  identifier (what the side channel logs) plus a body, a list of unifications and dif/2 posts
  that are executed when the goal is woken (the body may wake further goals);
* `exec agenda store`: executes the operations of the agenda from left to right.  After a
  unification every pending dif is re-examined and every suspended goal whose condition now holds
  is removed from `susps`, recorded in `fired`, and its body is put in front of the agenda (the
  implementation calls the goals collected by `verify_attributes/3` right after the unification,
  depth first).  `none` is failure.

Import-free apart from `Model.Unify` (Lean core only).
-/
namespace Scryer
namespace Coroutine
open Term Unify

/-! ### decidable identity of terms (`==/2` on finite terms) -/

mutual
def eqb : Term → Term → Bool
  | .var a, .var b => decide (a = b)
  | .int a, .int b => decide (a = b)
  | .rat a b, .rat c d => decide (a = c) && decide (b = d)
  | .flt a, .flt b => decide (a = b)
  | .atom a, .atom b => decide (a = b)
  | .str f as, .str g bs => decide (f = g) && eqbL as bs
  | _, _ => false
def eqbL : List Term → List Term → Bool
  | [], [] => true
  | a :: as, b :: bs => eqb a b && eqbL as bs
  | _, _ => false
end

/-! ### syntax of postings -/

/-- conditions of `when/2` (when.pl `when_condition/1`). -/
inductive Cond where
  | nonvar (t : Term)
  | ground (t : Term)
  | and (a b : Cond)
  | or (a b : Cond)
  deriving Repr, Inhabited

/-- what a woken goal does: unifications and dif/2 posts. -/
inductive Basic where
  | unify (s t : Term)
  | dif (s t : Term)
  deriving Repr, Inhabited

/-- a suspended goal: `when(cond, G)`; `id` is what `G` writes to the run log. -/
structure Susp where
  cond : Cond
  id : Nat
  body : List Basic
  deriving Repr, Inhabited

inductive Op where
  | basic (b : Basic)
  | susp (s : Susp)
  deriving Repr, Inhabited

/-- `freeze(X, G)`. -/
def freeze (x : String) (id : Nat) (body : List Basic) : Op :=
  .susp ⟨.nonvar (.var x), id, body⟩

def isVar : Term → Bool
  | .var _ => true
  | _ => false

/-- the condition evaluated under the bindings `σ` (when.pl calls `Condition` itself:
    `nonvar/1`, `ground/1`, conjunction, disjunction). -/
def Cond.holds (σ : Subst) : Cond → Bool
  | .nonvar t => !(isVar (applyS σ t))
  | .ground t => (applyS σ t).vars.isEmpty
  | .and a b => a.holds σ && b.holds σ
  | .or a b => a.holds σ || b.holds σ

/-! ### the store -/

structure Store where
  σ : Subst
  /-- all equations posted so far (never read by `exec`). -/
  eqs : Eqs
  /-- pending disequations, as posted. -/
  difs : List (Term × Term)
  /-- all disequations posted so far (never read by `exec`). -/
  allDifs : List (Term × Term)
  /-- suspended goals. -/
  susps : List Susp
  /-- goals that have been woken, in the order of waking. -/
  fired : List Susp
  deriving Repr, Inhabited

def Store.init : Store := ⟨[], [], [], [], [], []⟩

/-- the side-channel log: identifiers of the goals run so far. -/
def Store.log (st : Store) : List Nat := st.fired.map (·.id)

/-- `sσ == tσ`. -/
def identical (σ : Subst) (d : Term × Term) : Bool := eqb (applyS σ d.1) (applyS σ d.2)

/-- `\+ sσ \= tσ` (finite terms). -/
def unifiable (σ : Subst) (d : Term × Term) : Bool := (unifyOC (applyS σ d.1) (applyS σ d.2)).isSome

def bodyOps (s : Susp) : List Op := s.body.map Op.basic

/-! ### termination measure of `exec` -/

def opWeight : Op → Nat
  | .basic _ => 1
  | .susp s => s.body.length + 2

def agendaWeight : List Op → Nat
  | [] => 0
  | o :: r => opWeight o + agendaWeight r

def suspWeight : List Susp → Nat
  | [] => 0
  | s :: r => (s.body.length + 1) + suspWeight r

theorem agendaWeight_append (a b : List Op) :
    agendaWeight (a ++ b) = agendaWeight a + agendaWeight b := by
  induction a with
  | nil => exact (Nat.zero_add _).symm
  | cons o a ih => rw [List.cons_append, agendaWeight, agendaWeight, ih, Nat.add_assoc]

theorem agendaWeight_bodyOps (s : Susp) : agendaWeight (bodyOps s) = s.body.length := by
  unfold bodyOps
  induction s.body with
  | nil => rfl
  | cons b l ih => rw [List.map_cons, agendaWeight, ih, opWeight, List.length_cons, Nat.add_comm]

theorem weight_filter (p : Susp → Bool) (l : List Susp) :
    agendaWeight ((l.filter p).flatMap bodyOps) + suspWeight (l.filter fun s => !p s)
      ≤ suspWeight l := by
  induction l with
  | nil => exact Nat.le_refl 0
  | cons s l ih =>
      rw [List.filter_cons, List.filter_cons, suspWeight]
      cases p s
      · simp only [Bool.not_false, Bool.false_eq_true, if_true, if_false, suspWeight]
        omega
      · simp only [Bool.not_true, Bool.false_eq_true, if_true, if_false, List.flatMap_cons,
          agendaWeight_append, agendaWeight_bodyOps]
        omega

/-- the suspended goals whose condition holds under `σ` … -/
def ready (σ : Subst) (l : List Susp) : List Susp := l.filter fun sp => sp.cond.holds σ
/-- … and the others. -/
def waiting (σ : Subst) (l : List Susp) : List Susp := l.filter fun sp => !sp.cond.holds σ
/-- the bodies of the woken goals, in the order of the goals. -/
def readyOps (σ : Subst) (l : List Susp) : List Op := (ready σ l).flatMap bodyOps

theorem weight_ready (σ : Subst) (l : List Susp) :
    agendaWeight (readyOps σ l) + suspWeight (waiting σ l) ≤ suspWeight l :=
  weight_filter (fun sp => sp.cond.holds σ) l

/-! ### execution -/

/-- the store after the unification `s = t` succeeded with the additional bindings `δ`:
    new substitution, pending difs that are still unifiable, goals still waiting. -/
def afterUnify (st : Store) (s t : Term) (δ : Subst) : Store :=
  { σ := δ ++ st.σ
    eqs := st.eqs ++ [(s, t)]
    difs := st.difs.filter (unifiable (δ ++ st.σ))
    allDifs := st.allDifs
    susps := waiting (δ ++ st.σ) st.susps
    fired := st.fired ++ ready (δ ++ st.σ) st.susps }

/-- the store after posting a dif/2 that is not violated. -/
def afterDif (st : Store) (s t : Term) : Store :=
  { st with
    difs := if unifiable st.σ (s, t) then st.difs ++ [(s, t)] else st.difs
    allDifs := st.allDifs ++ [(s, t)] }

/-- Executes the agenda.  `none` = failure. -/
def exec : List Op → Store → Option Store
  | [], st => some st
  | .basic (.unify s t) :: rest, st =>
      match unifyOC (applyS st.σ s) (applyS st.σ t) with
      | none => none
      | some δ =>
          if st.difs.any (identical (δ ++ st.σ)) then none
          else
            exec (readyOps (δ ++ st.σ) st.susps ++ rest) (afterUnify st s t δ)
  | .basic (.dif s t) :: rest, st =>
      if identical st.σ (s, t) then none
      else exec rest (afterDif st s t)
  | .susp sp :: rest, st =>
      if sp.cond.holds st.σ then exec (bodyOps sp ++ rest) { st with fired := st.fired ++ [sp] }
      else exec rest { st with susps := st.susps ++ [sp] }
termination_by ag st => agendaWeight ag + suspWeight st.susps
decreasing_by
  · have := weight_ready (δ ++ st.σ) st.susps
    simp only [afterUnify, agendaWeight_append, agendaWeight, opWeight]
    omega
  · simp only [afterDif, agendaWeight, opWeight]
    omega
  · simp only [agendaWeight_append, agendaWeight_bodyOps, agendaWeight, opWeight]
    omega
  · have : ∀ (l : List Susp) (s : Susp), suspWeight (l ++ [s]) = suspWeight l + (s.body.length + 1) := by
      intro l s
      induction l with
      | nil => simp [suspWeight]
      | cons a l ih => simp [suspWeight, ih]; omega
    simp only [this, agendaWeight, opWeight]
    omega

/-- a whole history of postings run from the empty store. -/
def run (ops : List Op) : Option Store := exec ops Store.init

/-! ### what is observed at the end -/

/-- residual dif/2 goals: the pending disequations under the final bindings. -/
def Store.residualDifs (st : Store) : List (Term × Term) :=
  st.difs.map fun d => (applyS st.σ d.1, applyS st.σ d.2)

def Cond.apply (σ : Subst) : Cond → Cond
  | .nonvar t => .nonvar (applyS σ t)
  | .ground t => .ground (applyS σ t)
  | .and a b => .and (Cond.apply σ a) (Cond.apply σ b)
  | .or a b => .or (Cond.apply σ a) (Cond.apply σ b)

end Coroutine
end Scryer
