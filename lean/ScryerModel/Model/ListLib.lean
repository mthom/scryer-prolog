/-
C14 — the structural predicates of library(lists) and library(pairs) (src/lib/lists.pl,
src/lib/pairs.pl) as functions: one function per instantiation mode that terminates; a
non-deterministic mode returns the list of its solutions in Prolog's solution order.
These are specification-level functional versions (the Prolog clauses are two-liners); the
implementation is tied to them by the correspondence run.
Import-free.
-/
namespace Scryer.ListLib

variable {α β : Type}

/-- `append(+Xs, +Ys, -Zs)`. -/
def append3 (xs ys : List α) : List α := xs ++ ys

/-- `append(-Xs, -Ys, +Zs)`: all solutions, shortest `Xs` first. -/
def appendSplits : List α → List (List α × List α)
  | [] => [([], [])]
  | z :: zs => ([], z :: zs) :: (appendSplits zs).map fun p => (z :: p.1, p.2)

/-- `append(+ListOfLists, -List)`. -/
def append2 (ls : List (List α)) : List α := ls.foldr (· ++ ·) []

/-- `reverse/2`, with the accumulator of lists.pl `reverse/4`. -/
def revAcc : List α → List α → List α
  | [], acc => acc
  | x :: xs, acc => revAcc xs (x :: acc)

theorem revAcc_eq : ∀ (xs acc : List α), revAcc xs acc = xs.reverse ++ acc
  | [], _ => rfl
  | x :: xs, acc => by rw [revAcc, revAcc_eq xs, List.reverse_cons, List.append_assoc]; rfl

def reverse (xs : List α) : List α := revAcc xs []

/-- `nth0(+N, +List, -Elem)`. -/
def nth0 : Nat → List α → Option α
  | _, [] => none
  | 0, x :: _ => some x
  | n + 1, _ :: xs => nth0 n xs

theorem nth0_eq : ∀ (n : Nat) (l : List α), nth0 n l = l[n]?
  | n, [] => by rw [nth0, List.getElem?_nil]
  | 0, _ :: _ => rfl
  | n + 1, _ :: xs => nth0_eq n xs

/-- `nth1(+N, +List, -Elem)` (`N \== 0`). -/
def nth1 (n : Nat) (l : List α) : Option α := if n == 0 then none else nth0 (n - 1) l

/-- `nth0(-N, +List, -Elem)`: all solutions in order. -/
def nth0All (l : List α) : List (Nat × α) :=
  go 0 l
where go : Nat → List α → List (Nat × α)
  | _, [] => []
  | i, x :: xs => (i, x) :: go (i + 1) xs

/-- `nth0(+N, +List, -Elem, -Rest)`. -/
def nth0Rest : Nat → List α → Option (α × List α)
  | _, [] => none
  | 0, x :: xs => some (x, xs)
  | n + 1, x :: xs => (nth0Rest n xs).map fun p => (p.1, x :: p.2)

/-- `select(-X, +Xs, -Ys)`: all solutions in order. -/
def selects : List α → List (α × List α)
  | [] => []
  | x :: xs => (x, xs) :: (selects xs).map fun p => (p.1, x :: p.2)

/-- `permutation(+Xs, -Ys)`: all solutions in order (`perm/2`: `select` then recurse).
    `fuel` ≥ length. -/
def perms : Nat → List α → List (List α)
  | _, [] => [[]]
  | 0, _ => []
  | fuel + 1, l => (selects l).flatMap fun p => (perms fuel p.2).map fun q => p.1 :: q

/-- `sum_list/2` on integers. -/
def sumList (l : List Int) : Int := l.foldl (fun s x => s + x) 0

/-- `list_max/2`, `list_min/2` on integers (fail on `[]`). -/
def listMax : List Int → Option Int
  | [] => none
  | n :: ns => some (ns.foldl (fun m x => max x m) n)

def listMin : List Int → Option Int
  | [] => none
  | n :: ns => some (ns.foldl (fun m x => min x m) n)

/-- is `x` `==` to an element of `l`? -/
def memEq (cmp : α → α → Ordering) (x : α) (l : List α) : Bool := l.any fun y => cmp x y == .eq

/-- `list_to_set/2`: the first occurrence of every `==` class, in input order. -/
def listToSet (cmp : α → α → Ordering) (l : List α) : List α :=
  go l []
where go : List α → List α → List α
  | [], _ => []
  | x :: xs, seen => if memEq cmp x seen then go xs seen else x :: go xs (x :: seen)

/-- `memberchk/2` for a ground element (`==` is what unification of ground terms decides). -/
def memberchk (cmp : α → α → Ordering) (x : α) (l : List α) : Bool := memEq cmp x l

/-! ### library(pairs) -/

/-- `pairs_keys_values(+Pairs, -Keys, -Values)`. -/
def pairsKeysValues (ps : List (α × β)) : List α × List β := (ps.map (·.1), ps.map (·.2))

/-- `pairs_keys_values(-Pairs, +Keys, +Values)` (fails when the lengths differ). -/
def pairsOfKeysValues : List α → List β → Option (List (α × β))
  | [], [] => some []
  | k :: ks, v :: vs => (pairsOfKeysValues ks vs).map fun r => (k, v) :: r
  | _, _ => none

/-- `same_key(K0, Pairs, Vs, Rest)`: the values of the leading pairs whose key is `==` `K0`. -/
def sameKey (cmp : α → α → Ordering) (k0 : α) : List (α × β) → List β × List (α × β)
  | [] => ([], [])
  | (k1, v) :: kvs =>
    if cmp k0 k1 == .eq then
      let r := sameKey cmp k0 kvs
      (v :: r.1, r.2)
    else ([], (k1, v) :: kvs)

theorem sameKey_length (cmp : α → α → Ordering) (k0 : α) (l : List (α × β)) :
    (sameKey cmp k0 l).2.length ≤ l.length := by
  induction l with
  | nil => simp [sameKey]
  | cons p kvs ih =>
    obtain ⟨k1, v⟩ := p
    simp only [sameKey]
    split
    · simp only [List.length_cons]; omega
    · simp

/-- `group_pairs_by_key/2`: runs of adjacent pairs with `==` keys are joined. -/
def groupPairsByKey (cmp : α → α → Ordering) : List (α × β) → List (α × List β)
  | [] => []
  | (k, v) :: kvs =>
    (k, v :: (sameKey cmp k kvs).1) :: groupPairsByKey cmp (sameKey cmp k kvs).2
termination_by l => l.length
decreasing_by
  have := sameKey_length cmp k kvs
  simp only [List.length_cons]; omega

end Scryer.ListLib
