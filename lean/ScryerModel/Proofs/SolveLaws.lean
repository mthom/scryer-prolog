import ScryerModel.Proofs.Solve
/-!
Algebraic laws of the result combinators of `Scryer.Solve` (cut scoping, negation as
if-then-else, a conjunction whose left goal has no answer, one answer, a cut, `catch/3` after a ball,
facts in clause order, invariance under the presentation of the program).
-/
namespace Scryer.Solve

/-! ### cut never escapes an opaque construct

Each proof follows the `match`/`if` arms of its definition in order: an arm is a result whose
second field (`cut`) is the literal `false` (`⟨_, false, _, _⟩`, `Res.none`, `Res.one`, `Res.oofR`: `rfl`), a `raise`,
a construct shown before, or in `clauseLoop` the recursive call. -/

@[simp] theorem oofR_cut : Res.oofR.cut = false := rfl
@[simp] theorem none_cut : Res.none.cut = false := rfl
@[simp] theorem one_cut (s : St) : (Res.one s).cut = false := rfl
@[simp] theorem throw_cut (e : Term × Nat) : (Res.throw e).cut = false := rfl

theorem raise_cut (n : Nat) (s : St) (b : Term) : (raise n s b).cut = false := by
  unfold raise; split <;> rfl

theorem callBody_cut (rec : Term → St → Res) (n : Nat) (s : St) (g : Term) (extra : List Term) :
    (callBody rec n s g extra).cut = false := by
  unfold callBody
  split
  · exact raise_cut ..
  · split
    · rfl
    · exact raise_cut ..
    · dsimp only; split <;> rfl

theorem callGoal_cut (rec : Term → St → Res) (n : Nat) (s : St) (g : Term) (extra : List Term) :
    (callGoal rec n s g extra).cut = false := by
  unfold callGoal
  split
  · rfl
  · unfold callResolved
    split
    · exact raise_cut ..
    · exact callBody_cut ..

theorem clauseLoop_cut (rec : Term → St → Res) (n : Nat) (goal : Term) (s : St) :
    ∀ cls : List Clause, (clauseLoop rec n goal s cls).cut = false
  | [] => rfl
  | cl :: rest => by
    unfold clauseLoop
    split
    · rfl
    · exact clauseLoop_cut rec n goal s rest
    · dsimp only
      split
      · rfl
      · split
        · rfl
        · split <;> rfl

theorem userCall_cut (prog : Prog) (rec : Term → St → Res) (n : Nat) (s : St) (name : String)
    (args : List Term) : (userCall prog rec n s name args).cut = false := by
  unfold userCall
  dsimp only
  split
  · exact raise_cut ..
  · exact clauseLoop_cut ..

theorem nafRes_cut (r : Res) (s : St) : (nafRes r s).cut = false := by
  unfold nafRes
  split
  · rfl
  · split
    · rfl
    · split <;> rfl

theorem catchRes_cut (rec : Term → St → Res) (n : Nat) (s : St) (g c r : Term) :
    (catchRes rec n s g c r).cut = false := by
  unfold catchRes
  dsimp only
  split
  · rfl
  · split
    · exact callGoal_cut ..
    · split
      · rfl
      · exact callGoal_cut ..
      · split <;> rfl

theorem throwRes_cut (n : Nat) (s : St) (b : Term) : (throwRes n s b).cut = false := by
  unfold throwRes
  split
  · rfl
  · unfold throwResolved
    split
    · exact raise_cut ..
    · rfl

theorem findallRes_cut (rec : Term → St → Res) (n : Nat) (s : St) (t g l : Term) :
    (findallRes rec n s t g l).cut = false := by
  unfold findallRes
  dsimp only
  split
  · rfl
  · split
    · rfl
    · split
      · rfl
      · split
        · rfl
        · exact raise_cut ..
        · split <;> rfl

/-! ### the cut flag of a condition is ignored -/

theorem iteRes_cut_irrelevant (sols : List St) (c c' : Bool) (exc : Option (Term × Nat)) (oof : Bool)
    (runT : St → Res) (runE : Unit → Res) :
    iteRes ⟨sols, c, exc, oof⟩ runT runE = iteRes ⟨sols, c', exc, oof⟩ runT runE := rfl

theorem nafRes_cut_irrelevant (sols : List St) (c c' : Bool) (exc : Option (Term × Nat)) (oof : Bool)
    (s : St) : nafRes ⟨sols, c, exc, oof⟩ s = nafRes ⟨sols, c', exc, oof⟩ s := rfl

/-! ### negation is if-then-else; `call/1` is the empty case of `call/N` -/

theorem nafRes_eq_iteRes (r : Res) (s : St) :
    nafRes r s = iteRes r (fun _ => Res.none) (fun _ => Res.one s) := by
  rcases r with ⟨_ | _, _, _ | _, _ | _⟩ <;> rfl

theorem classify_call1 (g : Term) : classify (.str "call" [g]) = .call g [] := by
  rw [classify]; rfl

/-! ### conjunction: the left goal has no answer, one answer, a cut -/

theorem conjRes_nosols (rA : Res) (run : St → Res) (h : rA.sols = []) (ho : rA.oof = false) :
    conjRes rA run = ⟨[], rA.cut, rA.exc, false⟩ := by
  unfold conjRes
  simp [h, ho, seqLoop, Res.none]

/-- a left goal with exactly one answer and no ball: the conjunction is the right goal run from that
    answer; a cut of the left goal survives unless the right goal raises. -/
theorem conjRes_single (s : St) (c : Bool) (run : St → Res) :
    conjRes ⟨[s], c, none, false⟩ run =
      if (run s).oof then Res.oofR
      else if (run s).exc.isSome || (run s).cut then
        ⟨(run s).sols, (run s).exc.isNone, (run s).exc, false⟩
      else ⟨(run s).sols, c, none, false⟩ := by
  cases h1 : (run s).oof
  · cases h2 : ((run s).exc.isSome || (run s).cut) <;> simp [conjRes, seqLoop, h1, h2, Res.none]
  · simp [conjRes, seqLoop, h1, Res.oofR]

theorem conjRes_cut_flag (rc : Res) (run : St → Res) (hcut : rc.oof = false → rc.cut = true)
    (h : (conjRes rc run).oof = false) (he : (conjRes rc run).exc = none) :
    (conjRes rc run).cut = true := by
  unfold conjRes at h he ⊢
  cases ho : rc.oof with
  | true => simp [ho] at h
  | false =>
    simp only [ho, Bool.false_eq_true, if_false] at h he ⊢
    cases hl : (seqLoop run rc.sols).oof with
    | true => simp [hl] at h
    | false =>
      simp only [hl, Bool.false_eq_true, if_false] at h he ⊢
      split
      · rename_i hc
        simp only [if_pos hc] at he
        simp [he]
      · exact hcut ho

/-! ### `catch/3` on a goal that raised -/

theorem catchRes_caught (rec : Term → St → Res) (n : Nat) (s : St) (g c r ball : Term) (c' : Nat)
    (σ' : Subst) (ho : (callGoal rec n s g []).oof = false)
    (hx : (callGoal rec n s g []).exc = some (ball, c'))
    (hu : unify n s.σ c ball = some (some σ')) :
    catchRes rec n s g c r =
      (let rR := callGoal rec n ⟨σ', c'⟩ r []
       if rR.oof then Res.oofR
       else ⟨(callGoal rec n s g []).sols ++ rR.sols, false, rR.exc, false⟩) := by
  simp [catchRes, ho, hx, hu]

theorem catchRes_passed (rec : Term → St → Res) (n : Nat) (s : St) (g c r ball : Term)
    (c' : Nat) (ho : (callGoal rec n s g []).oof = false)
    (hx : (callGoal rec n s g []).exc = some (ball, c'))
    (hu : unify n s.σ c ball = some none) :
    catchRes rec n s g c r = callGoal rec n s g [] := by
  simp [catchRes, ho, hx, hu]

theorem callGoal_true (rec : Term → St → Res) (n : Nat) (s : St)
    (ht : rec (.atom "true") s = Res.one s) : callGoal rec (n + 1) s (.atom "true") [] = Res.one s := by
  simp [callGoal, resolve, callResolved, callBody, addArgs, bodyOk, ht, Res.one]

/-- `catch/3` with recovery `true` around a goal that only raised: one answer, the recovered state. -/
theorem catchRes_true_once (rec : Term → St → Res) (n : Nat) (s : St) (g c ball : Term)
    (c' : Nat) (σ' : Subst)
    (ho : (callGoal rec (n + 1) s g []).oof = false)
    (hx : (callGoal rec (n + 1) s g []).exc = some (ball, c'))
    (hs : (callGoal rec (n + 1) s g []).sols = [])
    (hu : unify (n + 1) s.σ c ball = some (some σ'))
    (ht : rec (.atom "true") ⟨σ', c'⟩ = Res.one ⟨σ', c'⟩) :
    catchRes rec (n + 1) s g c (.atom "true") = Res.one ⟨σ', c'⟩ := by
  rw [catchRes_caught _ _ s g c _ ball c' σ' ho hx hu, callGoal_true rec n _ ht, hs]
  rfl

/-! ### facts: the answers are the unifying facts, in textual order, each once -/

/-- the specification: for each fact whose (renamed) head unifies with the goal, in order, the
    extended state. `none` if some unification is outside the model (fuel / cyclic). -/
def factAnswers (n : Nat) (goal : Term) (s : St) : List Clause → Option (List St)
  | [] => some []
  | cl :: rest =>
      match unify n s.σ goal (rename (sfx s.ctr) cl.head) with
      | .none => .none
      | some .none => factAnswers n goal s rest
      | some (some σ') =>
        match factAnswers n goal s rest with
        | .none => .none
        | some l => some (⟨σ', s.ctr + 1⟩ :: l)

theorem rename_true (x : String) : rename x (.atom "true") = .atom "true" := by
  simp [rename]

/-- facts only: `clauseLoop` is `factAnswers`, for any interpreter that runs `true` to one answer. -/
theorem clauseLoop_facts {rec : Term → St → Res} (hrec : ∀ s, rec (.atom "true") s = Res.one s)
    (n : Nat) (goal : Term) (s : St) : ∀ cls : List Clause, (∀ cl ∈ cls, cl.body = .atom "true") →
      clauseLoop rec n goal s cls =
        match factAnswers n goal s cls with
        | none => Res.oofR
        | some l => ⟨l, false, .none, false⟩
  | [], _ => rfl
  | cl :: rest, hb => by
    have ih := clauseLoop_facts hrec n goal s rest fun c hc => hb c (List.mem_cons_of_mem _ hc)
    unfold clauseLoop factAnswers
    cases unify n s.σ goal (rename (sfx s.ctr) cl.head) with
    | none => rfl
    | some o =>
      cases o with
      | none => exact ih
      | some σ' =>
        dsimp only
        rw [hb cl List.mem_cons_self, rename_true, hrec, ih]
        cases factAnswers n goal s rest <;> rfl

/-! ### only the per-predicate clause sequences matter -/

/-- two programs present the same predicates: for every name/arity the clauses are the same, in
    the same order (clauses of different predicates may be interleaved differently, e.g. a
    predicate consulted in discontiguous pieces). -/
def SamePreds (p q : Prog) : Prop :=
  ∀ name arity, p.filter (clauseMatches name arity) = q.filter (clauseMatches name arity)

theorem step_samePreds {p q : Prog} (h : SamePreds p q) (rec : Term → St → Res) (n : Nat) (g : Term)
    (s : St) : step p rec n g s = step q rec n g s := by
  simp only [step, userCall, h _ _]

theorem samePreds_swap (x a b : Prog)
    (h : ∀ name arity, a.filter (clauseMatches name arity) = [] ∨ b.filter (clauseMatches name arity) = []) :
    SamePreds (x ++ (a ++ b)) (x ++ (b ++ a)) := by
  intro name arity
  simp only [List.filter_append]
  rcases h name arity with h1 | h1 <;> simp [h1]

end Scryer.Solve
