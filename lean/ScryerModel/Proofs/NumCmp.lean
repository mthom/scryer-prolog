import ScryerModel.Model.NumCmp
import ScryerModel.Proofs.FracCompare
import Mathlib.Algebra.Order.Field.Basic
import Mathlib.Data.Rat.Cast.Order
import Mathlib.Tactic.Linarith
import Mathlib.Tactic.Ring
/-!
Lemmas for C04: the comparison of extended values is the order of ℚ on finite values and a total
preorder on all well-formed values (lexicographic on kind, then value); swapping the arguments of
`cmpWith` swaps the ordering.
-/
namespace Scryer.F64

theorem fracCmp_swap (n1 n2 : Int) (d1 d2 : Nat) :
    fracCmp n1 d1 n2 d2 = (fracCmp n2 d2 n1 d1).swap := by
  unfold fracCmp; exact Std.OrientedOrd.eq_swap

theorem fracCmp_eq_compare (n1 n2 : Int) (d1 d2 : Nat) (h1 : 0 < d1) (h2 : 0 < d2) :
    fracCmp n1 d1 n2 d2 = compare ((n1:ℚ)/d1) ((n2:ℚ)/d2) :=
  compare_cross_mul n1 n2 d1 d2 h1 h2

theorem fracCmp_int (a b : Int) : fracCmp a 1 b 1 = compare a b := by
  simp [fracCmp]

theorem XVal.cmp_swap (x y : XVal) : XVal.cmp x y = (XVal.cmp y x).swap := by
  cases x <;> cases y <;> simp [XVal.cmp, Ordering.swap]
  exact fracCmp_swap _ _ _ _

theorem cmp_swap (a b : F64) : cmp a b = (cmp b a).swap := XVal.cmp_swap _ _

/-- well-formed extended value: positive denominator. -/
def XVal.wf : XVal → Prop
  | .fin _ d => 0 < d
  | _ => True

/-- the rational value of a finite extended value (0 otherwise). -/
def XVal.toQ : XVal → ℚ
  | .fin n d => (n : ℚ) / d
  | _ => 0

def XVal.isFin : XVal → Bool
  | .fin _ _ => true
  | _ => false

theorem dyadic_wf (neg : Bool) (m : Nat) (s : Int) : (dyadic neg m s).wf := by
  by_cases hs : s ≥ 0 <;> simp [dyadic, hs, XVal.wf]

theorem toX_wf (f : F64) : (toX f).wf := by
  unfold toX
  split
  -- exponent field 2047: a NaN or an infinity
  · split
    · trivial
    · split <;> trivial
  · exact dyadic_wf _ _ _

/-- rank of the four kinds. -/
def XVal.kind : XVal → Int
  | .negInf => -1 | .fin _ _ => 0 | .posInf => 1 | .nan => 2

theorem XVal.cmp_fin (x y : XVal) (hx : x.wf) (hy : y.wf) (fx : x.isFin) (fy : y.isFin) :
    XVal.cmp x y = compare x.toQ y.toQ := by
  -- `fx`, `fy` refute every pair but fin/fin
  cases x <;> cases y <;> simp_all [XVal.isFin]
  exact fracCmp_eq_compare _ _ _ _ hx hy

theorem XVal.cmp_kind (x y : XVal) (h : x.kind ≠ y.kind) :
    XVal.cmp x y = compare x.kind y.kind := by
  -- every pair but fin/fin computes (the three equal non-finite pairs give `.eq` on both sides); fin/fin has
  -- equal kinds, against `h`
  cases x <;> cases y <;> first | rfl | exact absurd rfl h

theorem XVal.cmp_same_kind_nonfin (x y : XVal) (h : x.kind = y.kind) (hx : x.isFin = false) :
    XVal.cmp x y = .eq := by
  -- the three equal non-finite pairs compute; `x` finite contradicts `hx`, the other pairs `h`
  cases x <;> cases y <;> first | rfl | exact Bool.noConfusion hx | (simp only [XVal.kind] at h; omega)

theorem XVal.cmp_eq_lex (x y : XVal) (hx : x.wf) (hy : y.wf) :
    XVal.cmp x y = (compare x.kind y.kind).then (compare x.toQ y.toQ) := by
  -- fin/fin is the one pair that does not compute
  cases x <;> cases y <;> first | rfl | exact fracCmp_eq_compare _ _ _ _ hx hy

theorem XVal.cmp_le_trans (x y z : XVal) (hx : x.wf) (hy : y.wf) (hz : z.wf) :
    XVal.cmp x y ≠ .gt → XVal.cmp y z ≠ .gt → XVal.cmp x z ≠ .gt := by
  rw [cmp_eq_lex x y hx hy, cmp_eq_lex y z hy hz, cmp_eq_lex x z hx hz]
  simp only [ne_eq, Ordering.then_eq_gt, compare_gt_iff_gt, compare_eq_iff_eq, not_or, not_and, not_lt]
  rintro ⟨h1, h1'⟩ ⟨h2, h2'⟩
  refine ⟨le_trans h1 h2, fun e => ?_⟩
  have e1 : x.kind = y.kind := by omega
  exact le_trans (h1' e1) (h2' (by omega))

theorem XVal.cmp_eq_congr (x y z : XVal) (hx : x.wf) (hy : y.wf) (hz : z.wf) :
    XVal.cmp x y = .eq → XVal.cmp x z = XVal.cmp y z := by
  rw [cmp_eq_lex x y hx hy, cmp_eq_lex x z hx hz, cmp_eq_lex y z hy hz, Ordering.then_eq_eq,
    compare_eq_iff_eq, compare_eq_iff_eq]
  rintro ⟨hk, hq⟩; rw [hk, hq]

theorem XVal.cmp_refl (x : XVal) : XVal.cmp x x = .eq := by
  cases x <;> simp [XVal.cmp, fracCmp]

/-- the rational value of a finite double. -/
def toQ (f : F64) : ℚ := (toX f).toQ

theorem toX_isFin (f : F64) (h : isFinite f = true) : (toX f).isFin = true := by
  have h' : expField f ≠ 2047 := by simpa [isFinite] using h
  unfold toX
  rw [if_neg h']
  simp only [dyadic]
  split <;> rfl

theorem toX_nan (f : F64) : toX f = .nan ↔ isNaN f = true := by
  unfold toX isNaN
  by_cases h : expField f = 2047
  · by_cases hm : mant f = 0
    · simp [h, hm]; split <;> simp
    · simp [h, hm]
  · simp only [h, if_false]
    constructor
    · intro hh; simp only [dyadic] at hh; split at hh <;> simp at hh
    · intro hh; simp at hh; exact absurd hh.1 h

theorem cmp_le_trans (a b c : F64) : cmp a b ≠ .gt → cmp b c ≠ .gt → cmp a c ≠ .gt :=
  XVal.cmp_le_trans _ _ _ (toX_wf a) (toX_wf b) (toX_wf c)

theorem cmp_eq_congr (a b c : F64) : cmp a b = .eq → cmp a c = cmp b c :=
  XVal.cmp_eq_congr _ _ _ (toX_wf a) (toX_wf b) (toX_wf c)

/-- `OrderedFloat`: a NaN equals every NaN and is above everything else. -/
theorem cmp_nan {x : F64} (hx : isNaN x = true) (y : F64) :
    cmp x y = if isNaN y then .eq else .gt := by
  unfold cmp
  rw [(toX_nan x).mpr hx]
  cases h : toX y <;> simp [← toX_nan, h, XVal.cmp]

theorem eq_iff_cmp (a b : F64) : F64.eq a b = (cmp a b == .eq) := by
  unfold F64.eq
  by_cases ha : isNaN a = true
  · rw [if_pos ha, cmp_nan ha]; cases isNaN b <;> rfl
  · rw [if_neg ha]
    by_cases hb : isNaN b = true
    · rw [cmp_swap, cmp_nan hb, hb, if_neg ha]; rfl
    · rw [Bool.not_eq_true] at hb; rw [hb]; rfl

end Scryer.F64

namespace Scryer.NumCmp
open Scryer.F64

/-- exact rational value of an integer / rational (for a float: its rational value if finite). -/
def valQ : Number → ℚ
  | .fix v => v
  | .big v => v
  | .rat n d => (n : ℚ) / d
  | .flt f => toQ f

theorem valX_wf (a : Number) (h : a.wf) : (valX a).wf := by
  -- a rational keeps its denominator, an integer has 1, a float is `toX_wf`
  cases a <;> first | exact h | exact Nat.one_pos | exact toX_wf _

theorem valX_isFin (a : Number) (fa : a.isFloat = false) : (valX a).isFin = true := by
  cases a <;> first | rfl | exact Bool.noConfusion fa

theorem valX_toQ (a : Number) : (valX a).toQ = valQ a := by
  cases a <;> first | rfl | simp [valX, XVal.toQ, valQ]

theorem accepts_le (o : Ordering) : CmpOp.le.accepts o = true ↔ o ≠ .gt := by cases o <;> decide

theorem accepts_eq (o : Ordering) : CmpOp.eq.accepts o = true ↔ o = .eq := by cases o <;> decide

theorem cmpWith_swap (c : Conv) (a b : Number) : cmpWith c a b = (cmpWith c b a).swap := by
  cases a <;> cases b
  case fix.fix | fix.big | big.fix | big.big => exact Std.OrientedOrd.eq_swap
  case fix.flt | flt.fix | big.flt | flt.big | rat.flt | flt.rat | flt.flt => exact F64.cmp_swap _ _
  -- a rational against an integer or a rational
  all_goals exact fracCmp_swap _ _ _ _

end Scryer.NumCmp
