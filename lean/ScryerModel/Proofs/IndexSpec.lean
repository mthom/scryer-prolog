import ScryerModel.Proofs.IndexDyn
/-!
The specification side of C06 for dynamic predicates: a *reference database* (the list of live
clauses in textual order, with no index at all) updated by assertz/asserta/retract, and the proof
that the indexed predicate tracks it.
-/
namespace Scryer.Index

/-- the clause database as the standard describes it: live clauses `(identifier, head)` in textual
order, and the identifier the next asserted clause gets. -/
structure RefDb where
  clauses : List (Nat × Head)
  next : Nat
  deriving Repr

/-- ISO 8.9: `assertz` adds at the end, `asserta` at the front, `retract` removes the clause. -/
def RefDb.apply (db : RefDb) : Op → RefDb
  | .assertz h => { clauses := db.clauses ++ [(db.next, h)], next := db.next + 1 }
  | .asserta h => { clauses := (db.next, h) :: db.clauses, next := db.next + 1 }
  | .retract id => { db with clauses := db.clauses.filter (fun p => p.1 ≠ id) }

/-- the clauses of the reference database whose head could unify with the call, in order: the
property's own oracle. -/
def RefDb.matching (db : RefDb) (call : Call) : List (Nat × Head) :=
  db.clauses.filter (fun p => compatHead p.2 call)

/-- the live clauses of an indexed predicate with their heads. -/
def Index.liveClauses (idx : Index) : List (Nat × Head) := idx.live.map (fun id => (id, idx.hd id))

/-- the indexed predicate and the reference database hold the same clauses. -/
structure Tracks (idx : Index) (db : RefDb) : Prop where
  next : idx.next = db.next
  clauses : idx.liveClauses = db.clauses

theorem live_lt {idx : Index} (inv : Inv idx) (id : Nat) (h : id ∈ idx.live) : id < idx.next := by
  unfold Index.live at h
  exact inv.order_lt id (List.mem_filter.1 h).1

theorem map_hd_old {idx : Index} (inv : Inv idx) (hd' : Nat → Head)
    (hh : ∀ id, id ≠ idx.next → hd' id = idx.hd id) :
    idx.live.map (fun id => (id, hd' id)) = idx.liveClauses :=
  List.map_congr_left fun id hid => by rw [hh id (Nat.ne_of_lt (live_lt inv id hid))]

theorem liveClauses_addBack {idx : Index} (inv : Inv idx) (h : Head) :
    (addBack idx h).liveClauses = idx.liveClauses ++ [(idx.next, h)] := by
  rw [Index.liveClauses, live_addBack inv h, List.map_append, List.map_singleton, hd_addBack',
    if_pos rfl, map_hd_old inv _ fun id hne => by rw [hd_addBack', if_neg hne]]

theorem liveClauses_addFront {idx : Index} (inv : Inv idx) (h : Head) :
    (addFront idx h).liveClauses = (idx.next, h) :: idx.liveClauses := by
  rw [Index.liveClauses, live_addFront inv h, List.map_cons, hd_addFront', if_pos rfl,
    map_hd_old inv _ fun id hne => by rw [hd_addFront', if_neg hne]]

theorem liveClauses_remove {idx : Index} (inv : Inv idx) (id : Nat) :
    (remove idx id).liveClauses = idx.liveClauses.filter (fun p => p.1 ≠ id) := by
  rw [Index.liveClauses, live_remove inv id, Index.liveClauses, List.filter_map]
  exact List.map_congr_left fun i _ => by rw [hd_remove]

theorem Tracks.apply {idx : Index} {db : RefDb} (inv : Inv idx) (t : Tracks idx db) (op : Op) :
    Tracks (op.apply idx) (db.apply op) := by
  cases op with
  | assertz h =>
    exact ⟨(next_addBack idx h).trans (congrArg (· + 1) t.next),
      (liveClauses_addBack inv h).trans (by rw [t.clauses, t.next]; rfl)⟩
  | asserta h =>
    exact ⟨(next_addFront idx h).trans (congrArg (· + 1) t.next),
      (liveClauses_addFront inv h).trans (by rw [t.clauses, t.next]; rfl)⟩
  | retract id =>
    exact ⟨(next_remove idx id).trans t.next,
      (liveClauses_remove inv id).trans (by rw [t.clauses]; rfl)⟩

theorem tracks_foldl (ops : List Op) (idx : Index) (db : RefDb) (inv : Inv idx) (t : Tracks idx db) :
    Tracks (ops.foldl Op.apply idx) (ops.foldl RefDb.apply db) := by
  induction ops generalizing idx db with
  | nil => exact t
  | cons op r ih => exact ih _ _ (inv.apply op) (t.apply inv op)

/-- **the answers of an indexed predicate that satisfies the invariant are the reference answers**:
select by the index, then unify heads = filter the reference database by head unification. -/
theorem Tracks.answers {idx : Index} {db : RefDb} (inv : Inv idx) (t : Tracks idx db) (call : Call)
    (wf : CallWF call) :
    ((select idx call).filter (fun id => compatHead (idx.hd id) call)).map (fun id => (id, idx.hd id))
      = db.matching call := by
  rw [inv.select_exact call wf, RefDb.matching, ← t.clauses, Index.liveClauses, List.filter_map]
  rfl

end Scryer.Index
