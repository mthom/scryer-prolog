import ScryerModel.Model.Trail
/-
Lemmas for Props/C11.lean: unwinding commutes with truncation (`undo1_trunc`: it never looks at cells
at or above the truncation point, which is what makes conditional trailing safe) and with a
non-trailed `bb_put` (`undo1_override`), both through `undoTo_comm`; the machine invariant "for every
choice point, unwinding and truncating gives the snapshot taken when it was created" (`Inv`) is
preserved by every operation (`step_inv`; the operations that leave the choice points alone share the
shape `FlatTo` and are treated together in `flat_step`); `fail_keeps` (through `run_keeps`) is what
the main theorem of Props/C11.lean instantiates.
-/
namespace Scryer.Trail

/-! ### unwinding -/

theorem undoTo_cons {n : Nat} {e : TE} {t : List TE} {s : Store} (h : n ≤ t.length) :
    undoTo n (e :: t) s = undoTo n t (undo1 s e) := if_pos h

theorem undoTo_cons_gt {n : Nat} {e : TE} {t : List TE} {s : Store} (h : ¬ n ≤ t.length) :
    undoTo n (e :: t) s = s := if_neg h

theorem dropTo_cons {n : Nat} {e : TE} {t : List TE} (h : n ≤ t.length) :
    dropTo n (e :: t) = dropTo n t := if_pos h

theorem dropTo_cons_gt {n : Nat} {e : TE} {t : List TE} (h : ¬ n ≤ t.length) :
    dropTo n (e :: t) = e :: t := if_neg h

theorem undoTo_of_length_le (n : Nat) (t : List TE) (s : Store) (h : t.length ≤ n) :
    undoTo n t s = s := by
  cases t with
  | nil => rfl
  | cons e rest => exact undoTo_cons_gt (Nat.not_le.2 h)

theorem dropTo_eq_drop (n : Nat) (t : List TE) : dropTo n t = t.drop (t.length - n) := by
  induction t with
  | nil => exact List.drop_nil.symm
  | cons e rest ih =>
    by_cases h : n ≤ rest.length
    · rw [dropTo_cons h, ih, List.length_cons, Nat.succ_sub h]; rfl
    · rw [dropTo_cons_gt h, List.length_cons, Nat.sub_eq_zero_of_le (Nat.not_le.1 h)]; rfl

theorem dropTo_length (n : Nat) (t : List TE) (h : n ≤ t.length) : (dropTo n t).length = n := by
  rw [dropTo_eq_drop, List.length_drop, Nat.sub_sub_self h]

theorem dropTo_length_le (n : Nat) : ∀ (t : List TE), (dropTo n t).length ≤ t.length := by
  intro t
  rw [dropTo_eq_drop, List.length_drop]; exact Nat.sub_le _ _

theorem dropTo_append (n : Nat) (pre t : List TE) (h : n ≤ t.length) :
    dropTo n (pre ++ t) = dropTo n t := by
  induction pre with
  | nil => rfl
  | cons e pre ih =>
    exact (dropTo_cons (Nat.le_trans h (List.length_append ▸ Nat.le_add_left _ _))).trans ih

theorem dropTo_dropTo (n k : Nat) (h : n ≤ k) (t : List TE) : dropTo n (dropTo k t) = dropTo n t := by
  induction t with
  | nil => rfl
  | cons e rest ih =>
    by_cases h1 : k ≤ rest.length
    · rw [dropTo_cons h1, dropTo_cons (Nat.le_trans h h1)]; exact ih
    · rw [dropTo_cons_gt h1]

theorem dropTo_self (t : List TE) : dropTo t.length t = t := by
  cases t with
  | nil => rfl
  | cons e rest => exact dropTo_cons_gt (Nat.lt_irrefl _)

theorem undo1_lengths (s : Store) (e : TE) :
    (undo1 s e).heap.length = s.heap.length ∧ (undo1 s e).stack.length = s.stack.length := by
  cases e with
  | heapVar h => exact ⟨List.length_set, rfl⟩
  | stackVar h => exact ⟨rfl, List.length_set⟩
  | attrVar h => exact ⟨List.length_set, rfl⟩
  | link h old => exact ⟨List.length_set, rfl⟩
  | bbEntry k => exact ⟨rfl, rfl⟩
  | bbOffset k old => simp only [undo1]; split <;> exact ⟨rfl, rfl⟩

theorem undoTo_lengths (n : Nat) (t : List TE) (s : Store) :
    (undoTo n t s).heap.length = s.heap.length ∧ (undoTo n t s).stack.length = s.stack.length := by
  induction t generalizing s with
  | nil => exact ⟨rfl, rfl⟩
  | cons e rest ih =>
    by_cases h : n ≤ rest.length
    · rw [undoTo_cons h]
      have h1 := undo1_lengths s e
      exact ⟨(ih _).1.trans h1.1, (ih _).2.trans h1.2⟩
    · rw [undoTo_cons_gt h]; exact ⟨rfl, rfl⟩

theorem undoTo_split (n2 n1 : Nat) (h : n2 ≤ n1) (t : List TE) (s : Store) :
    undoTo n2 t s = undoTo n2 (dropTo n1 t) (undoTo n1 t s) := by
  induction t generalizing s with
  | nil => rfl
  | cons e rest ih =>
    by_cases h1 : n1 ≤ rest.length
    · rw [undoTo_cons (Nat.le_trans h h1), undoTo_cons h1, dropTo_cons h1]
      exact ih _
    · rw [undoTo_cons_gt h1, dropTo_cons_gt h1]

/-- whatever commutes with undoing one entry commutes with unwinding (`undo1_trunc`, `undo1_override`). -/
theorem undoTo_comm {f : Store → Store} (hf : ∀ s e, undo1 (f s) e = f (undo1 s e)) (n : Nat) (t : List TE)
    (s : Store) : undoTo n t (f s) = f (undoTo n t s) := by
  induction t generalizing s with
  | nil => rfl
  | cons e rest ih =>
    by_cases h : n ≤ rest.length
    · rw [undoTo_cons h, undoTo_cons h, hf]
      exact ih _
    · rw [undoTo_cons_gt h, undoTo_cons_gt h]

/-! ### truncation commutes with unwinding -/

/-- `a` and `b` have the same heap below `h`, the same stack below `t` and the same blackboard:
`trunc · h t` cannot tell them apart. -/
def SameBelow (h t : Nat) (a b : Store) : Prop :=
  a.heap.take h = b.heap.take h ∧ a.stack.take t = b.stack.take t ∧ a.bb = b.bb

theorem SameBelow.refl (h t : Nat) (a : Store) : SameBelow h t a a := ⟨rfl, rfl, rfl⟩

theorem SameBelow.mono {h t h' t' : Nat} {a b : Store} (hs : SameBelow h t a b) (hh : h' ≤ h) (ht : t' ≤ t) :
    SameBelow h' t' a b := by
  obtain ⟨h1, h2, h3⟩ := hs
  refine ⟨?_, ?_, h3⟩
  · have := congrArg (List.take h') h1
    rwa [List.take_take, List.take_take, Nat.min_eq_left hh] at this
  · have := congrArg (List.take t') h2
    rwa [List.take_take, List.take_take, Nat.min_eq_left ht] at this

theorem trunc_of_same {h t : Nat} {a b : Store} (hs : SameBelow h t a b) : trunc a h t = trunc b h t := by
  obtain ⟨h1, h2, h3⟩ := hs
  simp only [trunc, h1, h2, h3]

/-- unwinding below the truncation point never looks above it (`List.take_set`). -/
theorem undo1_trunc (h t : Nat) (s : Store) (e : TE) : undo1 (trunc s h t) e = trunc (undo1 s e) h t := by
  cases e with
  | bbEntry k => rfl
  | bbOffset k old =>
    show (if (s.bb k).loc.isSome then _ else _) = trunc (if _ then _ else _) h t
    split <;> rfl
  | _ => simp only [undo1, trunc, List.take_set]

theorem trunc_trunc (s : Store) {h t h' t' : Nat} (hh : h' ≤ h) (ht : t' ≤ t) :
    trunc (trunc s h t) h' t' = trunc s h' t' := by
  simp only [trunc, List.take_take, Nat.min_eq_left hh, Nat.min_eq_left ht]

theorem restore_restore {m : M} {cp c : CP} {hb : Nat} {cps : List CP}
    (h1 : c.h ≤ cp.h) (h2 : c.tr ≤ cp.tr) (h3 : c.sTop ≤ cp.sTop) :
    restore ⟨restore m cp, hb, dropTo cp.tr m.trail, cps⟩ c = restore m c := by
  simp only [restore]
  rw [undoTo_comm (undo1_trunc _ _), trunc_trunc _ h1 h3, ← undoTo_split c.tr cp.tr h2]

theorem restore_lengths {m : M} {cp : CP} (h1 : cp.h ≤ m.st.heap.length)
    (h2 : cp.sTop ≤ m.st.stack.length) :
    (restore m cp).heap.length = cp.h ∧ (restore m cp).stack.length = cp.sTop := by
  have hl := undoTo_lengths cp.tr m.trail m.st
  simp only [restore, trunc, List.length_take, hl.1, hl.2]
  exact ⟨Nat.min_eq_left h1, Nat.min_eq_left h2⟩

/-! ### a non-trailed `bb_put` commutes with unwinding (repaired blackboard rule) -/

theorem setBB_same (bb : Nat → BB) (k : Nat) (e : BB) : setBB bb k e k = e := if_pos rfl

theorem setBB_ne (bb : Nat → BB) {k j : Nat} (e : BB) (h : j ≠ k) : setBB bb k e j = bb j := if_neg h

theorem setBB_self (bb : Nat → BB) (k : Nat) : setBB bb k (bb k) = bb := by
  funext j; simp only [setBB]; split
  · next h => rw [h]
  · rfl

theorem setBB_setBB (bb : Nat → BB) (k : Nat) (a b : BB) : setBB (setBB bb k a) k b = setBB bb k b := by
  funext j; simp only [setBB]; split <;> rfl

theorem setBB_comm (bb : Nat → BB) (k j : Nat) (a b : BB) (h : j ≠ k) :
    setBB (setBB bb k a) j b = setBB (setBB bb j b) k a := by
  funext i; simp only [setBB]
  by_cases h1 : i = j
  · subst h1; simp [h]
  · by_cases h2 : i = k
    · subst h2; simp [h1]
    · simp [h1, h2]

theorem undo1_override (k v : Nat) (s : Store) (e : TE) :
    undo1 (overrideBB s k v) e = overrideBB (undo1 s e) k v := by
  cases e with
  | heapVar x => rfl
  | stackVar x => rfl
  | attrVar x => rfl
  | link x old => rfl
  | bbEntry j =>
    by_cases hj : j = k
    · subst hj; simp only [undo1, overrideBB, setBB_same, setBB_setBB]
    · simp only [undo1, overrideBB, setBB_ne _ _ hj, setBB_comm _ k j _ _ hj]
  | bbOffset j old =>
    by_cases hj : j = k
    · subst hj
      simp only [undo1, overrideBB, setBB_same, Option.isSome_none, Bool.false_eq_true, if_false]
      split
      · simp only [setBB_setBB]
      · rfl
    · simp only [undo1, overrideBB, setBB_ne _ _ hj]
      split
      · simp only [setBB_comm _ k j _ _ hj]
      · rfl

theorem trunc_override (s : Store) (k v h t : Nat) :
    trunc (overrideBB s k v) h t = overrideBB (trunc s h t) k v := rfl

/-! ### the invariant -/

/-- choice points are nested: saved heap top, trail top and stack address decrease with age and are
    within the current extents. -/
def WF (hlen trlen slen : Nat) : List CP → Prop
  | [] => True
  | cp :: rest => cp.h ≤ hlen ∧ cp.tr ≤ trlen ∧ cp.sTop ≤ slen ∧ WF cp.h cp.tr cp.sTop rest

theorem WF.mono {hlen trlen slen hlen' trlen' slen' : Nat} {cps : List CP}
    (h : WF hlen trlen slen cps) (h1 : hlen ≤ hlen') (h2 : trlen ≤ trlen') (h3 : slen ≤ slen') :
    WF hlen' trlen' slen' cps := by
  cases cps with
  | nil => trivial
  | cons cp rest =>
    exact ⟨Nat.le_trans h.1 h1, Nat.le_trans h.2.1 h2, Nat.le_trans h.2.2.1 h3, h.2.2.2⟩

theorem WF.tail {hlen trlen slen : Nat} {c : CP} {rest : List CP} (h : WF hlen trlen slen (c :: rest)) :
    WF hlen trlen slen rest :=
  h.2.2.2.mono h.1 h.2.1 h.2.2.1

theorem WF.mem {hlen trlen slen : Nat} {cps : List CP} (h : WF hlen trlen slen cps) :
    ∀ cp ∈ cps, cp.h ≤ hlen ∧ cp.tr ≤ trlen ∧ cp.sTop ≤ slen := by
  induction cps with
  | nil => intro _ hm; cases hm
  | cons c rest ih =>
    intro cp hm
    rcases List.mem_cons.mp hm with rfl | hr
    · exact ⟨h.1, h.2.1, h.2.2.1⟩
    · exact ih h.tail cp hr

theorem WF.drop {hlen trlen slen : Nat} (k : Nat) {cps : List CP} (h : WF hlen trlen slen cps) :
    WF hlen trlen slen (cps.drop k) := by
  induction k generalizing cps with
  | zero => exact h
  | succ k ih =>
    cases cps with
    | nil => trivial
    | cons c rest => exact ih h.tail

/-- `f` applied to the saved store of every choice point. -/
def mapSnap (f : Store → Store) (cps : List CP) : List CP := cps.map fun cp => { cp with snap := f cp.snap }

theorem WF.mapSnap {hlen trlen slen : Nat} (f : Store → Store) {cps : List CP}
    (h : WF hlen trlen slen cps) : WF hlen trlen slen (mapSnap f cps) := by
  induction cps generalizing hlen trlen slen with
  | nil => trivial
  | cons c rest ih => exact ⟨h.1, h.2.1, h.2.2.1, ih h.2.2.2⟩

theorem mapSnap_id (cps : List CP) : mapSnap (fun s => s) cps = cps := by
  simp [mapSnap]

theorem mapSnap_mapSnap (f g : Store → Store) (cps : List CP) :
    mapSnap f (mapSnap g cps) = mapSnap (fun s => f (g s)) cps := by
  simp [mapSnap, List.map_map, Function.comp_def]

theorem mapSnap_append (f : Store → Store) (a b : List CP) : mapSnap f (a ++ b) = mapSnap f a ++ mapSnap f b := by
  simp [mapSnap]

/-- holds of every state reachable from `init` (`init_inv`, `step_inv`). -/
structure Inv (m : M) : Prop where
  wf : WF m.st.heap.length m.trail.length m.st.stack.length m.cps
  /-- `hb` is at or above the saved heap top of every choice point -/
  hb : ∀ cp ∈ m.cps, cp.h ≤ m.hb
  /-- backtracking to any choice point re-creates its snapshot -/
  snap : ∀ cp ∈ m.cps, restore m cp = cp.snap

theorem b_ge (m : M) (hw : WF m.st.heap.length m.trail.length m.st.stack.length m.cps) :
    ∀ cp ∈ m.cps, cp.sTop ≤ m.b := by
  intro cp hm
  unfold M.b
  cases hc : m.cps with
  | nil => rw [hc] at hm; cases hm
  | cons c rest =>
    rw [hc] at hm hw
    exact (WF.mem (cps := c :: rest) ⟨Nat.le_refl _, Nat.le_refl _, Nat.le_refl _, hw.2.2.2⟩ cp hm).2.2

theorem init_inv : Inv init := ⟨trivial, fun _ h => (nomatch h), fun _ h => (nomatch h)⟩

/-- `m'` has the invariant, the choice points of `m`, and a trail that only adds to that of `m`. -/
def FlatTo (m m' : M) : Prop := Inv m' ∧ m'.cps = m.cps ∧ ∃ pre, m'.trail = pre ++ m.trail

theorem FlatTo.refl {m : M} (hi : Inv m) : FlatTo m m := ⟨hi, rfl, [], rfl⟩

theorem inv_of_same {m : M} {st' : Store} (hi : Inv m)
    (hlen : m.st.heap.length ≤ st'.heap.length) (slen : m.st.stack.length ≤ st'.stack.length)
    (hs : ∀ cp ∈ m.cps, SameBelow cp.h cp.sTop st' m.st) :
    FlatTo m { m with st := st' } := by
  refine ⟨⟨hi.wf.mono hlen (Nat.le_refl _) slen, hi.hb, fun cp hm => ?_⟩, rfl, [], rfl⟩
  simp only [restore]
  rw [← undoTo_comm (undo1_trunc _ _), trunc_of_same (hs cp hm), undoTo_comm (undo1_trunc _ _)]
  exact hi.snap cp hm

theorem inv_of_trailed {m : M} {st' : Store} {e : TE} (hi : Inv m) (hu : undo1 st' e = m.st) :
    FlatTo m { m with st := st', trail := e :: m.trail } := by
  have hl := hu ▸ undo1_lengths st' e
  refine ⟨⟨hi.wf.mono (Nat.le_of_eq hl.1) (Nat.le_succ _) (Nat.le_of_eq hl.2), hi.hb, fun cp hm => ?_⟩,
    rfl, [e], rfl⟩
  simp only [restore]
  rw [undoTo_cons (WF.mem hi.wf cp hm).2.1, hu]
  exact hi.snap cp hm

theorem set_length_eq {α : Type} (l : List α) (i : Nat) (x : α) : l.length = (l.set i x).length :=
  List.length_set.symm

theorem inv_push_heap {m : M} {c : Cell} (hi : Inv m) :
    FlatTo m { m with st := { m.st with heap := m.st.heap ++ [c] } } :=
  inv_of_same hi (by rw [List.length_append]; exact Nat.le_add_right _ _) (Nat.le_refl _)
    fun cp hm => ⟨List.take_append_of_le_length (WF.mem hi.wf cp hm).1, rfl, rfl⟩

/-- Heap cell `h`, holding `old`, is overwritten; `trail` records it, when `h < hb`, by an entry that
    puts `old` back. Unrecorded, the cell is at or above `hb`, hence above the heap top saved in every
    choice point. Covers `bind` (plain and attributed variable) and `relink`. -/
theorem inv_set_heap {m : M} {h : Nat} {old new : Cell} {e : TE} (hi : Inv m)
    (hg : m.st.heap[h]? = some old) (he : ∀ s, undo1 s e = { s with heap := s.heap.set h old }) :
    FlatTo m { m with st := { m.st with heap := m.st.heap.set h new }, trail := trailHeap m h e } := by
  unfold trailHeap
  split
  · refine inv_of_trailed hi ?_
    obtain ⟨hlt, hv⟩ := List.getElem?_eq_some_iff.mp hg
    rw [he]
    simp only [List.set_set]
    rw [← hv, List.set_getElem_self hlt]
  · next hge =>
    exact inv_of_same hi (Nat.le_of_eq (set_length_eq _ _ _)) (Nat.le_refl _) fun cp hm =>
      ⟨List.take_set_of_le (Nat.le_trans (hi.hb cp hm) (Nat.not_lt.1 hge)), rfl, rfl⟩

theorem inv_set_bb {m : M} {k : Nat} {new : BB} {e : TE} (hi : Inv m)
    (he : undo1 { m.st with bb := setBB m.st.bb k new } e = { m.st with bb := setBB m.st.bb k (m.st.bb k) }) :
    FlatTo m { m with st := { m.st with bb := setBB m.st.bb k new }, trail := e :: m.trail } := by
  refine inv_of_trailed hi ?_
  rw [he, setBB_self]

/-- backtracking to the newest choice point `cp`; `cps'` is `cp :: rest` (retry) or `rest` (trust). -/
theorem inv_backtrack {m : M} (hi : Inv m) {cp : CP} {cps' : List CP} (hcp : cp ∈ m.cps)
    (hsub : ∀ c ∈ cps', c ∈ m.cps) (hwf : WF cp.h cp.tr cp.sTop cps') :
    Inv ⟨restore m cp, cp.h, dropTo cp.tr m.trail, cps'⟩ := by
  obtain ⟨w1, w2, w3⟩ := WF.mem hi.wf cp hcp
  obtain ⟨l1, l2⟩ := restore_lengths w1 w3
  refine ⟨?_, fun c hm => (WF.mem hwf c hm).1, fun c hm => ?_⟩
  · exact hwf.mono (Nat.le_of_eq l1.symm) (Nat.le_of_eq (dropTo_length _ _ w2).symm)
      (Nat.le_of_eq l2.symm)
  · obtain ⟨c1, c2, c3⟩ := WF.mem hwf c hm
    exact (restore_restore c1 c2 c3).trans (hi.snap c (hsub c hm))

/-! ### the equations of `step` at a choice point -/

theorem step_retry {m : M} {cp : CP} {rest : List CP} (hc : m.cps = cp :: rest) :
    step m .retry = ⟨restore m cp, cp.h, dropTo cp.tr m.trail, cp :: rest⟩ := by
  obtain ⟨st, hb, tr, cps⟩ := m
  subst hc; rfl

theorem step_trust {m : M} {cp : CP} {rest : List CP} (hc : m.cps = cp :: rest) :
    step m .trust = ⟨restore m cp, cp.h, dropTo cp.tr m.trail, rest⟩ := by
  obtain ⟨st, hb, tr, cps⟩ := m
  subst hc; rfl

/-! ### every operation preserves the invariant -/

/-- operations other than choice point operations and `bb_put` leave the choice points alone and
    only add to the trail. -/
def Flat : Op → Prop
  | .newVar | .newAttrVar | .newCell _ | .newStackVar | .bind _ _ | .bindStack _ _ | .relink _ _
  | .bbBPut _ _ | .bbGet _ => True
  | _ => False

theorem flat_step (m : M) (o : Op) (hi : Inv m) (hf : Flat o) : FlatTo m (step m o) := by
  cases o with
  | newVar => exact inv_push_heap hi
  | newAttrVar => exact inv_push_heap hi
  | newCell v => exact inv_push_heap hi
  | newStackVar =>
    exact inv_of_same hi (Nat.le_refl _) (by rw [List.length_append]; exact Nat.le_add_right _ _)
      fun cp hm => ⟨rfl, List.take_append_of_le_length (WF.mem hi.wf cp hm).2.2, rfl⟩
  | bind h v =>
    dsimp only [step]
    -- cell `h` holds a plain variable, an attributed variable, or anything else (no change)
    split
    · next hg => exact inv_set_heap hi hg fun _ => rfl
    · next hg => exact inv_set_heap hi hg fun _ => rfl
    · exact .refl hi
  | bindStack h v =>
    dsimp only [step]
    split
    · next hg =>
      split
      · refine inv_of_trailed hi ?_
        obtain ⟨hlt, hv⟩ := List.getElem?_eq_some_iff.mp hg
        simp only [undo1, List.set_set]
        rw [← hv, List.set_getElem_self hlt]
      · next hge =>
        -- not trailed: the cell is at or above `b`, the stack address of every choice point
        exact inv_of_same hi (Nat.le_refl _) (Nat.le_of_eq (set_length_eq _ _ _)) fun cp hm =>
          ⟨rfl, List.take_set_of_le (Nat.le_trans (b_ge m hi.wf cp hm) (Nat.not_lt.1 hge)), rfl⟩
    · exact .refl hi
  | relink h new =>
    dsimp only [step]
    split
    · next old hg => exact inv_set_heap hi hg fun _ => rfl
    · exact .refl hi
  | bbBPut k v =>
    dsimp only [step]
    -- key `k` has a backtrackable value `old` (the entry puts it back), or none (the entry clears it)
    split
    · next old hl =>
      refine inv_set_bb hi ?_
      simp only [undo1, setBB, if_true, Option.isSome_some, setBB_setBB, ← hl]
    · next hl =>
      refine inv_set_bb hi ?_
      simp only [undo1, setBB, if_true, setBB_setBB, ← hl]
  | bbGet k =>
    dsimp only [step]
    split
    · next p hl hp =>
      refine inv_set_bb hi ?_
      simp only [undo1, setBB, if_true, setBB_setBB, ← hl, ← hp]
    · exact .refl hi
  | _ => exact hf.elim

theorem step_inv (m : M) (o : Op) (hi : Inv m) : Inv (step m o) := by
  cases o with
  | pushChoice =>
    refine ⟨⟨Nat.le_refl _, Nat.le_refl _, Nat.le_refl _, hi.wf⟩, fun cp hm => ?_, fun cp hm => ?_⟩
    · rcases List.mem_cons.mp hm with rfl | hr
      · exact Nat.le_refl _
      · exact (WF.mem hi.wf cp hr).1
    · rcases List.mem_cons.mp hm with rfl | hr
      · show trunc (undoTo _ m.trail m.st) _ _ = m.st
        rw [undoTo_of_length_le _ _ _ (Nat.le_refl _)]
        simp only [trunc, List.take_length]
      · exact hi.snap cp hr
  | retry =>
    obtain ⟨st, hb, tr, cps⟩ := m
    cases cps with
    | nil => exact hi
    | cons cp rest =>
      exact inv_backtrack hi (List.mem_cons_self ..) (fun _ hm => hm)
        ⟨Nat.le_refl _, Nat.le_refl _, Nat.le_refl _, hi.wf.2.2.2⟩
  | trust =>
    obtain ⟨st, hb, tr, cps⟩ := m
    cases cps with
    | nil => exact hi
    | cons cp rest =>
      exact inv_backtrack hi (List.mem_cons_self ..) (fun _ hm => List.mem_cons_of_mem _ hm)
        hi.wf.2.2.2
  | cut k =>
    exact ⟨hi.wf.drop k, fun cp hm => hi.hb cp (List.mem_of_mem_drop hm),
      fun cp hm => hi.snap cp (List.mem_of_mem_drop hm)⟩
  | bbPut k v =>
    refine ⟨hi.wf.mapSnap fun s => overrideBB s k v, fun cp hm => ?_, fun cp hm => ?_⟩
    · obtain ⟨c, hc, rfl⟩ := List.mem_map.1 hm
      exact hi.hb c hc
    · obtain ⟨c, hc, rfl⟩ := List.mem_map.1 hm
      show trunc (undoTo c.tr m.trail (overrideBB m.st k v)) c.h c.sTop = overrideBB c.snap k v
      rw [undoTo_comm (undo1_override k v), trunc_override]
      exact congrArg (overrideBB · k v) (hi.snap c hc)
  | _ => exact (flat_step m _ hi (by trivial)).1

theorem run_cons (m : M) (o : Op) (os : List Op) : run m (o :: os) = run (step m o) os := rfl

theorem run_inv (os : List Op) (m : M) (h : Inv m) : Inv (run m os) := by
  induction os generalizing m with
  | nil => exact h
  | cons o os ih => exact ih _ (step_inv m o h)

/-! ### goals that leave the choice point of their caller alone -/

/-- `keeps d ops`: starting `d` choice points above a given one, the operations never backtrack to,
    pop or cut that choice point, and end with it on top. -/
def keeps : Nat → List Op → Bool
  | d, [] => d == 0
  | d, .pushChoice :: os => keeps (d + 1) os
  | d, .trust :: os => decide (0 < d) && keeps (d - 1) os
  | d, .retry :: os => decide (0 < d) && keeps d os
  | d, .cut k :: os => decide (k ≤ d) && keeps (d - k) os
  | d, .newVar :: os => keeps d os
  | d, .newAttrVar :: os => keeps d os
  | d, .newCell _ :: os => keeps d os
  | d, .newStackVar :: os => keeps d os
  | d, .bind _ _ :: os => keeps d os
  | d, .bindStack _ _ :: os => keeps d os
  | d, .relink _ _ :: os => keeps d os
  | d, .bbPut _ _ :: os => keeps d os
  | d, .bbBPut _ _ :: os => keeps d os
  | d, .bbGet _ :: os => keeps d os

/-- the `bb_put/2` calls of a goal, in order -/
def puts : List Op → List (Nat × Nat)
  | [] => []
  | .bbPut k v :: os => (k, v) :: puts os
  | _ :: os => puts os

/-- the store after the blackboard writes `(key, value)` of the list, first to last. -/
def overrides (s : Store) : List (Nat × Nat) → Store
  | [] => s
  | (k, v) :: r => overrides (overrideBB s k v) r

theorem puts_append (a b : List Op) : puts (a ++ b) = puts a ++ puts b := by
  induction a with
  | nil => rfl
  | cons o a ih =>
    cases o with
    | bbPut k v => exact congrArg ((k, v) :: ·) ih
    | _ => exact ih

theorem overrides_append (s : Store) (a b : List (Nat × Nat)) :
    overrides s (a ++ b) = overrides (overrides s a) b := by
  induction a generalizing s with
  | nil => rfl
  | cons p r ih => exact ih _

theorem overrides_bb_of_ne (k : Nat) (ps : List (Nat × Nat)) (s : Store)
    (hne : ∀ p ∈ ps, p.1 ≠ k) : (overrides s ps).bb k = s.bb k := by
  induction ps generalizing s with
  | nil => rfl
  | cons p r ih =>
    have hj : p.1 ≠ k := hne p (List.mem_cons_self ..)
    rw [overrides, ih _ fun q hq => hne q (List.mem_cons_of_mem _ hq)]
    exact if_neg hj.symm

theorem overrides_heap (s : Store) (ps : List (Nat × Nat)) :
    (overrides s ps).heap = s.heap ∧ (overrides s ps).stack = s.stack := by
  induction ps generalizing s with
  | nil => exact ⟨rfl, rfl⟩
  | cons p r ih => exact ih _

/-- A goal that keeps the choice point `cp0` lying `d` below the top leaves it and the older ones on
    the stack, with the goal's `bb_put`s applied to their snapshots, and leaves alone the part of the
    trail below the mark `cp0` saved. -/
theorem run_keeps : ∀ (ops : List Op) (d : Nat) (m : M) (cp0 : CP) (rest : List CP),
    keeps d ops = true → Inv m → m.cps.drop d = cp0 :: rest →
    (run m ops).cps = mapSnap (fun s => overrides s (puts ops)) (cp0 :: rest)
    ∧ dropTo cp0.tr (run m ops).trail = dropTo cp0.tr m.trail := by
  intro ops
  induction ops with
  | nil =>
    intro d m cp0 rest hk _ h0
    rw [eq_of_beq hk] at h0
    exact ⟨h0.trans (mapSnap_id _).symm, rfl⟩
  | cons o os ih =>
    intro d m cp0 rest hk hi h0
    have hi' := step_inv m o hi
    -- backtracking to the newest choice point `c`, above `cp0`, cuts the trail at or above `cp0.tr`
    have top : 0 < d → ∃ c rs, m.cps = c :: rs ∧ rs.drop (d - 1) = cp0 :: rest ∧
        dropTo cp0.tr (dropTo c.tr m.trail) = dropTo cp0.tr m.trail := by
      intro hd
      obtain ⟨d', rfl⟩ := Nat.exists_eq_succ_of_ne_zero (Nat.ne_of_gt hd)
      cases hc : m.cps with
      | nil => rw [hc] at h0; cases h0
      | cons c rs =>
        rw [hc] at h0
        have hw := hc ▸ hi.wf
        exact ⟨c, rs, rfl, h0, dropTo_dropTo _ _
          (WF.mem hw.2.2.2 cp0 (List.mem_of_mem_drop (h0 ▸ List.mem_cons_self ..))).2.1 _⟩
    have flat : Flat o → keeps d os = true → puts (o :: os) = puts os →
        (run m (o :: os)).cps = mapSnap (fun s => overrides s (puts (o :: os))) (cp0 :: rest)
        ∧ dropTo cp0.tr (run m (o :: os)).trail = dropTo cp0.tr m.trail := by
      intro hf hk' hp
      obtain ⟨_, h1, pre, h2⟩ := flat_step m o hi hf
      obtain ⟨r1, r2⟩ := ih d (step m o) cp0 rest hk' hi' (h1 ▸ h0)
      refine ⟨hp ▸ r1, r2.trans ?_⟩
      rw [h2]
      exact dropTo_append _ _ _
        (WF.mem hi.wf cp0 (List.mem_of_mem_drop (h0 ▸ List.mem_cons_self ..))).2.1
    cases o with
    | pushChoice => exact ih (d + 1) (step m .pushChoice) cp0 rest hk hi' h0
    | trust =>
      have hk := Bool.and_eq_true_iff.1 (show (decide (0 < d) && keeps (d - 1) os) = true from hk)
      obtain ⟨c, rs, hc, h0', ht⟩ := top (of_decide_eq_true hk.1)
      rw [step_trust hc] at hi'
      rw [run_cons, step_trust hc]
      obtain ⟨r1, r2⟩ := ih (d - 1) _ cp0 rest hk.2 hi' h0'
      exact ⟨r1, r2.trans ht⟩
    | retry =>
      have hk := Bool.and_eq_true_iff.1 (show (decide (0 < d) && keeps d os) = true from hk)
      obtain ⟨c, rs, hc, _, ht⟩ := top (of_decide_eq_true hk.1)
      rw [step_retry hc] at hi'
      rw [run_cons, step_retry hc]
      obtain ⟨r1, r2⟩ := ih d _ cp0 rest hk.2 hi' (hc ▸ h0)
      exact ⟨r1, r2.trans ht⟩
    | cut k =>
      have hk := Bool.and_eq_true_iff.1 (show (decide (k ≤ d) && keeps (d - k) os) = true from hk)
      refine ih (d - k) (step m (.cut k)) cp0 rest hk.2 hi' ?_
      show (m.cps.drop k).drop (d - k) = _
      rw [List.drop_drop, Nat.add_sub_cancel' (of_decide_eq_true hk.1)]; exact h0
    | bbPut k v =>
      obtain ⟨r1, r2⟩ := ih d (step m (.bbPut k v)) { cp0 with snap := overrideBB cp0.snap k v } _ hk hi'
        (show (mapSnap (fun s => overrideBB s k v) m.cps).drop d
            = mapSnap (fun s => overrideBB s k v) (cp0 :: rest) from
          List.map_drop.symm.trans (congrArg _ h0))
      exact ⟨r1.trans (mapSnap_mapSnap _ (fun s => overrideBB s k v) (cp0 :: rest)), r2⟩
    | _ => exact flat trivial hk rfl

/-- Failure of a goal that keeps `cp0`: the whole machine state afterwards. -/
theorem fail_keeps {ops : List Op} {d : Nat} {m : M} {cp0 : CP} {rest : List CP}
    (hk : keeps d ops = true) (hi : Inv m) (h0 : m.cps.drop d = cp0 :: rest) :
    step (run m ops) .trust = ⟨overrides cp0.snap (puts ops), cp0.h, dropTo cp0.tr m.trail,
      mapSnap (fun s => overrides s (puts ops)) rest⟩ := by
  obtain ⟨h1, h2⟩ := run_keeps ops d m cp0 rest hk hi h0
  have h1' : (run m ops).cps = { cp0 with snap := overrides cp0.snap (puts ops) } :: _ := h1
  rw [step_trust h1', (run_inv ops m hi).snap _ (h1' ▸ List.mem_cons_self ..)]
  exact congrArg (M.mk _ _ · _) h2

end Scryer.Trail
