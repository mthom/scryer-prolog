import ScryerModel.Proofs.UGraph
import Mathlib.Data.List.Perm.Subperm
import Mathlib.Data.Finset.Card
/-! Topological sorting (`top_sort/2`) for the `library(ugraphs)` model: the counting passes equal
their specification, the invariant of the loop and its step, and the loop itself: it answers with an
order that respects the edges, or fails and then the vertices cannot be ranked along the edges
(`topSortLoop_spec`, `topSort_spec`); an acyclic graph can be ranked. -/
namespace Scryer.UGraph
open Relation

/-! ## top_sort: the counting passes -/

theorem zeros_eq (g : Graph) : zeros g = (vertices g).map (fun _ => (0 : Int)) := by
  induction g with
  | nil => rfl
  | cons p g ih => exact congrArg _ ih

/-- one step of walking an ascending `ns ⊆ vs` along the ascending `vs`. -/
theorem sorted_walk {v1 v2 : Nat} {ns vs : List Nat} (hns : Sorted (v1 :: ns)) (hvs : Sorted (v2 :: vs))
    (hsub : ∀ x ∈ v1 :: ns, x ∈ v2 :: vs) :
    (v1 = v2 ∧ ∀ x ∈ ns, x ∈ vs) ∨ (v1 ≠ v2 ∧ v2 ∉ v1 :: ns ∧ ∀ x ∈ v1 :: ns, x ∈ vs) := by
  by_cases h : v1 = v2
  · exact .inl ⟨h, fun x hx => mem_of_mem_cons_of_lt (hsub x (List.mem_cons_of_mem _ hx))
      (h ▸ hns.head_lt hx)⟩
  · have hlt : v2 < v1 :=
      hvs.head_lt ((List.mem_cons.1 (hsub v1 List.mem_cons_self)).resolve_left h)
    exact .inr ⟨h, hns.not_mem_of_lt hlt, fun x hx => mem_of_mem_cons_of_lt (hsub x hx) (hns.lt_of_mem hlt hx)⟩

theorem mem_cons_iff_of_sorted {v a : Nat} {vs : List Nat} (ns : List Nat) (hvs : Sorted (v :: vs)) (ha : a ∈ vs) :
    a ∈ v :: ns ↔ a ∈ ns :=
  List.mem_cons.trans (or_iff_right (Nat.ne_of_gt (hvs.head_lt ha)))

theorem incrList_spec {ns vs : List Nat} (hns : Sorted ns) (hvs : Sorted vs) (hsub : ∀ x ∈ ns, x ∈ vs)
    (f : Nat → Int) :
    incrList ns vs (vs.map f) = some (vs.map (fun v => if v ∈ ns then f v + 1 else f v)) := by
  induction vs generalizing ns with
  | nil =>
    cases ns with
    | nil => rfl
    | cons a ns => exact absurd (hsub a List.mem_cons_self) List.not_mem_nil
  | cons v2 vs ih =>
    cases ns with
    | nil => simp [incrList]
    | cons v1 ns =>
      rw [List.map_cons, incrList, List.map_cons]
      rcases sorted_walk hns hvs hsub with ⟨rfl, hsub'⟩ | ⟨h, hv2, hsub'⟩
      · rw [if_pos rfl, ih hns.tail hvs.tail hsub', if_pos List.mem_cons_self]
        exact congrArg (fun r => some (_ :: r)) (List.map_congr_left fun a ha =>
          if_congr (mem_cons_iff_of_sorted ns hvs ha).symm rfl rfl)
      · rw [if_neg h, ih hns hvs.tail hsub', if_neg hv2]
        rfl

theorem countEdges_spec {g' : Graph} {vs : List Nat} (hvs : Sorted vs)
    (hn : ∀ p ∈ g', Sorted p.2 ∧ ∀ y ∈ p.2, y ∈ vs) (f : Nat → Int) :
    countEdges g' vs (vs.map f) =
      some (vs.map (fun v => f v + ((g'.countP (fun p => decide (v ∈ p.2)) : Nat) : Int))) := by
  induction g' generalizing f with
  | nil => simp [countEdges]
  | cons p g' ih =>
    obtain ⟨h1, hn⟩ := List.forall_mem_cons.1 hn
    rw [countEdges, incrList_spec h1.1 hvs h1.2 f]
    dsimp only
    rw [ih hn]
    refine congrArg some (List.map_congr_left fun a _ => ?_)
    rw [List.countP_cons]
    by_cases h : a ∈ p.2 <;> simp [h]
    omega

theorem selectZeros_spec (vs : List Nat) (f : Nat → Int) :
    selectZeros (vs.map f) vs = some (vs.filter (fun v => decide (f v = 0))) := by
  induction vs with
  | nil => rfl
  | cons v vs ih =>
    by_cases h : f v = 0 <;> simp [selectZeros, h, ih]

theorem decrList_spec {ns vs : List Nat} (hns : Sorted ns) (hvs : Sorted vs) (hsub : ∀ x ∈ ns, x ∈ vs)
    (f : Nat → Int) (zi : List Nat) :
    decrList ns vs (vs.map f) zi =
      some (vs.map (fun v => if v ∈ ns then f v - 1 else f v),
            (vs.filter (fun v => decide (v ∈ ns ∧ f v = 1))).reverse ++ zi) := by
  induction vs generalizing ns zi with
  | nil =>
    cases ns with
    | nil => rfl
    | cons a ns => exact absurd (hsub a List.mem_cons_self) List.not_mem_nil
  | cons v2 vs ih =>
    cases ns with
    | nil => simp [decrList]
    | cons v1 ns =>
      rw [List.map_cons, decrList, List.map_cons, List.filter_cons]
      rcases sorted_walk hns hvs hsub with ⟨rfl, hsub'⟩ | ⟨h, hv2, hsub'⟩
      · have hm : vs.map (fun v => if v ∈ v1 :: ns then f v - 1 else f v) =
            vs.map (fun v => if v ∈ ns then f v - 1 else f v) :=
          List.map_congr_left fun a ha => if_congr (mem_cons_iff_of_sorted ns hvs ha) rfl rfl
        have hf : vs.filter (fun v => decide (v ∈ v1 :: ns ∧ f v = 1)) =
            vs.filter (fun v => decide (v ∈ ns ∧ f v = 1)) :=
          List.filter_congr fun a ha => by simp only [mem_cons_iff_of_sorted ns hvs ha]
        rw [if_pos rfl, hm, hf, if_pos List.mem_cons_self]
        by_cases h1 : f v1 = 1
        · rw [if_pos h1, ih hns.tail hvs.tail hsub', if_pos (decide_eq_true ⟨List.mem_cons_self, h1⟩),
            List.reverse_cons, List.append_assoc, h1]
          rfl
        · rw [if_neg h1, ih hns.tail hvs.tail hsub', if_neg (by simp [h1])]
          rfl
      · rw [if_neg h, ih hns hvs.tail hsub', if_neg hv2, if_neg (by simp [hv2])]
        rfl

/-! ## top_sort: predecessor counts as a specification -/

/-- the predecessors of `v` (sources of the edges into `v`), in key order. -/
def preds (g : Graph) (v : Nat) : List Nat := (g.filter (fun p => decide (v ∈ p.2))).map Prod.fst

/-- number of predecessors of `v` that are not in `S`. -/
def cntF (g : Graph) (S : List Nat) (v : Nat) : Nat := (preds g v).countP (fun u => decide (u ∉ S))

theorem mem_preds {g : Graph} {u v : Nat} : u ∈ preds g v ↔ Edge g u v := by
  rw [preds, List.mem_map]
  constructor
  · rintro ⟨⟨a, ns⟩, hp, rfl⟩
    exact ⟨ns, (List.mem_filter.1 hp).1, of_decide_eq_true (List.mem_filter.1 hp).2⟩
  · exact fun ⟨ns, h1, h2⟩ => ⟨(u, ns), List.mem_filter.2 ⟨h1, decide_eq_true h2⟩, rfl⟩

theorem nodup_preds {g : Graph} (hk : Sorted (vertices g)) (v : Nat) : (preds g v).Nodup := by
  apply List.Nodup.sublist _ hk.nodup
  rw [vertices_eq_map]
  exact List.Sublist.map _ List.filter_sublist

theorem cntF_nil (g : Graph) (v : Nat) : cntF g [] v = g.countP (fun p => decide (v ∈ p.2)) := by
  simp [cntF, preds, List.countP_eq_length_filter]

theorem cntF_eq_zero {g : Graph} {S : List Nat} {v : Nat} : cntF g S v = 0 ↔ ∀ u, Edge g u v → u ∈ S := by
  simp [cntF, List.countP_eq_zero, mem_preds]

theorem countP_notMem_cons {l S : List Nat} {z : Nat} (hl : l.Nodup) (hz : z ∉ S) :
    l.countP (fun u => decide (u ∉ z :: S)) + (if z ∈ l then 1 else 0) = l.countP (fun u => decide (u ∉ S)) := by
  induction l with
  | nil => rfl
  | cons a l ih =>
    rw [List.nodup_cons] at hl
    rw [List.countP_cons, List.countP_cons, ← ih hl.2]
    by_cases haz : a = z
    · subst haz
      rw [if_neg (by simp), if_pos (decide_eq_true hz), if_pos List.mem_cons_self, if_neg hl.1]
    · have e1 : z ∈ a :: l ↔ z ∈ l := List.mem_cons.trans (or_iff_right (Ne.symm haz))
      have e2 : a ∉ z :: S ↔ a ∉ S := not_congr (List.mem_cons.trans (or_iff_right haz))
      simp only [e1, e2]
      omega

theorem cntF_cons {g : Graph} (hk : Sorted (vertices g)) {S : List Nat} {z : Nat} (hz : z ∉ S) (v : Nat) :
    cntF g (z :: S) v + (if z ∈ preds g v then 1 else 0) = cntF g S v :=
  countP_notMem_cons (nodup_preds hk v) hz

/-! ## top_sort: the invariant of the loop and its step -/

/-- invariant of the `top_sort/5` loop: `S` emitted so far, `Z` the stack of ready vertices,
    `f` the current counts. -/
structure TInv (g : Graph) (S Z : List Nat) (f : Nat → Int) : Prop where
  nodup : (S ++ Z).Nodup
  sub : ∀ x ∈ S ++ Z, x ∈ vertices g
  cnt : ∀ v ∈ vertices g, f v = (cntF g S v : Int)
  zero : ∀ v ∈ vertices g, v ∈ S ++ Z ↔ f v = 0

theorem tinv_step {g : Graph} (hg : WF g) {S Z : List Nat} {z : Nat} {f : Nat → Int}
    (h : TInv g S (z :: Z) f) :
    ∃ ns f' Z', neighbours z g = some ns ∧
      decrList ns (vertices g) ((vertices g).map f) Z = some ((vertices g).map f', Z') ∧
      TInv g (z :: S) Z' f' ∧ (∀ u, Edge g u z → u ∈ S) := by
  have hzSZ : z ∈ S ++ z :: Z := List.mem_append_right _ List.mem_cons_self
  have hzV : z ∈ vertices g := h.sub z hzSZ
  have hzS : z ∉ S := fun hm => (List.nodup_cons.1 (List.nodup_middle.1 h.nodup)).1 (List.mem_append_left _ hm)
  obtain ⟨ns, hns⟩ := neighbours_isSome hzV
  have hmem := neighbours_some_mem hns
  have hpred : ∀ u, Edge g u z → u ∈ S := cntF_eq_zero.1 (by
    have := h.cnt z hzV
    rw [(h.zero z hzV).1 hzSZ] at this
    exact_mod_cast this.symm)
  let F := (vertices g).filter fun v => decide (v ∈ ns ∧ f v = 1)
  refine ⟨ns, fun v => if v ∈ ns then f v - 1 else f v, F.reverse ++ Z, hns,
    decrList_spec (hg.nbrs _ hmem) hg.keys (hg.closed _ hmem) f Z, ?_, hpred⟩
  -- the new state lists what the old one did and the vertices pushed now
  have hperm : (z :: S ++ (F.reverse ++ Z)).Perm (F ++ (S ++ z :: Z)) :=
    (((List.perm_append_comm_assoc S F.reverse Z).trans ((List.reverse_perm F).append_right _)).cons z).trans
      (List.perm_middle.symm.trans (List.perm_middle.symm.append_left F))
  have hF : ∀ x, x ∈ F ↔ x ∈ vertices g ∧ x ∈ ns ∧ f x = 1 := fun x =>
    List.mem_filter.trans (and_congr_right fun _ => decide_eq_true_iff)
  -- emitting `z` lowers the count exactly at its neighbours
  have hcnt : ∀ v ∈ vertices g, (if v ∈ ns then f v - 1 else f v) = (cntF g (z :: S) v : Int) := by
    intro v hv
    have h2 := cntF_cons hg.keys hzS v (g := g)
    simp only [mem_preds, ← mem_neighbours_iff hg.keys hns] at h2
    rw [h.cnt v hv, ← h2]
    by_cases hvn : v ∈ ns <;> simp [hvn]
  refine ⟨hperm.nodup_iff.2 (List.nodup_append.2 ⟨hg.keys.nodup.filter _, h.nodup, fun a ha b hb e => ?_⟩),
    fun x hx => (List.mem_append.1 (hperm.mem_iff.1 hx)).elim (fun hx => ((hF x).1 hx).1) (h.sub x), hcnt, ?_⟩
  · -- pushed vertices have count 1, emitted or stacked ones 0
    have := (h.zero a ((hF a).1 ha).1).1 (e ▸ hb)
    have := ((hF a).1 ha).2.2
    omega
  · intro v hv
    have := hcnt v hv
    rw [hperm.mem_iff, List.mem_append, hF, h.zero v hv]
    by_cases hvn : v ∈ ns <;> simp only [hv, hvn, if_true, if_false, true_and, false_and, false_or] at this ⊢
    omega

/-! ## top_sort: the loop -/

/-- every vertex of `L` has all its predecessors in `S` or earlier in `L`. -/
def Resp (g : Graph) (S L : List Nat) : Prop :=
  ∀ pre v post, L = pre ++ v :: post → ∀ u, Edge g u v → u ∈ S ∨ u ∈ pre

theorem topSortLoop_nil (fuel : Nat) (g : Graph) (vs : List Nat) (c : List Int) :
    topSortLoop fuel [] g vs c = if c = zeros g then some [] else none := by
  cases fuel <;> rfl

/-- Failure is stated as "no ranking along the edges" and not as a cycle: that is what an empty stack with a
    nonzero count refutes directly (induction on the rank); `exists_rank_of_acyclic` connects it with cycles. -/
theorem topSortLoop_spec {g : Graph} (hg : WF g) (fuel : Nat) : ∀ (Z : List Nat) (f : Nat → Int) (S : List Nat),
    TInv g S Z f → (vertices g).length ≤ fuel + S.length →
    match topSortLoop fuel Z g (vertices g) ((vertices g).map f) with
    | some L => (S ++ L).Perm (vertices g) ∧ Resp g S L
    | none => ¬ ∃ rank : Nat → Nat, ∀ u v, Edge g u v → rank u < rank v := by
  -- the stack is empty: the loop answers iff all counts are 0, that is iff every vertex is in `S`
  have hnil : ∀ (fuel : Nat) (f : Nat → Int) (S : List Nat), TInv g S [] f →
      match topSortLoop fuel [] g (vertices g) ((vertices g).map f) with
      | some L => (S ++ L).Perm (vertices g) ∧ Resp g S L
      | none => ¬ ∃ rank : Nat → Nat, ∀ u v, Edge g u v → rank u < rank v := by
    intro fuel f S h
    have hS : ∀ a ∈ vertices g, a ∈ S ↔ f a = 0 := fun a ha => List.append_nil S ▸ h.zero a ha
    rw [topSortLoop_nil, zeros_eq]
    by_cases heq : (vertices g).map f = (vertices g).map fun _ => 0
    · rw [if_pos heq]
      refine ⟨?_, fun pre v post hp => by cases pre <;> cases hp⟩
      rw [List.append_nil, List.perm_ext_iff_of_nodup (List.append_nil S ▸ h.nodup) hg.keys.nodup]
      exact fun a => ⟨fun ha => h.sub a (List.mem_append_left _ ha), fun ha => (hS a ha).2 (List.map_inj_left.1 heq a ha)⟩
    · rw [if_neg heq]
      rintro ⟨rank, hrank⟩
      refine heq (List.map_congr_left fun v hv => ?_)
      -- by induction on the rank: the predecessors of `v` have count 0, so they are in `S`
      induction hn : rank v using Nat.strong_induction_on generalizing v with
      | _ n ihn =>
        rw [h.cnt v hv, Int.natCast_eq_zero, cntF_eq_zero]
        exact fun u e => (hS u e.src).2 (ihn (rank u) (hn ▸ hrank u v e) u e.src rfl)
  induction fuel with
  | zero =>
    intro Z f S h hlen
    cases Z with
    | nil => exact hnil 0 f S h
    | cons z Z =>
      -- no fuel and a vertex stacked: `S ++ z :: Z` would be longer than `vertices g`, which holds it without repetition
      have := (List.Nodup.subperm h.nodup (fun x hx => h.sub x hx)).length_le
      simp at this hlen
      omega
  | succ fuel ih =>
    intro Z f S h hlen
    cases Z with
    | nil => exact hnil _ f S h
    | cons z Z =>
      obtain ⟨ns, f', Z', h1, h2, h3, h4⟩ := tinv_step hg h
      have := ih Z' f' (z :: S) h3 (by simp; omega)
      simp only [topSortLoop, h1, h2]
      split at this
      · next L' hL' =>
        rw [hL']
        refine ⟨List.perm_middle.trans this.1, fun pre v post hp u e => ?_⟩
        cases pre with
        | nil =>
          cases hp
          exact .inl (h4 u e)
        | cons a pre =>
          obtain ⟨rfl, hp'⟩ := List.cons.inj hp
          rcases this.2 pre v post hp' u e with h5 | h5
          · exact (List.mem_cons.1 h5).elim (fun e => .inr (e ▸ List.mem_cons_self)) .inl
          · exact .inr (List.mem_cons_of_mem _ h5)
      · next hL' =>
        rw [hL']
        exact this

/-- the rank of a vertex is the number of its ancestors. -/
theorem exists_rank_of_acyclic {g : Graph} (hac : ∀ v, ¬ TransGen (Edge g) v v) :
    ∃ rank : Nat → Nat, ∀ u v, Edge g u v → rank u < rank v := by
  classical
  refine ⟨fun v => ((vertices g).toFinset.filter (fun u => TransGen (Edge g) u v)).card, ?_⟩
  intro u v e
  apply Finset.card_lt_card
  rw [Finset.ssubset_iff_of_subset]
  · refine ⟨u, ?_, ?_⟩
    · simp; exact ⟨e.src, .single e⟩
    · simp; intro _; exact hac u
  · intro w hw
    simp at hw ⊢
    exact ⟨hw.1, hw.2.tail e⟩

theorem topSort_spec {g : Graph} (hg : WF g) :
    match topSort g with
    | some L => L.Perm (vertices g) ∧ Resp g [] L
    | none => ¬ ∃ rank : Nat → Nat, ∀ u v, Edge g u v → rank u < rank v := by
  -- the counting passes leave the predecessor counts and the stack of vertices without predecessors
  rw [topSort, zeros_eq, countEdges_spec hg.keys (fun p hp => ⟨hg.nbrs p hp, hg.closed p hp⟩) (fun _ => (0 : Int))]
  dsimp only
  rw [selectZeros_spec]
  refine topSortLoop_spec hg g.length _ _ [] ⟨?_, ?_, ?_, ?_⟩ ?_
  · exact hg.keys.nodup.filter _
  · exact fun x hx => (List.mem_filter.1 hx).1
  · exact fun v _ => by rw [cntF_nil, Int.zero_add]
  · exact fun v hv => List.mem_filter.trans ((and_iff_right hv).trans decide_eq_true_iff)
  · rw [vertices_eq_map, List.length_map]
    exact Nat.le_add_right _ _

end Scryer.UGraph
