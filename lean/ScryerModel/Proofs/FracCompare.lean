import Mathlib.Algebra.Order.Field.Basic
import Mathlib.Data.Rat.Cast.Order
/-!
Cross-multiplication decides the order of two fractions with positive denominators. Both exact
number comparisons of the models (`F64.fracCmp` for C04, `Order.ratCmp` for C13) are this `compare`.
-/
namespace Scryer

/-- dividing both cross products by `d1 * d2` is a strictly monotone map `ℤ → ℚ` and yields the two
    fractions. -/
theorem compare_cross_mul (n1 n2 : Int) (d1 d2 : Nat) (h1 : 0 < d1) (h2 : 0 < d2) :
    compare (n1 * (d2 : Int)) (n2 * (d1 : Int)) = compare ((n1 : ℚ) / (d1 : ℚ)) ((n2 : ℚ) / (d2 : ℚ)) := by
  have h1' : (0 : ℚ) < (d1 : ℚ) := Nat.cast_pos.mpr h1
  have h2' : (0 : ℚ) < (d2 : ℚ) := Nat.cast_pos.mpr h2
  have hm : StrictMono fun z : Int => (z : ℚ) / ((d1 : ℚ) * (d2 : ℚ)) :=
    fun _ _ h => div_lt_div_of_pos_right (Int.cast_lt.mpr h) (mul_pos h1' h2')
  rw [← cmp_eq_compare, ← hm.cmp_map_eq, cmp_eq_compare, Int.cast_mul, Int.cast_mul,
    Int.cast_natCast, Int.cast_natCast, mul_div_mul_right _ _ h2'.ne', mul_comm (d1 : ℚ),
    mul_div_mul_right _ _ h1'.ne']

end Scryer
