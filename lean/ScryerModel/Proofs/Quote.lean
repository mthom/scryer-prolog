import ScryerModel.Model.Quote
import ScryerModel.Proofs.ListFacts
/-! Character classes on ASCII (a `UCWF` parameter answers there as `asciiUC`, whose tables the kernel checks
    on all 128 characters), the quoting decision (`nonQuoted_cases`), and how the token reader dispatches on
    the first character of a token (`NameStart`: the characters `next_token` hands to `name_token`). -/
namespace Scryer.Quote
open Scryer.CharClass

theorem ascii_all (P : Char → Prop) (h : ∀ n, n < 128 → P (Char.ofNat n)) :
    ∀ c : Char, c.toNat < 128 → P c := by
  intro c hc
  have := h c.toNat hc
  simpa using this

variable {u : UC}

/-! ### the classes that ask Rust's `char` methods, on ASCII -/

theorem wf_alpha (hu : UCWF u) {c : Char} (hc : c.toNat < 128) :
    alpha_char u c = alpha_char asciiUC c := by
  simp only [alpha_char, hu.numeric c hc, hu.whitespace c hc, hu.control c hc]
  rfl

theorem wf_alnum (hu : UCWF u) {c : Char} (hc : c.toNat < 128) :
    alpha_numeric_char u c = alpha_numeric_char asciiUC c := by
  simp only [alpha_numeric_char, wf_alpha hu hc, hu.numeric c hc]

theorem wf_small (hu : UCWF u) {c : Char} (hc : c.toNat < 128) :
    small_letter_char u c = small_letter_char asciiUC c := by
  simp only [small_letter_char, hu.alphabetic c hc, hu.uppercase c hc]

theorem wf_capital (hu : UCWF u) {c : Char} (hc : c.toNat < 128) :
    capital_letter_char u c = capital_letter_char asciiUC c := by
  simp only [capital_letter_char, hu.uppercase c hc]

theorem ascii_alpha_iso : ∀ c : Char, c.toNat < 128 →
    alpha_char asciiUC c = (c.isAlpha || c == '_') :=
  ascii_all _ (by decide +kernel)

theorem ascii_small_iso : ∀ c : Char, c.toNat < 128 → small_letter_char asciiUC c = c.isLower :=
  ascii_all _ (by decide +kernel)

theorem ascii_alpha_sane : ∀ c : Char, c.toNat < 128 → asciiUC.is_alphabetic c = true →
    asciiUC.is_whitespace c = false ∧ asciiUC.is_control c = false :=
  ascii_all _ (by decide +kernel)

theorem ascii_digit_not_lower : ∀ c : Char, c.toNat < 128 → c.isDigit = true → c.isLower = false :=
  ascii_all _ (by decide +kernel)

theorem cap_ascii (hu : UCWF u) {c : Char} (hc : c.toNat < 128) : capital_letter_char u c = c.isUpper :=
  wf_capital hu hc

theorem small_ascii (hu : UCWF u) {c : Char} (hc : c.toNat < 128) : small_letter_char u c = c.isLower := by
  rw [wf_small hu hc, ascii_small_iso c hc]

theorem alnum_ascii (hu : UCWF u) {c : Char} (hc : c.toNat < 128) :
    alpha_numeric_char u c = (c.isAlpha || c == '_' || c.isDigit) := by
  rw [wf_alnum hu hc, alpha_numeric_char, ascii_alpha_iso c hc]
  rfl

theorem cap_false (hu : UCWF u) (x : Char) (hx : x.toNat < 128) (hl : x.isUpper = false) :
    capital_letter_char u x = false := by rw [cap_ascii hu hx, hl]

theorem small_false (hu : UCWF u) (x : Char) (hx : x.toNat < 128) (hl : x.isLower = false) :
    small_letter_char u x = false := by rw [small_ascii hu hx, hl]

theorem val_le_ascii {c : Char} {n : UInt32} (h : c.val ≤ n) (hn : n.toNat < 128) : c.toNat < 128 :=
  Nat.lt_of_le_of_lt (UInt32.le_iff_toNat_le.mp h) hn

theorem digit_ascii {c : Char} (hd : c.isDigit = true) : c.toNat < 128 := by
  simp only [Char.isDigit, Bool.and_eq_true, decide_eq_true_eq] at hd
  exact val_le_ascii hd.2 (by decide)

theorem alpha_ascii {c : Char} (h : c.isAlpha = true) : c.toNat < 128 := by
  simp only [Char.isAlpha, Char.isUpper, Char.isLower, Bool.or_eq_true, Bool.and_eq_true, decide_eq_true_eq] at h
  rcases h with h | h
  · exact val_le_ascii h.2 (by decide)
  · exact val_le_ascii h.2 (by decide)

theorem asciiUC_wf : UCWF asciiUC :=
  ⟨fun _ _ => rfl, fun _ _ => rfl, fun _ _ => rfl, fun _ _ => rfl, fun _ _ => rfl,
   fun c h => ascii_alpha_sane c (alpha_ascii h) h⟩

theorem mkUC_wf (tbl : List (Nat × Nat)) : UCWF (mkUC tbl) := by
  refine ⟨fun c h => if_pos h, fun c h => if_pos h, fun c h => if_pos h, fun c h => if_pos h,
    fun c h => if_pos h, ?_⟩
  intro c h
  by_cases hc : c.toNat < 128
  · have := ascii_alpha_sane c hc ((if_pos hc).symm.trans h)
    exact ⟨(if_pos hc).trans this.1, (if_pos hc).trans this.2⟩
  · have hb := (if_neg hc).symm.trans h
    simp only [Bool.and_eq_true, Bool.not_eq_true'] at hb
    exact ⟨(if_neg hc).trans hb.1.2, (if_neg hc).trans hb.2⟩

/-! ### the first character of a token -/

/-- the characters `next_token` looks for before it tries a name token -/
def specials : List Char := ['_', ',', ')', '(', '.', ']', '[', '|', '{', '}', '"', Char.ofNat 0]

/-- `c` is neither layout nor the start of a line comment, and `next_token` hands it to `name_token` -/
def NameStart (u : UC) (c : Char) : Prop :=
  layout_char u c = false ∧ c ≠ '%' ∧ capital_letter_char u c = false ∧ c ∉ specials ∧ c.isDigit = false

instance (c : Char) : Decidable (NameStart u c) := by unfold NameStart; infer_instance

theorem NameStart.of_ascii (hu : UCWF u) {c : Char} (hc : c.toNat < 128) (h : NameStart asciiUC c) :
    NameStart u c :=
  ⟨h.1, h.2.1, (wf_capital hu hc).trans h.2.2.1, h.2.2.2⟩

/-- the graphic token characters (ISO 6.4.2: graphic char | backslash char) -/
def gtList : List Char :=
  ['#', '$', '&', '*', '+', '-', '.', '/', ':', '<', '=', '>', '?', '@', '^', '~', '\\']

theorem gt_mem (u : UC) (c : Char) : graphic_token_char u c = true ↔ c ∈ gtList := by
  simp [graphic_token_char, graphic_char, backslash_char, gtList, or_assoc]

theorem gt_table : ∀ x ∈ gtList, x.toNat < 128 ∧ small_letter_char asciiUC x = false ∧
    alpha_numeric_char asciiUC x = false ∧ layout_char asciiUC x = false ∧
    x ≠ '%' ∧ x.isDigit = false ∧ (x ≠ '.' → NameStart asciiUC x) := by decide +kernel

theorem gt_facts (hu : UCWF u) {c : Char} (h : graphic_token_char u c = true) :
    small_letter_char u c = false ∧ alpha_numeric_char u c = false ∧
    layout_char u c = false ∧ c ≠ '%' ∧ c.isDigit = false ∧ (c ≠ '.' → NameStart u c) := by
  obtain ⟨hc, t1, t2, t4, t5, t6, t7⟩ := gt_table c ((gt_mem u c).1 h)
  exact ⟨(wf_small hu hc).trans t1, (wf_alnum hu hc).trans t2, t4, t5, t6, fun hd => .of_ascii hu hc (t7 hd)⟩

theorem small_ne (hu : UCWF u) {c : Char} (h : small_letter_char u c = true) (x : Char) (hx : x.toNat < 128)
    (hl : x.isLower = false) : c ≠ x := ne_of_class h (small_false hu x hx hl)

theorem small_nameStart (hu : UCWF u) {c : Char} (h : small_letter_char u c = true) : NameStart u c := by
  have ne := small_ne hu h
  refine ⟨by simp [layout_char, ne], ne _ (by decide) (by decide), ?_, by simp [specials, ne], ?_⟩
  · simp only [small_letter_char, Bool.and_eq_true, Bool.not_eq_true'] at h
    exact h.2
  · exact Bool.eq_false_iff.2 fun hd =>
      ne _ (digit_ascii hd) (ascii_digit_not_lower c (digit_ascii hd) hd) rfl

theorem small_alnum (hu : UCWF u) {c : Char} (h : small_letter_char u c = true) : alpha_numeric_char u c = true := by
  have ne := small_ne hu h
  by_cases hn : u.is_numeric c = true
  · simp [alpha_numeric_char, hn]
  have ha : u.is_alphabetic c = true := by simp [small_letter_char] at h; exact h.1
  obtain ⟨w1, w2⟩ := hu.alpha_sane c ha
  have hg : graphic_token_char u c = false :=
    Bool.eq_false_iff.2 fun hg => Bool.noConfusion ((gt_facts hu hg).1.symm.trans h)
  have hm : meta_char u c = false := by simp [meta_char, ne]
  have hs : solo_char u c = false := by simp [solo_char, ne]
  simp [alpha_numeric_char, alpha_char, hn, w1, w2, hg, (small_nameStart hu h).1, hm, hs]

/-! ### the quoting decision -/

theorem nonQuotedGraphic_iff (c : Char) (r : List Char) :
    nonQuotedGraphicToken u c r = true ↔
      (∀ d ∈ r, graphic_token_char u d = true) ∧ (¬ ∃ r', c :: r = '/' :: '*' :: r') ∧ c :: r ≠ ['.'] := by
  unfold nonQuotedGraphicToken
  by_cases h1 : c = '/'
  · subst h1
    cases r with
    | nil => simp
    | cons d r' =>
      by_cases h2 : d = '*'
      · subst h2; simp
      · by_cases h3 : graphic_token_char u d = true <;> simp [h2, h3]
  · by_cases h2 : c = '.'
    · subst h2
      cases r with
      | nil => simp
      | cons d r' => by_cases h3 : graphic_token_char u d = true <;> simp [h3]
    · simp [h1, h2]

theorem nonQuoted_small {c : Char} (r : List Char) (h : small_letter_char u c = true) :
    nonQuotedToken u (c :: r) = true ↔ ∀ d ∈ r, alpha_numeric_char u d = true := by
  simp [nonQuotedToken, h]

theorem nonQuoted_graphic (hu : UCWF u) {c : Char} (r : List Char) (h : graphic_token_char u c = true) :
    nonQuotedToken u (c :: r) = nonQuotedGraphicToken u c r := by
  simp [nonQuotedToken, h, (gt_facts hu h).1]

theorem nonQuoted_other {c : Char} (r : List Char) (h1 : small_letter_char u c = false)
    (h2 : graphic_token_char u c = false) :
    nonQuotedToken u (c :: r) = true ↔
      c :: r = ['[', ']'] ∨ c :: r = ['{', '}'] ∨ c :: r = ['!'] ∨ c :: r = [';'] := by
  simp only [nonQuotedToken, h1, h2, semicolon_char, cut_char, solo_char]
  by_cases a1 : c = ';'
  · subst a1; simp
  by_cases a2 : c = '!'
  · subst a2; simp
  by_cases a3 : c = '['
  · subst a3; simp
  by_cases a4 : c = '{'
  · subst a4; simp
  -- the right side is false; of `solo_char` only the seven characters remain that the last test excludes
  simp [a1, a2, a3, a4]
  intro h n1 n2 n3 n4 n5 n6
  simpa [n1, n2, n3, n4, n5, n6] using h

theorem nonQuoted_cases (hu : UCWF u) {s : List Char} : nonQuotedToken u s = true ↔
    (∃ c r, s = c :: r ∧ small_letter_char u c = true ∧ ∀ d ∈ r, alpha_numeric_char u d = true) ∨
    ((s ≠ [] ∧ ∀ d ∈ s, graphic_token_char u d = true) ∧ (¬ ∃ r, s = '/' :: '*' :: r) ∧ s ≠ ['.']) ∨
    (s = ['[', ']'] ∨ s = ['{', '}'] ∨ s = ['!'] ∨ s = [';']) := by
  constructor
  · intro h
    cases s with
    | nil => simp [nonQuotedToken] at h
    | cons c r =>
      by_cases hs : small_letter_char u c = true
      · exact .inl ⟨c, r, rfl, hs, (nonQuoted_small r hs).1 h⟩
      by_cases hg : graphic_token_char u c = true
      · rw [nonQuoted_graphic hu r hg, nonQuotedGraphic_iff] at h
        exact .inr (.inl ⟨⟨List.cons_ne_nil _ _, List.forall_mem_cons.2 ⟨hg, h.1⟩⟩, h.2⟩)
      · exact .inr (.inr ((nonQuoted_other r (by simpa using hs) (by simpa using hg)).1 h))
  · rintro (⟨c, r, rfl, hs, hall⟩ | ⟨⟨hne, hall⟩, h⟩ | h)
    · exact (nonQuoted_small r hs).2 hall
    · cases s with
      | nil => exact absurd rfl hne
      | cons c r =>
        obtain ⟨hg, hr⟩ := List.forall_mem_cons.1 hall
        rw [nonQuoted_graphic hu r hg, nonQuotedGraphic_iff]; exact ⟨hr, h⟩
    · have : ∃ c r, s = c :: r ∧ c.toNat < 128 ∧ c.isLower = false ∧ graphic_token_char asciiUC c = false := by
        rcases h with rfl | rfl | rfl | rfl <;> exact ⟨_, _, rfl, by decide⟩
      obtain ⟨c, r, rfl, h1, h2, h3⟩ := this
      exact (nonQuoted_other r (small_false hu c h1 h2) h3).2 h

theorem printAtom_of_nonQuoted {s : List Char} (h : nonQuotedToken u s = true) : printAtom u true s = s := by
  simp [printAtom, printAtomImpl, h]

theorem printAtom_quoted {s : List Char} (h : ¬ nonQuotedToken u s = true) :
    printAtom u true s = '\'' :: (s.flatMap (charToString u true) ++ ['\'']) := by
  simp [printAtom, printAtomImpl, h]

end Scryer.Quote
