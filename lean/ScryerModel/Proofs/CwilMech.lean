import ScryerModel.Model.Cwil
/-! The counter mechanism (`CWIL`, Model/Cwil.lean layer 2) against the stack of remaining budgets.

`expected lc rs` is the limit stack the implementation must hold when the remaining budgets are `rs`
and the local count is `lc` (absolute limits `r + lc`, only the strict prefix minima pushed); `Inv`
ties a mechanism state to a budget stack through it.  `expected_head` reads the firing level and the
unwound stack off its head, `expected_tick` says a tick that does not fire leaves it unchanged; `step_sim` is the one-step simulation (repaired handler), `run_sim` / `final_inv` iterate it. -/
namespace Scryer.Cwil

/-- `CWIL::add_limit` on the stack of (absolute limit, block) entries: push unless the enclosing
limit is at least as tight. -/
def pushIf (lim lvl : Nat) (st : List (Nat × Nat)) : List (Nat × Nat) :=
  match st with
  | (inner, _) :: _ => if inner ≤ lim then st else (lim, lvl) :: st
  | [] => [(lim, lvl)]

/-- the limit stack for remaining budgets `rs` at local count `lc`. -/
def expected (lc : Nat) : Spec → List (Nat × Nat)
  | [] => []
  | r :: rest => pushIf (r + lc) (rest.length + 1) (expected lc rest)

structure Inv (m : MSt) (rs : Spec) : Prop where
  flag : m.c.exceeded = false
  depth : m.depth = rs.length
  lims : m.c.limits = expected m.c.localCount rs

theorem pushIf_cases (lim lvl : Nat) (st : List (Nat × Nat)) :
    (pushIf lim lvl st = st ∧ ∀ a j tl, st = (a, j) :: tl → a ≤ lim) ∨
    (pushIf lim lvl st = (lim, lvl) :: st ∧ ∀ a j tl, st = (a, j) :: tl → lim < a) := by
  match st with
  | [] => exact .inr ⟨rfl, nofun⟩
  | (a, j) :: tl =>
    by_cases h : a ≤ lim
    · exact .inl ⟨if_pos h, fun _ _ _ e => by cases e; exact h⟩
    · exact .inr ⟨if_neg h, fun _ _ _ e => by cases e; exact Nat.lt_of_not_le h⟩

theorem addLimit_fst (c : CWIL) (l blk : Nat) :
    (c.addLimit l blk).1 = { c with limits := pushIf (l + c.localCount) blk c.limits } := by
  obtain ⟨lc, gc, lims, ex⟩ := c
  match lims with
  | [] => rfl
  | (a, j) :: tl => simp only [CWIL.addLimit, pushIf]; split <;> rfl

theorem pushIf_ne_nil (lim lvl : Nat) (st : List (Nat × Nat)) : pushIf lim lvl st ≠ [] := by
  unfold pushIf
  split
  · split <;> nofun
  · nofun

theorem expected_nil {lc : Nat} : ∀ {rs : Spec}, expected lc rs = [] → rs = []
  | [], _ => rfl
  | _ :: _, h => absurd h (pushIf_ne_nil _ _ _)

theorem keepOuter_cons {j : Nat} (r : Nat) {rest : Spec} (h : j ≤ rest.length) :
    keepOuter j (r :: rest) = keepOuter j rest := by
  rw [keepOuter, List.length_cons, Nat.succ_sub h]; rfl

theorem keepOuter_length {j : Nat} {rs : Spec} (h : j ≤ rs.length) : (keepOuter j rs).length = j := by
  rw [keepOuter, List.length_drop, Nat.sub_sub_self h]

/-- What `increment` and the handler find at the head of the limit stack: its limit is the local count
exactly when a level fires, its block is that level, and under it lies the stack of the levels outside.
`lc ≤ a` is only there to carry the induction: a level not pushed under a head above `lc` has budget left. -/
theorem expected_head (lc : Nat) {rs : Spec} {a j : Nat} {tl : List (Nat × Nat)}
    (h : expected lc rs = (a, j) :: tl) :
    lc ≤ a ∧ j ≤ rs.length ∧ (firing rs = if lc = a then some j else none) ∧
      tl = expected lc (keepOuter (j - 1) rs) := by
  induction rs generalizing a j tl with
  | nil => cases h
  | cons r rest ih =>
    rw [expected] at h
    rcases pushIf_cases (r + lc) (rest.length + 1) (expected lc rest) with ⟨e, hle⟩ | ⟨e, hlt⟩
    · -- not pushed: the head is that of the enclosing levels, which are at least as tight
      rw [e] at h
      obtain ⟨h1, h3, h4, h5⟩ := ih h
      refine ⟨h1, Nat.le_succ_of_le h3, ?_, by rwa [keepOuter_cons r (Nat.le_trans (Nat.sub_le ..) h3)]⟩
      have := hle a j tl h
      by_cases hal : lc = a
      · simp [firing, h4, hal]
      · have : r ≠ 0 := by omega
        simp [firing, h4, hal, this]
    · -- pushed: strictly tighter than every enclosing level, none of which is exhausted
      rw [e] at h
      cases h
      have hrest : firing rest = none := by
        match hst : expected lc rest with
        | [] => rw [expected_nil hst]; rfl
        | (a', j') :: tl' =>
          have := hlt a' j' tl' hst
          rw [(ih hst).2.2.1, if_neg (by omega)]
      refine ⟨Nat.le_add_left .., Nat.le_refl _, ?_, ?_⟩
      · by_cases hr : r = 0 <;> simp [firing, hrest, hr]
      · rw [Nat.add_sub_cancel, keepOuter, List.length_cons, Nat.add_sub_cancel_left]
        rfl

theorem firing_cons_none {r : Nat} {rest : Spec} (h : firing (r :: rest) = none) :
    r ≠ 0 ∧ firing rest = none := by
  rw [firing] at h
  split at h
  · cases h
  · rename_i hf
    exact ⟨(by rintro rfl; cases h), hf⟩

theorem expected_tick (lc : Nat) : ∀ {rs : Spec}, firing rs = none →
    expected (lc + 1) (rs.map (· - 1)) = expected lc rs
  | [], _ => rfl
  | r :: rest, h => by
    obtain ⟨hr, hrest⟩ := firing_cons_none h
    have e : r - 1 + (lc + 1) = r + lc := by
      rw [Nat.add_comm lc 1, ← Nat.add_assoc, Nat.sub_one_add_one hr]
    show pushIf (r - 1 + (lc + 1)) ((rest.map (· - 1)).length + 1) (expected (lc + 1) (rest.map (· - 1))) = _
    rw [e, List.length_map, expected_tick lc hrest]
    rfl

theorem removeCallPolicyCheck_inv {c : CWIL} {rs : Spec} {d : Nat} (h : Inv ⟨c, d⟩ rs) :
    Inv ⟨c.removeCallPolicyCheck true, d⟩ rs := by
  unfold CWIL.removeCallPolicyCheck
  by_cases he : c.limits.isEmpty = true
  · obtain rfl : rs = [] := expected_nil (h.lims.symm.trans (List.isEmpty_iff.mp he))
    rw [Bool.true_and, if_pos he]
    exact ⟨rfl, h.depth, rfl⟩
  · rw [Bool.true_and, if_neg he]
    exact h

/-- `remove_limit` with the block of the innermost level pops that level's entry if it has one. -/
theorem removeLimit_fst {c : CWIL} {rs : Spec} (hl : c.limits = expected c.localCount rs) :
    (c.removeLimit rs.length).1 = { c with limits := expected c.localCount (rs.drop 1) } := by
  obtain ⟨lc, gc, lims, ex⟩ := c
  obtain rfl : lims = expected lc rs := hl
  match rs with
  | [] => rfl
  | r :: rest =>
    rcases pushIf_cases (r + lc) (rest.length + 1) (expected lc rest) with ⟨e, _⟩ | ⟨e, _⟩
    · match hst : expected lc rest with
      | [] => exact absurd (e.trans hst) (pushIf_ne_nil _ _ _)
      | (a, j) :: tl =>
        have : j ≠ rest.length + 1 := Nat.ne_of_lt (Nat.lt_succ_of_le (expected_head lc hst).2.1)
        rw [show expected lc (r :: rest) = expected lc rest from e]
        simp [CWIL.removeLimit, hst, this]
    · rw [show expected lc (r :: rest) = _ from e]
      simp [CWIL.removeLimit]

/-- leaving the innermost level (repaired or pinned handler: the flag is not set here). -/
theorem mleave_inv (fixed : Bool) {m : MSt} {rs : Spec} (h : Inv m rs) :
    Inv (mleave fixed m) (rs.drop 1) := by
  obtain ⟨hf, hd, hl⟩ := h
  have hc : (if fixed then { (m.c.removeLimit m.depth).1 with exceeded := false }
      else (m.c.removeLimit m.depth).1) = { m.c with limits := expected m.c.localCount (rs.drop 1) } := by
    rw [hd, removeLimit_fst hl]
    cases fixed
    · rfl
    · exact congrArg (CWIL.mk _ _ _) hf.symm
  show Inv ⟨CWIL.removeCallPolicyCheck _ true, m.depth - 1⟩ _
  rw [hc]
  exact removeCallPolicyCheck_inv ⟨hf, by rw [hd, List.length_drop], rfl⟩

/-- `increment_call_count` with the flag clear and no ball pending. -/
theorem increment_of_clear {c : CWIL} (hf : c.exceeded = false) :
    c.increment false = match c.limits with
      | (a, j) :: _ =>
        if c.localCount = a then ({ c with globalCount := c.globalCount + 1, exceeded := true }, some j)
        else ({ c with globalCount := c.globalCount + 1, localCount := c.localCount + 1 }, none)
      | [] => ({ c with globalCount := c.globalCount + 1 }, none) := by
  unfold CWIL.increment
  simp only [hf, Bool.or_self, Bool.false_eq_true, if_false, beq_iff_eq]
  rfl

theorem step_sim (m : MSt) (rs : Spec) (op : Op) (h : Inv m rs) :
    (mstep true m op).2 = (sstep rs op).2 ∧ Inv (mstep true m op).1 (sstep rs op).1 := by
  cases op with
  | enter l =>
    obtain ⟨hf, hd, hl⟩ := h
    refine ⟨rfl, ?_⟩
    show Inv ⟨(m.c.addLimit l (m.depth + 1)).1, m.depth + 1⟩ (l :: rs)
    rw [addLimit_fst]
    exact ⟨hf, congrArg (· + 1) hd, by show pushIf _ _ _ = _; rw [hd, hl]; rfl⟩
  | leave => exact ⟨rfl, mleave_inv true h⟩
  | tick =>
    obtain ⟨hf, hd, hl⟩ := h
    match hex : expected m.c.localCount rs with
    | [] =>
      obtain rfl := expected_nil hex
      rw [hex] at hl
      simp only [mstep, sstep, increment_of_clear hf, hl, firing]
      exact ⟨trivial, hf, hd, rfl⟩
    | (a, j) :: tl =>
      rw [hex] at hl
      obtain ⟨_, g3, g4, g5⟩ := expected_head _ hex
      by_cases hal : m.c.localCount = a
      · -- the limit fires at level j: the stack is unwound to that level
        rw [if_pos hal] at g4
        simp only [mstep, sstep, increment_of_clear hf, hl, if_pos hal, g4]
        refine ⟨trivial, ?_⟩
        unfold mleave
        simp only [CWIL.removeLimit, beq_self_eq_true, if_true]
        exact removeCallPolicyCheck_inv
          ⟨rfl, by rw [keepOuter_length (Nat.le_trans (Nat.sub_le ..) g3)], g5⟩
      · rw [if_neg hal] at g4
        simp only [mstep, sstep, increment_of_clear hf, hl, if_neg hal, g4]
        refine ⟨trivial, hf, by rw [List.length_map]; exact hd, ?_⟩
        show _ = expected (m.c.localCount + 1) _
        rw [expected_tick _ g4, hex]

theorem run_sim : ∀ (ops : List Op) (m : MSt) (rs : Spec), Inv m rs → mrun true m ops = srun rs ops := by
  intro ops
  induction ops with
  | nil => intro m rs _; rfl
  | cons op ops ih =>
    intro m rs h
    obtain ⟨h1, h2⟩ := step_sim m rs op h
    simp only [mrun, srun]
    rw [h1, ih _ _ h2]

theorem inv_init (lc gc : Nat) : Inv ⟨⟨lc, gc, [], false⟩, 0⟩ [] := ⟨rfl, rfl, rfl⟩

/-- the state after `ops`, which `mrun` and `srun` (the observations only) do not return. -/
def mfinal (fixed : Bool) : MSt → List Op → MSt
  | m, [] => m
  | m, op :: ops => mfinal fixed (mstep fixed m op).1 ops

def sfinal : Spec → List Op → Spec
  | rs, [] => rs
  | rs, op :: ops => sfinal (sstep rs op).1 ops

theorem final_inv : ∀ (ops : List Op) (m : MSt) (rs : Spec), Inv m rs →
    Inv (mfinal true m ops) (sfinal rs ops) := by
  intro ops
  induction ops with
  | nil => intro m rs h; exact h
  | cons op ops ih =>
    intro m rs h
    exact ih _ _ (step_sim m rs op h).2

end Scryer.Cwil
