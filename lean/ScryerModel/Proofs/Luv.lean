import ScryerModel.Model.Luv
/-!
Proofs for property C09 (logical update view, `Model/Luv.lean`). An update does one of three things
to the chain: it stamps live entries in place, which keeps their address, payload, birth and what
older generations see of them (`Quiet`); it appends a new-born entry; it pushes one onto the front.
What a choice point has still to deliver (`ahead`) survives each of them (`view_ahead_map`,
`view_ahead_append_new`, `ahead_cons_skip`), so it is the same before and after any updates
(`view_ahead_applyAll`, for the chain and for a line alike), and a step followed by retries, the
shape the two walks share (`hands_take`), delivers the call's own snapshot.
`WF` is the stamps invariant; under it the stamped chain refines the plain clause list
(`spec_applyAll`).
-/
namespace Scryer.Luv

variable {α : Type}

/-! ## visibility -/

@[simp] theorem kill_id (e : Entry α) (c : Nat) : (e.kill c).id = e.id := rfl
@[simp] theorem kill_cl (e : Entry α) (c : Nat) : (e.kill c).cl = e.cl := rfl
@[simp] theorem kill_birth (e : Entry α) (c : Nat) : (e.kill c).birth = e.birth := rfl
@[simp] theorem kill_death (e : Entry α) (c : Nat) : (e.kill c).death = some c := rfl

theorem vis_kill (e : Entry α) (cc clock : Nat) (hl : e.live = true) (hc : cc ≤ clock) :
    (e.kill clock).vis cc = e.vis cc := by
  cases e with
  | mk id b d cl =>
    cases d with
    | none => by_cases hb : b < cc <;> simp [Entry.vis, Entry.kill, hc, hb]
    | some d => simp [Entry.live] at hl

theorem vis_of_birth_ge (e : Entry α) (cc : Nat) (h : cc ≤ e.birth) : e.vis cc = false := by
  unfold Entry.vis
  rw [decide_eq_false (Nat.not_lt.2 h)]; rfl

theorem vis_new (id clock cc : Nat) (c : α) (hc : cc ≤ clock) :
    (⟨id, clock, none, c⟩ : Entry α).vis cc = false :=
  vis_of_birth_ge _ cc hc

/-! ## view -/

/-- how `view` lists an entry: its address and its clause. -/
def keyOf (e : Entry α) : Nat × α := (e.id, e.cl)

@[simp] theorem view_nil (cc : Nat) : view cc ([] : List (Entry α)) = [] := rfl

theorem view_cons (cc : Nat) (e : Entry α) (l : List (Entry α)) :
    view cc (e :: l) = if e.vis cc then (e.id, e.cl) :: view cc l else view cc l := by
  unfold view
  by_cases h : e.vis cc = true <;> simp [h]

theorem view_append (cc : Nat) (l₁ l₂ : List (Entry α)) :
    view cc (l₁ ++ l₂) = view cc l₁ ++ view cc l₂ := by
  simp [view, List.filter_append]

theorem view_map (cc : Nat) (g : Entry α → Entry α) (l : List (Entry α))
    (hid : ∀ e, (g e).id = e.id) (hcl : ∀ e, (g e).cl = e.cl)
    (hv : ∀ e ∈ l, (g e).vis cc = e.vis cc) : view cc (l.map g) = view cc l := by
  induction l with
  | nil => rfl
  | cons e l ih =>
    have h1 := hv e (List.mem_cons_self ..)
    have h2 := ih (fun x hx => hv x (List.mem_cons_of_mem _ hx))
    simp only [List.map_cons, view_cons, h1, h2, hid, hcl]

theorem view_all_new (cc : Nat) (l : List (Entry α)) (h : ∀ e ∈ l, cc ≤ e.birth) :
    view cc l = [] := by
  induction l with
  | nil => rfl
  | cons e l ih =>
    rw [view_cons, vis_of_birth_ge e cc (h e (List.mem_cons_self ..))]
    simpa using ih (fun x hx => h x (List.mem_cons_of_mem _ hx))

/-! ## findLiving -/

theorem findLiving_none (cc : Nat) (l : List (Entry α)) :
    findLiving cc l = none ↔ view cc l = [] := by
  induction l with
  | nil => simp [findLiving]
  | cons e l ih =>
    by_cases h : e.vis cc = true
    · simp [findLiving, view_cons, h]
    · simp [findLiving, view_cons, h, ih]

theorem findLiving_some (cc : Nat) (l : List (Entry α)) (e : Entry α) (rest : List (Entry α))
    (h : findLiving cc l = some (e, rest)) :
    view cc l = keyOf e :: view cc rest ∧ e :: rest <:+ l := by
  induction l with
  | nil => simp [findLiving] at h
  | cons x l ih =>
    by_cases hx : x.vis cc = true
    · simp [findLiving, hx] at h
      obtain ⟨rfl, rfl⟩ := h
      exact ⟨by simp [view_cons, hx, keyOf], List.suffix_refl _⟩
    · simp [findLiving, hx] at h
      exact ⟨by simp [view_cons, hx, (ih h).1], (ih h).2.trans (List.suffix_cons _ _)⟩

/-! ## the effect of one update on the chain, as seen from a choice point -/

/-- the entries the update leaves in place are changed by `g`, which keeps address, payload, birth
and everything an older generation can see -/
structure Quiet (clock : Nat) (g : Entry α → Entry α) : Prop where
  id : ∀ e, (g e).id = e.id
  cl : ∀ e, (g e).cl = e.cl
  birth : ∀ e, (g e).birth = e.birth
  vis : ∀ e cc, cc ≤ clock → (g e).vis cc = e.vis cc

theorem quiet_kill (clock : Nat) (p : Entry α → Bool) (hp : ∀ e, p e = true → e.live = true) :
    Quiet clock (fun e => if p e then e.kill clock else e) := by
  refine ⟨?_, ?_, ?_, ?_⟩
  · intro e; by_cases h : p e = true <;> simp [h]
  · intro e; by_cases h : p e = true <;> simp [h]
  · intro e; by_cases h : p e = true <;> simp [h]
  · intro e cc hc
    by_cases h : p e = true
    · simp [h, vis_kill e cc clock (hp e h) hc]
    · simp [h]

/-! ## the clock and the next address only grow -/

theorem le_apply (db : DB α) (u : Upd α) :
    db.clock ≤ (db.apply u).clock ∧ db.next ≤ (db.apply u).next := by
  cases u with
  | assertz c => exact ⟨Nat.le_succ _, Nat.le_succ _⟩
  | asserta c => exact ⟨Nat.le_succ _, Nat.le_succ _⟩
  | retractId id =>
    rw [DB.apply]
    split
    · exact ⟨Nat.le_succ _, Nat.le_refl _⟩
    · exact ⟨Nat.le_refl _, Nat.le_refl _⟩
  | _ => exact ⟨Nat.le_succ _, Nat.le_refl _⟩

theorem le_applyAll (db : DB α) (us : List (Upd α)) :
    db.clock ≤ (db.applyAll us).clock ∧ db.next ≤ (db.applyAll us).next := by
  induction us generalizing db with
  | nil => exact ⟨Nat.le_refl _, Nat.le_refl _⟩
  | cons u us ih =>
    exact ⟨Nat.le_trans (le_apply db u).1 (ih _).1, Nat.le_trans (le_apply db u).2 (ih _).2⟩

theorem next_le_applyAll (db : DB α) (us : List (Upd α)) : db.next ≤ (db.applyAll us).next :=
  (le_applyAll db us).2

/-! ## what a choice point has in front of it

A choice point of the chain walk looks at the chain behind an address (`suffixFrom`), one of a line
walk at the line without the entries born since its generation (`core`, below), some positions
further on: both skip a prefix that they recognise by address and birth. -/

/-- what a choice point has still in front of it: of the clauses filed under its key (`sel`), those
behind the prefix it skips (`skip address birth`), `n` further on -/
def ahead (skip : Nat → Nat → Bool) (sel : α → Bool) (n : Nat) (l : List (Entry α)) :
    List (Entry α) :=
  ((l.filter (fun e => sel e.cl)).dropWhile (fun e => skip e.id e.birth)).drop n

/-- stamping in place is invisible from a choice point of an older generation -/
theorem view_ahead_map {clock : Nat} {g : Entry α → Entry α} (hq : Quiet clock g) (cc : Nat)
    (hc : cc ≤ clock) (skip : Nat → Nat → Bool) (sel : α → Bool) (n : Nat) (l : List (Entry α)) :
    view cc (ahead skip sel n (l.map g)) = view cc (ahead skip sel n l) := by
  have : ahead skip sel n (l.map g) = (ahead skip sel n l).map g := by
    simp only [ahead, List.filter_map, List.dropWhile_map, List.map_drop, Function.comp_def, hq.id,
      hq.cl, hq.birth]
  exact this ▸ view_map cc g _ hq.id hq.cl fun e _ => hq.vis e cc hc

/-- so is appending clauses born at or after that generation -/
theorem view_ahead_append_new (cc : Nat) (skip : Nat → Nat → Bool) (sel : α → Bool) (n : Nat)
    (l back : List (Entry α)) (hb : ∀ e ∈ back, cc ≤ e.birth) :
    view cc (ahead skip sel n (l ++ back)) = view cc (ahead skip sel n l) := by
  have hbn : ∀ e ∈ back.filter (fun e => sel e.cl), cc ≤ e.birth :=
    fun e he => hb e (List.mem_filter.mp he).1
  unfold ahead
  rw [List.filter_append, List.dropWhile_append]
  split
  · next h =>
    rw [List.isEmpty_iff.1 h, List.drop_nil]
    exact view_all_new cc _ fun e he =>
      hbn e ((List.dropWhile_sublist _).subset (List.mem_of_mem_drop he))
  · rw [List.drop_append, view_append,
      view_all_new cc _ fun e he => hbn e (List.mem_of_mem_drop he), List.append_nil]

/-- so is pushing a clause the choice point skips onto the front -/
theorem ahead_cons_skip (skip : Nat → Nat → Bool) (sel : α → Bool) (n : Nat) (e : Entry α)
    (l : List (Entry α)) (h : skip e.id e.birth = true) :
    ahead skip sel n (e :: l) = ahead skip sel n l := by
  unfold ahead
  rw [List.filter_cons]
  split
  · rw [List.dropWhile_cons, if_pos h]
  · rfl

/-- **one update, seen from a choice point of generation `cc`**: if the choice point skips what is
born now, the clauses it has still to deliver are the same before and after -/
theorem view_ahead_apply (db : DB α) (u : Upd α) (cc : Nat) (hc : cc ≤ db.clock)
    (skip : Nat → Nat → Bool) (hnew : skip db.next db.clock = true) (sel : α → Bool) (n : Nat) :
    view cc (ahead skip sel n (db.apply u).chain) = view cc (ahead skip sel n db.chain) := by
  cases u with
  | assertz c =>
    exact view_ahead_append_new cc skip sel n _ _ fun e he => List.mem_singleton.1 he ▸ hc
  | asserta c => exact congrArg (view cc) (ahead_cons_skip skip sel n _ _ hnew)
  | retractId id =>
    rw [DB.apply]
    split
    · exact view_ahead_map
        (quiet_kill db.clock (targets id) fun e he => (Bool.and_eq_true_iff.1 he).2) cc hc ..
    · rfl
  | abolish => exact view_ahead_map (quiet_kill db.clock Entry.live fun _ h => h) cc hc ..
  | tick => rfl

theorem view_ahead_applyAll (db : DB α) (us : List (Upd α)) (cc m : Nat) (hc : cc ≤ db.clock)
    (hm : m ≤ db.next) (skip : Nat → Nat → Bool)
    (hnew : ∀ i b, m ≤ i → cc ≤ b → skip i b = true) (sel : α → Bool) (n : Nat) :
    view cc (ahead skip sel n (db.applyAll us).chain) = view cc (ahead skip sel n db.chain) := by
  induction us generalizing db with
  | nil => rfl
  | cons u us ih =>
    exact (ih _ (Nat.le_trans hc (le_apply db u).1) (Nat.le_trans hm (le_apply db u).2)).trans
      (view_ahead_apply db u cc hc skip (hnew _ _ hm hc) sel n)

theorem suffixFrom_eq_ahead (id : Nat) (l : List (Entry α)) :
    suffixFrom id l = ahead (fun i _ => i != id) (fun _ => true) 0 l := by
  rw [ahead, List.filter_eq_self.2 fun _ _ => rfl]; rfl

theorem suffixFrom_skip (id : Nat) (front l : List (Entry α)) (h : ∀ e ∈ front, e.id ≠ id) :
    suffixFrom id (front ++ l) = suffixFrom id l :=
  List.dropWhile_append_of_pos fun e he => bne_iff_ne.2 (h e he)

/-- with unique addresses, the address of an entry designates the chain from that entry on -/
theorem suffixFrom_of_nodup {nx : Entry α} {tl l : List (Entry α)} (h : nx :: tl <:+ l)
    (nd : (l.map Entry.id).Nodup) : suffixFrom nx.id l = nx :: tl := by
  obtain ⟨pre, rfl⟩ := h
  rw [List.map_append, List.map_cons] at nd
  rw [suffixFrom_skip]
  · simp [suffixFrom]
  · exact fun e he heq =>
      (List.nodup_append.mp nd).2.2 e.id (List.mem_map_of_mem he) nx.id (List.mem_cons_self ..) heq

/-! ## the stamps invariant -/

/-- births lie before deaths, all stamps before the clock, addresses are unique and below the
allocation counter -/
structure WF (db : DB α) : Prop where
  birth_lt : ∀ e ∈ db.chain, e.birth < db.clock
  death_ok : ∀ e ∈ db.chain, ∀ d, e.death = some d → e.birth < d ∧ d < db.clock
  id_lt : ∀ e ∈ db.chain, e.id < db.next
  nodup : (db.chain.map Entry.id).Nodup

theorem WF.empty : WF (DB.empty : DB α) :=
  ⟨nofun, nofun, nofun, List.nodup_nil⟩

/-- the part of the stamps invariant that speaks of one clause. -/
def EntryOK (clock next : Nat) (e : Entry α) : Prop :=
  e.birth < clock ∧ (∀ d, e.death = some d → e.birth < d ∧ d < clock) ∧ e.id < next

theorem WF.entry {db : DB α} (h : WF db) {e : Entry α} (he : e ∈ db.chain) :
    EntryOK db.clock db.next e :=
  ⟨h.birth_lt e he, h.death_ok e he, h.id_lt e he⟩

theorem WF.of_entries {db : DB α} (h : ∀ e ∈ db.chain, EntryOK db.clock db.next e)
    (nd : (db.chain.map Entry.id).Nodup) : WF db :=
  ⟨fun e he => (h e he).1, fun e he => (h e he).2.1, fun e he => (h e he).2.2, nd⟩

theorem EntryOK.mono {c c' n n' : Nat} {e : Entry α} (h : EntryOK c n e) (hc : c ≤ c') (hn : n ≤ n') :
    EntryOK c' n' e :=
  ⟨Nat.lt_of_lt_of_le h.1 hc, fun d hd => ⟨(h.2.1 d hd).1, Nat.lt_of_lt_of_le (h.2.1 d hd).2 hc⟩,
    Nat.lt_of_lt_of_le h.2.2 hn⟩

theorem EntryOK.kill {c n : Nat} {e : Entry α} (h : EntryOK c n e) : EntryOK (c + 1) n (e.kill c) :=
  ⟨Nat.lt_succ_of_lt h.1, fun d hd => by cases hd; exact ⟨h.1, Nat.lt_succ_self _⟩, h.2.2⟩

theorem WF.kill (db : DB α) (h : WF db) (p : Entry α → Bool) :
    WF ⟨db.chain.map (fun e => if p e then e.kill db.clock else e), db.clock + 1, db.next⟩ := by
  refine WF.of_entries (fun e he => ?_) ?_
  · obtain ⟨x, hx, rfl⟩ := List.mem_map.1 he
    split
    · exact (h.entry hx).kill
    · exact (h.entry hx).mono (Nat.le_succ _) (Nat.le_refl _)
  · have : (db.chain.map (fun e => if p e then e.kill db.clock else e)).map Entry.id
        = db.chain.map Entry.id := by
      rw [List.map_map]
      exact List.map_congr_left fun e _ => by
        show (if p e then e.kill db.clock else e).id = e.id
        split <;> rfl
    exact this ▸ h.nodup

theorem WF.insert {db : DB α} (h : WF db) (c : α) (pre post : List (Entry α))
    (hch : db.chain = pre ++ post) :
    WF ⟨pre ++ ⟨db.next, db.clock, none, c⟩ :: post, db.clock + 1, db.next + 1⟩ := by
  have old : ∀ e, e ∈ db.chain → EntryOK (db.clock + 1) (db.next + 1) e :=
    fun e he => (h.entry he).mono (Nat.le_succ _) (Nat.le_succ _)
  refine WF.of_entries (fun e he => ?_) ?_
  · rcases List.mem_append.1 he with h' | h'
    · exact old e (hch ▸ List.mem_append_left _ h')
    · rcases List.mem_cons.1 h' with rfl | h'
      · exact ⟨Nat.lt_succ_self _, fun _ hd => (nomatch hd), Nat.lt_succ_self _⟩
      · exact old e (hch ▸ List.mem_append_right _ h')
  · show ((pre ++ _ :: post).map Entry.id).Nodup
    rw [List.map_append, List.map_cons]
    refine List.perm_middle.nodup_iff.2 (List.nodup_cons.2 ⟨fun hm => ?_, ?_⟩)
    · rw [← List.map_append, ← hch] at hm
      obtain ⟨x, hx, hxe⟩ := List.mem_map.1 hm
      exact absurd (h.id_lt x hx) (hxe ▸ Nat.lt_irrefl _)
    · rw [← List.map_append, ← hch]; exact h.nodup

theorem WF.apply {db : DB α} (h : WF db) (u : Upd α) : WF (db.apply u) := by
  cases u with
  | assertz c => exact h.insert c db.chain [] (List.append_nil _).symm
  | asserta c => exact h.insert c [] db.chain rfl
  | retractId id =>
    rw [DB.apply]
    split
    · exact WF.kill db h (targets id)
    · exact h
  | abolish => exact WF.kill db h Entry.live
  | tick =>
    exact WF.of_entries (fun e he => (h.entry he).mono (Nat.le_succ _) (Nat.le_refl _)) h.nodup

theorem WF.applyAll {db : DB α} (h : WF db) (us : List (Upd α)) : WF (db.applyAll us) := by
  induction us generalizing db with
  | nil => exact h
  | cons u us ih => exact ih (h.apply u)

/-! ## retrying a choice point -/

/-- one execution of the dispatch instruction hands over the first of the pending clauses `vs` and
leaves a choice point for the rest (`Next`), or none when nothing is left -/
def Hands {φ : Type} (Next : φ → List (Nat × α) → Prop) (s : Step α φ) (vs : List (Nat × α)) :
    Prop :=
  ∃ e t, vs = keyOf e :: t ∧ s.out = some e ∧ s.stuck = false ∧
    match s.frame with
    | none => t = []
    | some f' => Next f' t

/-- a step that hands over the head of `vs`, followed by `n` retries (`r`) that deliver what is
pending: the shape of a call, and of a retry followed by further retries -/
theorem hands_take {φ : Type} (r : Option φ → List (Entry α) × Bool) (hnone : r none = ([], false))
    (Next : φ → List (Nat × α) → Prop) (n : Nat)
    (ih : ∀ f vs, Next f vs → (r (some f)).1.map keyOf = vs.take n ∧ (r (some f)).2 = false)
    (s : Step α φ) (vs : List (Nat × α)) (h : Hands Next s vs) (res : List (Entry α) × Bool)
    (hres : res = match s.out with
      | none => ([], false)
      | some e => (e :: (r s.frame).1, (r s.frame).2)) :
    res.1.map keyOf = vs.take (n + 1) ∧ res.2 = false := by
  obtain ⟨e, t, rfl, hout, -, hfr⟩ := h
  rw [hres, hout]
  cases hf : s.frame with
  | none => rw [hf] at hfr; rw [hfr, hnone]; exact ⟨by simp, rfl⟩
  | some f' =>
    rw [hf] at hfr
    exact ⟨congrArg (keyOf e :: ·) (ih f' t hfr).1, (ih f' t hfr).2⟩

theorem Hands.not_stuck {φ : Type} {Next : φ → List (Nat × α) → Prop} {s : Step α φ}
    {vs : List (Nat × α)} (h : Hands Next s vs) : ¬ s.stuck = true := by
  obtain ⟨_, _, _, _, h, _⟩ := h
  exact Bool.eq_false_iff.1 h

/-! ## walking the chain -/

/-- the chain walk's choice point `f` has still to deliver `vs`, and there is something left -/
def ChainTodo (f : Frame) (db : DB α) (vs : List (Nat × α)) : Prop :=
  WF db ∧ f.cc ≤ db.clock ∧ f.bp < db.next ∧ view f.cc (suffixFrom f.bp db.chain) = vs ∧ vs ≠ []

theorem ChainTodo.applyAll {f : Frame} {db : DB α} {vs : List (Nat × α)} (h : ChainTodo f db vs)
    (us : List (Upd α)) : ChainTodo f (db.applyAll us) vs := by
  refine ⟨h.1.applyAll us, Nat.le_trans h.2.1 (le_applyAll db us).1,
    Nat.lt_of_lt_of_le h.2.2.1 (le_applyAll db us).2, ?_, h.2.2.2.2⟩
  rw [← h.2.2.2.1, suffixFrom_eq_ahead, suffixFrom_eq_ahead]
  -- the walk skips every address but `bp`, hence all from `bp + 1` on; the entries added meanwhile get
  -- theirs from `db.next` on, which is why `ChainTodo` carries `f.bp < db.next`
  exact view_ahead_applyAll db us f.cc (f.bp + 1) h.2.1 h.2.2.1 _
    (fun i _ hi _ => bne_iff_ne.2 (Nat.ne_of_gt hi)) _ 0

theorem chainNext_hands (v : Variant) (hv : v.cc = true) (reg : Nat) (f : Frame) (db : DB α)
    (hwf : WF db) (hcc : f.cc ≤ db.clock) (l : List (Entry α)) (hl : l <:+ db.chain)
    (hne : view f.cc l ≠ []) : Hands (ChainTodo · db) (chainNext v reg f l) (view f.cc l) := by
  cases hfl : findLiving f.cc l with
  | none => exact absurd ((findLiving_none _ _).mp hfl) hne
  | some p =>
    obtain ⟨e, rest⟩ := p
    obtain ⟨h1, hsfx⟩ := findLiving_some _ _ _ _ hfl
    refine ⟨e, _, h1, ?_⟩
    rw [chainNext]
    simp only [hv, if_true, hfl]
    cases rest with
    | nil => exact ⟨rfl, rfl, rfl⟩
    | cons nx tl =>
      cases hfr : findLiving f.cc (nx :: tl) with
      | none => exact ⟨rfl, rfl, (findLiving_none _ _).mp hfr⟩
      | some q =>
        -- with unique addresses the new `bp` designates the chain behind the delivered clause
        have hnx : nx :: tl <:+ db.chain := ((List.suffix_cons e _).trans hsfx).trans hl
        refine ⟨rfl, rfl, hwf, hcc, hwf.id_lt nx (hnx.subset (List.mem_cons_self ..)),
          by rw [suffixFrom_of_nodup hnx hwf.nodup], fun h => ?_⟩
        rw [(findLiving_none _ _).mpr h] at hfr; cases hfr

theorem chainFirst_eq_chainNext (v : Variant) (hv : v.cc = true) (reg bp clock : Nat)
    (l : List (Entry α)) (hne : view clock l ≠ []) :
    chainFirst clock l = chainNext v reg ⟨clock, bp⟩ l := by
  unfold chainFirst chainNext
  simp only [hv, if_true]
  cases hfl : findLiving clock l with
  | none => exact absurd ((findLiving_none _ _).mp hfl) hne
  | some p => obtain ⟨e, rest⟩ := p; rfl

theorem runChain_none (v : Variant) (db : DB α) (ils : List (Interlude α)) :
    runChain v db none ils = ([], false) := by
  cases ils <;> rfl

/-- the retry loop is `take` on what is pending: updates keep `ChainTodo`, a retry hands over the
head and leaves a choice point for the tail -/
theorem runChain_fixed (v : Variant) (hv : v.cc = true) : ∀ (ils : List (Interlude α)) (db : DB α)
    (f : Frame) (vs : List (Nat × α)), ChainTodo f db vs →
    (runChain v db (some f) ils).1.map keyOf = vs.take ils.length ∧
    (runChain v db (some f) ils).2 = false
  | [], _, _, _, _ => ⟨rfl, rfl⟩
  | il :: ils, db, f, vs, h => by
    obtain ⟨hwf, hcc, -, rfl, hne⟩ := h.applyAll il.upds
    have hs := chainNext_hands v hv il.reg f _ hwf hcc (suffixFrom f.bp _)
      (List.dropWhile_suffix _) hne
    rw [runChain, if_neg hs.not_stuck]
    exact hands_take (runChain v _ · ils) (runChain_none v _ ils) _ ils.length
      (runChain_fixed v hv ils _) _ _ hs _ rfl

/-- **frozen view, chain walk.** A call through the chain of `DynamicElse` instructions, backtracked
into after arbitrary interludes, delivers the clauses of its own snapshot, in order. The same for a
line needs both repairs and is stated for `Variant.fixed` alone: `C09_frozen_view_line`. -/
theorem callChain_fixed (v : Variant) (hv : v.cc = true) (db : DB α) (hwf : WF db)
    (ils : List (Interlude α)) :
    (callChain v db ils).1.map keyOf = db.snapshot.take (ils.length + 1) ∧
    (callChain v db ils).2 = false := by
  by_cases hne : db.snapshot = []
  · rw [callChain, chainFirst, (findLiving_none _ _).mpr hne, hne]
    exact ⟨rfl, rfl⟩
  · -- the first entry does what the retry of a choice point that saved the current clock and the
    -- start of the chain would do
    have := chainNext_hands v hv 0 ⟨db.clock, 0⟩ db hwf (Nat.le_refl _) _ (List.suffix_refl _) hne
    rw [← chainFirst_eq_chainNext v hv 0 0 db.clock db.chain hne] at this
    exact hands_take (runChain v db · ils) (runChain_none v db ils) _ ils.length
      (fun f vs => runChain_fixed v hv ils db f vs) _ _ this _ rfl

/-! ## walking a DynamicIndexedChoice line -/

/-- the line without the clauses `asserta` pushed onto its front after generation `cc` -/
def core (cc : Nat) (l : List (Entry α)) : List (Entry α) :=
  l.dropWhile (fun e => decide (cc ≤ e.birth))

theorem drop_lead (cc n : Nat) (l : List (Entry α)) :
    l.drop (n + lead cc l) = (core cc l).drop n := by
  induction l with
  | nil => simp [lead, core]
  | cons e es ih =>
    by_cases h : cc ≤ e.birth
    · simp only [lead, h, if_true, core, List.dropWhile_cons, decide_true]
      rw [← Nat.add_assoc, List.drop_succ_cons]
      exact ih
    · simp [lead, h, core]

theorem view_core (cc : Nat) (l : List (Entry α)) : view cc (core cc l) = view cc l := by
  induction l with
  | nil => rfl
  | cons e es ih =>
    by_cases h : cc ≤ e.birth
    · simp only [core, List.dropWhile_cons, h, decide_true, if_true, view_cons,
        vis_of_birth_ge e cc h]
      simpa [core] using ih
    · simp [core, h]

theorem findLivingIdx_none (cc : Nat) (l : List (Entry α)) (ii : Nat) :
    findLivingIdx cc l ii = none ↔ view cc l = [] := by
  induction l generalizing ii with
  | nil => simp [findLivingIdx]
  | cons e l ih =>
    by_cases h : e.vis cc = true
    · simp [findLivingIdx, view_cons, h]
    · simp [findLivingIdx, view_cons, h, ih]

theorem findLivingIdx_some (cc : Nat) (l : List (Entry α)) (ii : Nat) (e : Entry α) (jj : Nat)
    (h : findLivingIdx cc l ii = some (e, jj)) :
    ∃ k, jj = ii + k ∧ view cc l = keyOf e :: view cc (l.drop (k + 1)) := by
  induction l generalizing ii with
  | nil => cases h
  | cons x l ih =>
    by_cases hx : x.vis cc = true
    · rw [findLivingIdx, if_pos hx] at h
      cases h
      exact ⟨0, rfl, by rw [view_cons, if_pos hx]; rfl⟩
    · rw [findLivingIdx, if_neg hx] at h
      obtain ⟨k, rfl, hk⟩ := ih (ii + 1) h
      exact ⟨k + 1, Nat.add_right_comm ii 1 k, by rw [view_cons, if_neg hx, hk]; rfl⟩

theorem findLivingAt_none (cc : Nat) (line : List (Entry α)) (ii : Nat) :
    findLivingAt cc line ii = none ↔ view cc (line.drop ii) = [] :=
  findLivingIdx_none cc _ ii

theorem findLivingAt_some (cc : Nat) (line : List (Entry α)) (ii : Nat) (e : Entry α) (jj : Nat)
    (h : findLivingAt cc line ii = some (e, jj)) :
    ii ≤ jj ∧ view cc (line.drop ii) = keyOf e :: view cc (line.drop (jj + 1)) := by
  obtain ⟨k, rfl, hk⟩ := findLivingIdx_some cc _ ii e jj h
  exact ⟨Nat.le_add_right _ _, by rw [hk, List.drop_drop]; rfl⟩

/-- the first entry starts behind the clauses born at the clock, which it would not see anyway -/
theorem findLivingAt_lead_none (cc : Nat) (line : List (Entry α)) :
    findLivingAt cc line (lead cc line) = none ↔ view cc line = [] := by
  rw [findLivingAt_none, ← Nat.zero_add (lead cc line), drop_lead, List.drop_zero, view_core]

/-- the line walk's choice point `f` has still to deliver `vs`, and there is something left -/
def LineTodo (sel : α → Bool) (f : BFrame) (db : DB α) (vs : List (Nat × α)) : Prop :=
  f.cc ≤ db.clock ∧
    view f.cc ((core f.cc (db.chain.filter (fun e => sel e.cl))).drop f.biip) = vs ∧ vs ≠ []

theorem LineTodo.applyAll {sel : α → Bool} {f : BFrame} {db : DB α} {vs : List (Nat × α)}
    (h : LineTodo sel f db vs) (us : List (Upd α)) : LineTodo sel f (db.applyAll us) vs :=
  ⟨Nat.le_trans h.1 (le_applyAll db us).1,
    (view_ahead_applyAll db us f.cc 0 h.1 (Nat.zero_le _) (fun _ b => decide (f.cc ≤ b))
      (fun _ _ _ hb => decide_eq_true hb) sel f.biip).trans h.2.1, h.2.2⟩

theorem lineNext_hands (sel : α → Bool) (reg : Nat) (f : BFrame) (db : DB α) (vs : List (Nat × α))
    (h : LineTodo sel f db vs) :
    Hands (LineTodo sel · db) (lineNext .fixed reg f (db.chain.filter (fun e => sel e.cl))) vs := by
  obtain ⟨hcc, rfl, hne⟩ := h
  unfold LineTodo
  generalize db.chain.filter (fun e => sel e.cl) = line at hne ⊢
  rw [← drop_lead] at hne
  cases hfl : findLivingAt f.cc line (f.biip + lead f.cc line) with
  | none => exact absurd ((findLivingAt_none _ _ _).mp hfl) hne
  | some p =>
    obtain ⟨e, jj⟩ := p
    obtain ⟨h1, h2⟩ := findLivingAt_some _ _ _ _ _ hfl
    -- the new `biip` counts from the first clause that was in the line at generation `cc`
    have hm : jj + 1 = (jj + 1 - lead f.cc line) + lead f.cc line :=
      (Nat.sub_add_cancel (Nat.le_trans (Nat.le_add_left _ _) (Nat.le_succ_of_le h1))).symm
    have hd : (core f.cc line).drop (jj + 1 - lead f.cc line) = line.drop (jj + 1) := by
      rw [← drop_lead, ← hm]
    refine ⟨e, _, by rw [← drop_lead]; exact h2, ?_⟩
    rw [lineNext]
    simp only [Variant.fixed, if_true, hfl]
    cases hfr : findLivingAt f.cc line (jj + 1) with
    | none => exact ⟨rfl, rfl, (findLivingAt_none _ _ _).mp hfr⟩
    | some q =>
      refine ⟨rfl, rfl, hcc, by rw [hd], fun h => ?_⟩
      rw [(findLivingAt_none _ _ _).mpr h] at hfr; cases hfr

theorem lineFirst_eq_lineNext (reg clock : Nat) (line : List (Entry α))
    (hne : view clock line ≠ []) :
    lineFirst .fixed clock line = lineNext .fixed reg ⟨clock, 0⟩ line := by
  unfold lineFirst lineNext
  simp only [Variant.fixed, if_true, Nat.zero_add]
  cases hfl : findLivingAt clock line (lead clock line) with
  | none => exact absurd ((findLivingAt_lead_none _ _).mp hfl) hne
  | some p => rfl

theorem runLine_none (v : Variant) (sel : α → Bool) (db : DB α) (ils : List (Interlude α)) :
    runLine v sel db none ils = ([], false) := by
  cases ils <;> rfl

theorem runLine_fixed (sel : α → Bool) :
    ∀ (ils : List (Interlude α)) (db : DB α) (f : BFrame) (vs : List (Nat × α)),
    LineTodo sel f db vs →
    (runLine .fixed sel db (some f) ils).1.map keyOf = vs.take ils.length ∧
    (runLine .fixed sel db (some f) ils).2 = false
  | [], _, _, _, _ => ⟨rfl, rfl⟩
  | il :: ils, db, f, vs, h => by
    have hs := lineNext_hands sel il.reg f _ vs (h.applyAll il.upds)
    rw [runLine, if_neg hs.not_stuck]
    exact hands_take (runLine .fixed sel _ · ils) (runLine_none .fixed sel _ ils) _ ils.length
      (runLine_fixed sel ils _) _ _ hs _ rfl

/-! ## `view` and the selection by key -/

theorem view_filter (cc : Nat) (sel : α → Bool) (l : List (Entry α)) :
    view cc (l.filter (fun e => sel e.cl)) = (view cc l).filter (fun p => sel p.2) := by
  induction l with
  | nil => rfl
  | cons e l ih =>
    by_cases hs : sel e.cl = true <;> by_cases hv : e.vis cc = true <;>
      simp [view_cons, hs, hv, ih]

/-! ## refinement to the stamp-free list -/

/-- under the stamps invariant a call starting now sees exactly the clauses not yet retracted: every
birth lies before the clock and no death does, so the stamp test at the clock is the test for life -/
theorem snapshot_eq_liveList {db : DB α} (h : WF db) : db.snapshot = db.liveList := by
  unfold DB.snapshot DB.liveList view
  congr 1
  apply List.filter_congr
  intro e he
  have hb := h.birth_lt e he
  have hd := h.death_ok e he
  cases e with
  | mk id b d cl =>
    unfold Entry.vis Entry.live
    rw [decide_eq_true hb]
    cases d with
    | none => rfl
    | some d => exact decide_eq_false (Nat.not_le.2 (hd d rfl).2)

theorem live_kill (p : Entry α → Bool) (clock : Nat) (l : List (Entry α)) :
    (l.map (fun e => if p e then e.kill clock else e)).filter Entry.live
      = l.filter (fun e => e.live && !p e) := by
  induction l with
  | nil => rfl
  | cons e l ih =>
    have hk : (e.kill clock).live = false := rfl
    by_cases hp : p e = true <;> simp [hp, hk, ih, List.filter_cons]

theorem liveList_apply (db : DB α) (u : Upd α) :
    (⟨(db.apply u).liveList, (db.apply u).next⟩ : Spec α)
      = (⟨db.liveList, db.next⟩ : Spec α).apply u := by
  have hn : ∀ c, (⟨db.next, db.clock, none, c⟩ : Entry α).live = true := fun _ => rfl
  cases u with
  | assertz c => simp [DB.apply, DB.liveList, Spec.apply, List.filter_append, hn]
  | asserta c => simp [DB.apply, DB.liveList, Spec.apply, hn]
  | retractId id =>
    have key : ((db.chain.map fun e => if targets id e then e.kill db.clock else e).filter
        Entry.live).map (fun e => (e.id, e.cl)) = db.liveList.filter (fun p => p.1 != id) := by
      rw [live_kill, DB.liveList, List.filter_map, List.filter_filter]
      congr 1
      apply List.filter_congr
      intro e _
      by_cases hl : e.live = true <;> simp [targets, hl, bne]
    by_cases ha : db.chain.any (targets id) = true
    · rw [DB.apply, if_pos ha]; exact congrArg (Spec.mk · db.next) key
    · -- nothing to retract: stamping the targets changes nothing
      rw [List.map_congr_left fun e he => if_neg fun ht => ha (List.any_eq_true.2 ⟨e, he, ht⟩),
        List.map_id'] at key
      rw [DB.apply, if_neg ha]; exact congrArg (Spec.mk · db.next) key
  | abolish => simp [DB.apply, DB.liveList, Spec.apply, live_kill]
  | tick => rfl

theorem spec_apply {db : DB α} (h : WF db) (u : Upd α) : (db.apply u).spec = db.spec.apply u := by
  rw [DB.spec, DB.spec, snapshot_eq_liveList (h.apply u), snapshot_eq_liveList h]
  exact liveList_apply db u

theorem spec_applyAll {db : DB α} (h : WF db) (us : List (Upd α)) :
    (db.applyAll us).spec = db.spec.applyAll us := by
  induction us generalizing db with
  | nil => rfl
  | cons u us ih => exact (ih (h.apply u)).trans (congrArg (·.applyAll us) (spec_apply h u))

/-! ## retract -/

theorem retractRun_last (db : DB α) (p q : Nat × α) (qs : List (Nat × α)) :
    retractRun db (p :: q :: qs) [] = ([p], db.apply (.retractId p.1)) := rfl

theorem retractRun_solutions (ps : List (Nat × α)) (db : DB α) (ils : List (Interlude α)) :
    (retractRun db ps ils).1 = ps.take (ils.length + 1) := by
  fun_induction retractRun db ps ils <;> simp [*]

theorem snapshot_ids_nodup {db : DB α} (h : WF db) : (db.snapshot.map Prod.fst).Nodup := by
  have : db.snapshot.map Prod.fst = (db.chain.filter (Entry.vis db.clock)).map Entry.id := by
    simp [DB.snapshot, view, List.map_map, Function.comp]
  rw [this]
  exact List.Nodup.sublist ((List.filter_sublist).map _) h.nodup

theorem filter_ne_of_nodup (pre post : List (Nat × α)) (p : Nat × α)
    (h : ((pre ++ p :: post).map Prod.fst).Nodup) :
    (pre ++ p :: post).filter (fun q => q.1 != p.1) = pre ++ post := by
  rw [List.map_append, List.map_cons] at h
  have hp : p.1 ∉ (pre ++ post).map Prod.fst := by
    rw [List.map_append]; exact (List.nodup_cons.1 (List.perm_middle.nodup_iff.1 h)).1
  rw [List.filter_append, List.filter_cons_of_neg (by simp), ← List.filter_append]
  exact List.filter_eq_self.2 fun q hq => bne_iff_ne.2 fun he => hp (he ▸ List.mem_map_of_mem hq)
end Scryer.Luv
