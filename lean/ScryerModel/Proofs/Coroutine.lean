import ScryerModel.Model.Coroutine
import ScryerModel.Proofs.Unify
import ScryerModel.Proofs.TermOps
/-
C26 — lemmas about `Scryer.Coroutine.exec`.

Every test `exec` makes (unifiability of the next equation, "dif violated", "dif still
unifiable", "condition holds") is made under the current substitution `σ`; because `σ` is a most
general unifier of the equations posted so far (`IsMgu st.σ st.eqs`, part of the invariant `Inv`),
each test is equivalent to a *semantic* statement about the set of unifiers of `st.eqs`
(`Sat`, `Entails`, `Compat`, `Cond.Sem`), and these are monotone in the set of equations.
Confluence then follows from a simulation argument (`exec_below`): a successful run ends in a
store `T` that is consistent and closed (`Target`); every run whose postings all belong to `T`
stays below `T` and therefore can neither fail nor wake a goal that `T` has not woken.
Core Lean only.
-/
namespace Scryer
namespace Coroutine
open Term Unify

/-! ### identity test -/

/-- `eqbL` decides equality of argument lists as soon as `eqb` decides it for the elements of the
    first list: the step of the induction over a compound term. -/
theorem eqbL_iff_of {as : List Term} (ih : ∀ a ∈ as, ∀ t, eqb a t = true ↔ a = t) :
    ∀ bs, eqbL as bs = true ↔ as = bs := by
  induction as with
  | nil => intro bs; cases bs <;> simp [eqbL]
  | cons a as ih' =>
      intro bs
      cases bs with
      | nil => simp [eqbL]
      | cons b bs => simp [eqbL, ih a (.head _), ih' fun x hx => ih x (.tail _ hx)]

theorem eqb_iff (s : Term) : ∀ t, eqb s t = true ↔ s = t := by
  induction s using induct' with
  | hstr f as ih => intro t; cases t <;> simp [eqb, eqbL_iff_of ih]
  | _ => intro t; cases t <;> simp [eqb]

theorem eqbL_iff : ∀ (as bs : List Term), eqbL as bs = true ↔ as = bs :=
  fun _ => eqbL_iff_of fun a _ => eqb_iff a

/-! ### semantic notions: the logical content of a set of equations -/

/-- `σ` is a most general unifier of `E`: it unifies `E` and every unifier absorbs it. -/
structure IsMgu (σ : Subst) (E : Eqs) : Prop where
  unifies : Unifies σ.toFun E
  absorbs : ∀ θ, Unifies θ E → ∀ t, (applyS σ t).subst θ = t.subst θ

/-- the equations have a (finite-tree) solution. -/
def Sat (E : Eqs) : Prop := ∃ θ, Unifies θ E

/-- every solution of `E` makes the two sides of `d` identical (`dif` is violated). -/
def Entails (E : Eqs) (d : Term × Term) : Prop :=
  ∀ θ, Unifies θ E → d.1.subst θ = d.2.subst θ

/-- some solution of `E` makes the two sides of `d` identical (`dif` is not yet entailed). -/
def Compat (E : Eqs) (d : Term × Term) : Prop :=
  ∃ θ, Unifies θ E ∧ d.1.subst θ = d.2.subst θ

/-- the condition as a statement about all solutions of `E`. -/
def Cond.Sem (E : Eqs) : Cond → Prop
  | .nonvar t => ∀ θ, Unifies θ E → isVar (t.subst θ) = false
  | .ground t => ∀ θ, Unifies θ E → (t.subst θ).vars = []
  | .and a b => Cond.Sem E a ∧ Cond.Sem E b
  | .or a b => Cond.Sem E a ∨ Cond.Sem E b

theorem unifies_mono {θ : String → Term} {E E' : Eqs} (h : ∀ p ∈ E, p ∈ E')
    (hθ : Unifies θ E') : Unifies θ E := fun p hp => hθ p (h p hp)

theorem Sat.mono {E E' : Eqs} (h : ∀ p ∈ E, p ∈ E') : Sat E' → Sat E
  | ⟨θ, hθ⟩ => ⟨θ, unifies_mono h hθ⟩

theorem Entails.mono {E E' : Eqs} {d : Term × Term} (h : ∀ p ∈ E, p ∈ E')
    (he : Entails E d) : Entails E' d := fun θ hθ => he θ (unifies_mono h hθ)

theorem Compat.mono {E E' : Eqs} {d : Term × Term} (h : ∀ p ∈ E, p ∈ E') :
    Compat E' d → Compat E d
  | ⟨θ, hθ, e⟩ => ⟨θ, unifies_mono h hθ, e⟩

theorem Cond.Sem.mono {E E' : Eqs} (h : ∀ p ∈ E, p ∈ E') : ∀ {c : Cond}, c.Sem E → c.Sem E'
  | .nonvar _, hc => fun θ hθ => hc θ (unifies_mono h hθ)
  | .ground _, hc => fun θ hθ => hc θ (unifies_mono h hθ)
  | .and _ _, hc => hc.imp (Cond.Sem.mono h) (Cond.Sem.mono h)
  | .or _ _, hc => hc.imp (Cond.Sem.mono h) (Cond.Sem.mono h)

theorem IsMgu.sat {σ : Subst} {E : Eqs} (h : IsMgu σ E) : Sat E := ⟨σ.toFun, h.unifies⟩

theorem IsMgu.applyS_absorbs {σ τ : Subst} {E : Eqs} (h : IsMgu σ E) (hτ : Unifies τ.toFun E)
    (t : Term) : applyS τ (applyS σ t) = applyS τ t := by
  rw [applyS_eq_subst τ, h.absorbs _ hτ, ← applyS_eq_subst]

theorem IsMgu.lift {σ : Subst} {E : Eqs} (h : IsMgu σ E) {θ : String → Term} (hθ : Unifies θ E)
    {s t : Term} (e : s.subst θ = t.subst θ) :
    Unifies θ [(applyS σ s, applyS σ t)] := by
  apply unifies_pair.mpr
  rw [h.absorbs θ hθ, h.absorbs θ hθ, e]

theorem IsMgu.step {σ δ : Subst} {E : Eqs} {s t : Term} (h : IsMgu σ E)
    (hδ : unifyOC (applyS σ s) (applyS σ t) = some δ) : IsMgu (δ ++ σ) (E ++ [(s, t)]) := by
  have G := good_of_unify hδ
  refine ⟨unifies_toFun.mpr fun p hp => ?_, ?_⟩
  · rw [applyS_append, applyS_append]
    rcases List.mem_append.mp hp with hp | hp
    · rw [unifies_toFun.mp h.unifies p hp]
    · cases List.mem_singleton.mp hp
      exact G.solves _ (.head _)
  · intro θ hθ u
    have hθ := unifies_append.mp hθ
    rw [applyS_append, G.mgu θ (h.lift hθ.1 (unifies_pair.mp hθ.2)), h.absorbs θ hθ.1]

theorem IsMgu.step_none {σ : Subst} {E : Eqs} {s t : Term} (h : IsMgu σ E)
    (hn : unifyOC (applyS σ s) (applyS σ t) = none) : ¬Sat (E ++ [(s, t)]) := by
  rintro ⟨θ, hθ⟩
  have hθ := unifies_append.mp hθ
  exact not_unifies_of_unify hn θ (h.lift hθ.1 (unifies_pair.mp hθ.2))

theorem IsMgu.identical_iff {σ : Subst} {E : Eqs} (h : IsMgu σ E) {d : Term × Term} :
    identical σ d = true ↔ Entails E d := by
  unfold identical
  rw [eqb_iff]
  constructor
  · intro e θ hθ
    rw [← h.absorbs θ hθ d.1, ← h.absorbs θ hθ d.2, e]
  · intro he
    rw [applyS_eq_subst, applyS_eq_subst]
    exact he _ h.unifies

theorem IsMgu.unifiable_iff {σ : Subst} {E : Eqs} (h : IsMgu σ E) {d : Term × Term} :
    unifiable σ d = true ↔ Compat E d := by
  rw [unifiable, Option.isSome_iff_exists]
  constructor
  · rintro ⟨δ, hδ⟩
    have hu := unifies_append.mp (h.step (s := d.1) (t := d.2) hδ).unifies
    exact ⟨_, hu.1, unifies_pair.mp hu.2⟩
  · rintro ⟨θ, hθ, e⟩
    exact exists_unifyOC_iff.mpr ⟨θ, unifies_pair.mp (h.lift hθ e)⟩

theorem isVar_subst_of_nonvar {u : Term} (θ : String → Term) (h : isVar u = false) :
    isVar (u.subst θ) = false := by
  cases u <;> simp_all [isVar]

theorem IsMgu.holds_iff {σ : Subst} {E : Eqs} (h : IsMgu σ E) :
    ∀ {c : Cond}, c.holds σ = true ↔ c.Sem E
  | .nonvar t => by
      simp only [Cond.holds, Cond.Sem, Bool.not_eq_true']
      constructor
      · intro hv θ hθ
        rw [← h.absorbs θ hθ t]
        exact isVar_subst_of_nonvar θ hv
      · intro hs
        have := hs _ h.unifies
        rwa [← applyS_eq_subst] at this
  | .ground t => by
      simp only [Cond.holds, Cond.Sem, List.isEmpty_iff]
      constructor
      · intro hv θ hθ
        rw [← h.absorbs θ hθ t, subst_ground hv θ]
        exact hv
      · intro hs
        have := hs _ h.unifies
        rwa [← applyS_eq_subst] at this
  | .and a b => by
      simp only [Cond.holds, Cond.Sem, Bool.and_eq_true, h.holds_iff (c := a), h.holds_iff (c := b)]
  | .or a b => by
      simp only [Cond.holds, Cond.Sem, Bool.or_eq_true, h.holds_iff (c := a), h.holds_iff (c := b)]

theorem IsMgu.holds_false_iff {σ : Subst} {E : Eqs} (h : IsMgu σ E) {c : Cond} :
    c.holds σ = false ↔ ¬c.Sem E := by
  rw [← h.holds_iff]; simp

/-! ### the invariant of the store -/

/-- what holds of every store `exec` reaches: `σ` is a most general unifier of the equations
    posted, no disequation posted is violated (`notEntailed`), and which disequations are pending and
    which suspensions wait or have fired is what the semantic notions say of `eqs`. -/
structure Inv (st : Store) : Prop where
  mgu : IsMgu st.σ st.eqs
  difs_iff : ∀ d, d ∈ st.difs ↔ d ∈ st.allDifs ∧ Compat st.eqs d
  notEntailed : ∀ d ∈ st.allDifs, ¬Entails st.eqs d
  waitingFalse : ∀ s ∈ st.susps, ¬s.cond.Sem st.eqs
  firedTrue : ∀ s ∈ st.fired, s.cond.Sem st.eqs

theorem inv_init : Inv Store.init :=
  ⟨⟨unifies_nil _, fun _ _ _ => rfl⟩, fun _ => ⟨nofun, fun h => nomatch h.1⟩, nofun, nofun, nofun⟩

theorem mem_ready {σ : Subst} {l : List Susp} {s : Susp} :
    s ∈ ready σ l ↔ s ∈ l ∧ s.cond.holds σ = true := by
  simp [ready]

theorem mem_waiting {σ : Subst} {l : List Susp} {s : Susp} :
    s ∈ waiting σ l ↔ s ∈ l ∧ s.cond.holds σ = false := by
  simp [waiting]

theorem mem_readyOps {σ : Subst} {l : List Susp} {o : Op} :
    o ∈ readyOps σ l ↔ ∃ s, s ∈ ready σ l ∧ o ∈ bodyOps s := by
  simp [readyOps, List.mem_flatMap]

theorem forall_mem_snoc {α : Type} {p : α → Prop} {l : List α} {a : α} (h : ∀ x ∈ l, p x)
    (ha : p a) : ∀ x ∈ l ++ [a], p x :=
  List.forall_mem_append.mpr ⟨h, List.forall_mem_singleton.mpr ha⟩

theorem inv_afterUnify {st : Store} {s t : Term} {δ : Subst} (hI : Inv st)
    (hδ : unifyOC (applyS st.σ s) (applyS st.σ t) = some δ)
    (hany : ¬st.difs.any (identical (δ ++ st.σ)) = true) : Inv (afterUnify st s t δ) := by
  have hm : IsMgu (δ ++ st.σ) (st.eqs ++ [(s, t)]) := hI.mgu.step hδ
  have hsub : ∀ p ∈ st.eqs, p ∈ st.eqs ++ [(s, t)] := fun _ => List.mem_append_left _
  refine ⟨hm, fun d => ?_, fun d hd he => ?_, fun sp hsp => ?_, fun sp hsp => ?_⟩
  · simp only [afterUnify, List.mem_filter, hm.unifiable_iff, hI.difs_iff]
    exact ⟨fun ⟨⟨h1, _⟩, h3⟩ => ⟨h1, h3⟩, fun ⟨h1, h3⟩ => ⟨⟨h1, h3.mono hsub⟩, h3⟩⟩
  · -- a violated disequation was compatible with the smaller set, hence pending, and is found
    obtain ⟨θ, hθ⟩ := hm.sat
    have hp : d ∈ st.difs := (hI.difs_iff d).mpr ⟨hd, θ, unifies_mono hsub hθ, he θ hθ⟩
    exact hany (List.any_eq_true.mpr ⟨d, hp, hm.identical_iff.mpr he⟩)
  · exact hm.holds_false_iff.mp (mem_waiting.mp hsp).2
  · exact (List.mem_append.mp hsp).elim (fun h => (hI.firedTrue sp h).mono hsub)
      fun h => hm.holds_iff.mp (mem_ready.mp h).2

theorem inv_afterDif {st : Store} {s t : Term} (hI : Inv st)
    (hid : ¬identical st.σ (s, t) = true) : Inv (afterDif st s t) := by
  refine ⟨hI.mgu, fun d => ?_, forall_mem_snoc hI.notEntailed fun he => ?_, hI.waitingFalse,
    hI.firedTrue⟩
  · -- the new disequation is kept exactly when it is compatible with the equations
    have hu := hI.mgu.unifiable_iff (d := (s, t))
    show d ∈ (if unifiable st.σ (s, t) then st.difs ++ [(s, t)] else st.difs) ↔
      d ∈ st.allDifs ++ [(s, t)] ∧ Compat st.eqs d
    rw [List.mem_append, List.mem_singleton, or_and_right, ← hI.difs_iff]
    split
    · rename_i h
      rw [List.mem_append, List.mem_singleton]
      exact or_congr_right ⟨fun e => ⟨e, e ▸ hu.mp h⟩, And.left⟩
    · rename_i h
      exact (or_iff_left fun ⟨e, hc⟩ => h (hu.mpr (e ▸ hc))).symm
  · exact hid (hI.mgu.identical_iff.mpr he)

theorem inv_fire {st : Store} {sp : Susp} (hI : Inv st) (h : sp.cond.holds st.σ = true) :
    Inv { st with fired := st.fired ++ [sp] } :=
  ⟨hI.mgu, hI.difs_iff, hI.notEntailed, hI.waitingFalse,
    forall_mem_snoc hI.firedTrue (hI.mgu.holds_iff.mp h)⟩

theorem inv_suspend {st : Store} {sp : Susp} (hI : Inv st) (h : ¬sp.cond.holds st.σ = true) :
    Inv { st with susps := st.susps ++ [sp] } :=
  ⟨hI.mgu, hI.difs_iff, hI.notEntailed,
    forall_mem_snoc hI.waitingFalse fun c => h (hI.mgu.holds_iff.mpr c), hI.firedTrue⟩

/-! ### "everything in this store / agenda also belongs to the store `T`" -/

/-- the operation has been carried out in `T`: its equation or constraint is recorded there, its
    suspension is waiting or has fired -/
def OpIn (T : Store) : Op → Prop
  | .basic (.unify s t) => (s, t) ∈ T.eqs
  | .basic (.dif s t) => (s, t) ∈ T.allDifs
  | .susp sp => sp ∈ T.susps ∨ sp ∈ T.fired

/-- every operation of the agenda `ops` has been carried out in `T` -/
def Below (ops : List Op) (T : Store) : Prop := ∀ o ∈ ops, OpIn T o

/-- `T` is `st` after more steps: everything recorded stays, except that a suspension waiting in
    `st` may have fired by `T` (field `susps`) -/
structure Le (st T : Store) : Prop where
  eqs : ∀ p ∈ st.eqs, p ∈ T.eqs
  allDifs : ∀ d ∈ st.allDifs, d ∈ T.allDifs
  fired : ∀ s ∈ st.fired, s ∈ T.fired
  susps : ∀ s ∈ st.susps, s ∈ T.susps ∨ s ∈ T.fired

theorem Le.refl (st : Store) : Le st st :=
  ⟨fun _ h => h, fun _ h => h, fun _ h => h, fun _ h => Or.inl h⟩

theorem Le.trans {a b c : Store} (h1 : Le a b) (h2 : Le b c) : Le a c :=
  ⟨fun p h => h2.eqs p (h1.eqs p h), fun p h => h2.allDifs p (h1.allDifs p h),
   fun p h => h2.fired p (h1.fired p h),
   fun p h => (h1.susps p h).elim (h2.susps p) (fun x => Or.inr (h2.fired p x))⟩

theorem OpIn.mono {a b : Store} (h : Le a b) : ∀ {o : Op}, OpIn a o → OpIn b o
  | .basic (.unify _ _), ho => h.eqs _ ho
  | .basic (.dif _ _), ho => h.allDifs _ ho
  | .susp _, ho => ho.elim (h.susps _) (fun x => Or.inr (h.fired _ x))

theorem Below.mono {a b : Store} {ops : List Op} (h : Le a b) (hb : Below ops a) : Below ops b :=
  fun o ho => (hb o ho).mono h

theorem Below.head {T : Store} {o : Op} {r : List Op} (h : Below (o :: r) T) : OpIn T o :=
  h o (.head _)

theorem Below.tail {T : Store} {o : Op} {r : List Op} (h : Below (o :: r) T) : Below r T :=
  fun o' ho => h o' (.tail _ ho)

theorem Below.append {T : Store} {a b : List Op} (ha : Below a T) (hb : Below b T) :
    Below (a ++ b) T := fun o ho => (List.mem_append.mp ho).elim (ha o) (hb o)

theorem le_afterUnify (st : Store) (s t : Term) (δ : Subst) : Le st (afterUnify st s t δ) :=
  ⟨fun _ => List.mem_append_left _, fun _ h => h, fun _ => List.mem_append_left _, fun p hp => by
    cases h : p.cond.holds (δ ++ st.σ)
    · exact Or.inl (mem_waiting.mpr ⟨hp, h⟩)
    · exact Or.inr (List.mem_append_right _ (mem_ready.mpr ⟨hp, h⟩))⟩

theorem le_afterDif (st : Store) (s t : Term) : Le st (afterDif st s t) :=
  { Le.refl st with allDifs := fun _ => List.mem_append_left _ }

/-! ### the suspensions an agenda posts (counted in `Post.perm`) -/

/-- the suspension postings of an agenda. -/
def suspsOf : List Op → List Susp
  | [] => []
  | .susp s :: r => s :: suspsOf r
  | .basic _ :: r => suspsOf r

theorem suspsOf_append (a b : List Op) : suspsOf (a ++ b) = suspsOf a ++ suspsOf b := by
  induction a with
  | nil => rfl
  | cons o a ih => cases o <;> simp [suspsOf, ih]

theorem suspsOf_bodyOps (s : Susp) : suspsOf (bodyOps s) = [] := by
  unfold bodyOps
  induction s.body with
  | nil => rfl
  | cons b l ih => simp [suspsOf, ih]

theorem suspsOf_readyOps (σ : Subst) (l : List Susp) : suspsOf (readyOps σ l) = [] := by
  unfold readyOps
  induction ready σ l with
  | nil => rfl
  | cons s r ih => simp [List.flatMap_cons, suspsOf_append, suspsOf_bodyOps, ih]

/-! ### the equations of `exec` -/

theorem exec_unify_none {s t : Term} {st : Store} (rest : List Op)
    (h : unifyOC (applyS st.σ s) (applyS st.σ t) = none) :
    exec (.basic (.unify s t) :: rest) st = none := by rw [exec, h]

theorem exec_unify {s t : Term} {st : Store} {δ : Subst} (rest : List Op)
    (h : unifyOC (applyS st.σ s) (applyS st.σ t) = some δ) :
    exec (.basic (.unify s t) :: rest) st =
      if st.difs.any (identical (δ ++ st.σ)) then none
      else exec (readyOps (δ ++ st.σ) st.susps ++ rest) (afterUnify st s t δ) := by rw [exec, h]

theorem exec_dif (s t : Term) (rest : List Op) (st : Store) :
    exec (.basic (.dif s t) :: rest) st =
      if identical st.σ (s, t) then none else exec rest (afterDif st s t) := by rw [exec]

theorem exec_susp (sp : Susp) (rest : List Op) (st : Store) :
    exec (.susp sp :: rest) st =
      if sp.cond.holds st.σ then exec (bodyOps sp ++ rest) { st with fired := st.fired ++ [sp] }
      else exec rest { st with susps := st.susps ++ [sp] } := by rw [exec]

/-! ### what a successful run establishes -/

/-- Post-conditions of a run from `st` over the agenda `ag` that ended in `st'`: the invariant
    holds, the result contains the start store and the whole agenda, every goal woken during the
    run has had its body executed, and every posted suspension is either still suspended or has
    been woken — exactly once. -/
structure Post (ag : List Op) (st st' : Store) : Prop where
  inv : Inv st'
  le : Le st st'
  below : Below ag st'
  bodies : ∀ s ∈ st'.fired, s ∈ st.fired ∨ Below (bodyOps s) st'
  perm : (st'.fired ++ st'.susps).Perm (st.fired ++ st.susps ++ suspsOf ag)

/-- one step of `exec`: the posting `o` turns `st` into `st1` and puts `pre` in front of the
    agenda.  `o` is recorded in `st1`, the goals `st1` has newly woken have their bodies in `pre`,
    and the suspensions are accounted for. -/
theorem Post.step {o : Op} {pre rest : List Op} {st st1 st' : Store}
    (h : Post (pre ++ rest) st1 st') (hle : Le st st1) (ho : OpIn st1 o)
    (hf : ∀ s ∈ st1.fired, s ∈ st.fired ∨ ∀ b ∈ bodyOps s, b ∈ pre)
    (hp : (st1.fired ++ st1.susps ++ suspsOf pre).Perm (st.fired ++ st.susps ++ suspsOf [o])) :
    Post (o :: rest) st st' where
  inv := h.inv
  le := hle.trans h.le
  below := List.forall_mem_cons.mpr
    ⟨ho.mono h.le, fun b hb => h.below b (List.mem_append_right _ hb)⟩
  bodies s hs := (h.bodies s hs).elim
    (fun h1 => (hf s h1).imp_right fun hb b hm => h.below b (List.mem_append_left _ (hb b hm)))
    Or.inr
  perm := by
    refine h.perm.trans ?_
    rw [suspsOf_append, ← List.append_assoc]
    exact (hp.append_right _).trans (by rw [List.append_assoc, ← suspsOf_append]; rfl)

theorem exec_post (ag : List Op) (st : Store) :
    ∀ st', exec ag st = some st' → Inv st → Post ag st st' := by
  -- the cases are the clauses of `exec`: 1 empty agenda; 2–4 `unify` (no unifier / a pending `dif` is
  -- violated / goes on); 5–6 `dif` (already violated / recorded); 7–8 a suspension (ready / waits)
  fun_induction exec ag st with
  | case1 st =>
      rintro _ ⟨⟩ hI
      exact ⟨hI, Le.refl _, nofun, fun s hs => Or.inl hs, by simp [suspsOf]⟩
  -- the three failing clauses: `exec` is `none`
  | case2 | case3 | case5 => exact nofun
  | case4 s t rest st δ hδ hany ih =>
      intro st' h hI
      refine (ih st' h (inv_afterUnify hI hδ hany)).step
        (le_afterUnify st s t δ) (List.mem_append_right _ (.head _)) ?_ ?_
      · intro sp hsp
        exact (List.mem_append.mp hsp).imp_right fun h1 b hb => mem_readyOps.mpr ⟨sp, h1, hb⟩
      · show (st.fired ++ ready (δ ++ st.σ) st.susps ++ waiting (δ ++ st.σ) st.susps ++
          suspsOf (readyOps (δ ++ st.σ) st.susps)).Perm (st.fired ++ st.susps ++ [])
        rw [suspsOf_readyOps, List.append_assoc st.fired]
        exact ((List.filter_append_perm _ _).append_left _).append_right _
  | case6 s t rest st hid ih =>
      intro st' h hI
      exact (ih st' h (inv_afterDif hI hid)).step (pre := [])
        (le_afterDif st s t) (List.mem_append_right _ (.head _))
        (fun sp hsp => Or.inl hsp) (.refl _)
  | case7 sp rest st hh ih =>
      intro st' h hI
      refine (ih st' h (inv_fire hI hh)).step
        ⟨fun _ h => h, fun _ h => h, fun _ h => List.mem_append_left _ h, fun _ h => Or.inl h⟩
        (Or.inr (List.mem_append_right _ (.head _))) ?_ ?_
      · intro s hs
        exact (List.mem_append.mp hs).imp_right fun h1 => by
          cases List.mem_singleton.mp h1; exact fun b hb => hb
      · show (st.fired ++ [sp] ++ st.susps ++ suspsOf (bodyOps sp)).Perm
          (st.fired ++ st.susps ++ [sp])
        rw [suspsOf_bodyOps, List.append_nil, List.append_assoc, List.append_assoc]
        exact List.perm_append_comm.append_left _
  | case8 sp rest st hh ih =>
      intro st' h hI
      refine (ih st' h (inv_suspend hI hh)).step (pre := [])
        { Le.refl st with susps := fun _ h => Or.inl (List.mem_append_left _ h) }
        (Or.inl (List.mem_append_right _ (.head _))) (fun s hs => Or.inl hs) ?_
      simp [suspsOf]

/-! ### the simulation lemma -/

/-- a consistent, closed store: its equations are satisfiable, none of its disequations is
    violated, none of its suspended goals is ready, and the bodies of all woken goals are in. -/
structure Target (T : Store) : Prop where
  sat : Sat T.eqs
  notEntailed : ∀ d ∈ T.allDifs, ¬Entails T.eqs d
  closed : ∀ s ∈ T.susps, ¬s.cond.Sem T.eqs
  bodies : ∀ s ∈ T.fired, Below (bodyOps s) T

theorem exec_below {T : Store} (hT : Target T) (ag : List Op) (st : Store) :
    Inv st → Le st T → Below ag T → ∃ st', exec ag st = some st' ∧ Le st' T := by
  fun_induction exec ag st with
  | case1 st => exact fun _ hle _ => ⟨st, rfl, hle⟩
  | case2 s t rest st hn =>
      intro hI hle hb
      exact absurd (hT.sat.mono (forall_mem_snoc hle.eqs hb.head)) (hI.mgu.step_none hn)
  | case3 s t rest st δ hδ hany =>
      intro hI hle hb
      obtain ⟨d, hd, hid⟩ := List.any_eq_true.mp hany
      have he := (hI.mgu.step hδ).identical_iff.mp hid
      exact absurd (he.mono (forall_mem_snoc hle.eqs hb.head))
        (hT.notEntailed d (hle.allDifs d ((hI.difs_iff d).mp hd).1))
  | case4 s t rest st δ hδ hany ih =>
      intro hI hle hb
      have hsub := forall_mem_snoc hle.eqs hb.head
      have hm := hI.mgu.step hδ
      -- a goal that becomes ready is closed in `T`, so `T` has woken it
      have hready : ∀ sp ∈ ready (δ ++ st.σ) st.susps, sp ∈ T.fired := by
        intro sp hsp
        obtain ⟨h1, h2⟩ := mem_ready.mp hsp
        exact (hle.susps sp h1).elim
          (fun h => absurd ((hm.holds_iff.mp h2).mono hsub) (hT.closed sp h)) id
      refine ih (inv_afterUnify hI hδ hany)
        ⟨hsub, hle.allDifs, List.forall_mem_append.mpr ⟨hle.fired, hready⟩,
          fun sp hsp => hle.susps sp (mem_waiting.mp hsp).1⟩
        (Below.append ?_ hb.tail)
      intro o ho
      obtain ⟨sp, hsp, ho⟩ := mem_readyOps.mp ho
      exact hT.bodies sp (hready sp hsp) o ho
  | case5 s t rest st hid =>
      intro hI hle hb
      exact absurd ((hI.mgu.identical_iff.mp hid).mono hle.eqs)
        (hT.notEntailed _ hb.head)
  | case6 s t rest st hid ih =>
      intro hI hle hb
      exact ih (inv_afterDif hI hid)
        { hle with allDifs := forall_mem_snoc hle.allDifs hb.head }
        hb.tail
  | case7 sp rest st hh ih =>
      intro hI hle hb
      have hs : sp.cond.Sem T.eqs := (hI.mgu.holds_iff.mp hh).mono hle.eqs
      have hf : sp ∈ T.fired := hb.head.elim (fun h => absurd hs (hT.closed sp h)) id
      exact ih (inv_fire hI hh) { hle with fired := forall_mem_snoc hle.fired hf }
        (Below.append (hT.bodies sp hf) hb.tail)
  | case8 sp rest st hh ih =>
      intro hI hle hb
      exact ih (inv_suspend hI hh)
        { hle with susps := forall_mem_snoc hle.susps hb.head }
        hb.tail

/-! ### whole histories -/

theorem le_init (T : Store) : Le Store.init T := ⟨nofun, nofun, nofun, nofun⟩

theorem run_target {q : List Op} {b : Store} (h : run q = some b) :
    Inv b ∧ Target b ∧ Below q b ∧ (b.fired ++ b.susps).Perm (suspsOf q) := by
  obtain ⟨i1, _, i3, i4, i5⟩ := exec_post q Store.init b h inv_init
  exact ⟨i1, ⟨i1.mgu.sat, i1.notEntailed, i1.waitingFalse, fun s hs => (i4 s hs).resolve_left nofun⟩,
    i3, by simpa [Store.init] using i5⟩

theorem run_below {p q : List Op} {b : Store} (hpq : ∀ o ∈ p, o ∈ q) (h : run q = some b) :
    ∃ a, run p = some a ∧ Le a b := by
  obtain ⟨_, hT, hb, _⟩ := run_target h
  exact exec_below hT p Store.init inv_init (le_init b) (fun o ho => hb o (hpq o ho))

theorem same_content {a b : Store} (ha : Inv a) (hb : Inv b) (hab : Le a b) (hba : Le b a) :
    (∀ θ, Unifies θ a.eqs ↔ Unifies θ b.eqs) ∧
    (∀ c : Cond, c.holds a.σ = c.holds b.σ) ∧
    (∀ d, d ∈ a.difs ↔ d ∈ b.difs) := by
  refine ⟨fun θ => ⟨unifies_mono hba.eqs, unifies_mono hab.eqs⟩, fun c => ?_, fun d => ?_⟩
  · have h3 : c.Sem a.eqs ↔ c.Sem b.eqs := ⟨Cond.Sem.mono hab.eqs, Cond.Sem.mono hba.eqs⟩
    rw [Bool.eq_iff_iff, ha.mgu.holds_iff, hb.mgu.holds_iff, h3]
  · rw [ha.difs_iff, hb.difs_iff]
    exact ⟨fun ⟨h1, h2⟩ => ⟨hab.allDifs d h1, h2.mono hba.eqs⟩,
      fun ⟨h1, h2⟩ => ⟨hba.allDifs d h1, h2.mono hab.eqs⟩⟩

theorem suspsOf_perm {p q : List Op} (h : p.Perm q) : (suspsOf p).Perm (suspsOf q) := by
  induction h with
  | nil => exact List.Perm.refl _
  | cons x _ ih => cases x <;> simp [suspsOf, ih]
  | swap x y l =>
      cases x <;> cases y <;> simp [suspsOf]
      exact List.Perm.swap ..
  | trans _ _ ih1 ih2 => exact ih1.trans ih2

theorem perm_filter_of_append {α : Type} {q : α → Bool} {l1 l2 l : List α}
    (hp : (l1 ++ l2).Perm l) (h1 : ∀ a ∈ l1, q a = true) (h2 : ∀ a ∈ l2, q a = false) :
    l1.Perm (l.filter q) := by
  have := hp.filter q
  rwa [List.filter_append, List.filter_eq_self.mpr h1,
    List.filter_eq_nil_iff.mpr fun a ha => by rw [h2 a ha]; nofun, List.append_nil] at this

theorem fired_perm_filter {q : List Op} {b : Store} (h : run q = some b) :
    (∀ s ∈ b.susps, s.cond.holds b.σ = false) ∧
    (∀ s ∈ b.fired, s.cond.holds b.σ = true) ∧
    b.fired.Perm ((suspsOf q).filter fun s => s.cond.holds b.σ) ∧
    b.susps.Perm ((suspsOf q).filter fun s => !s.cond.holds b.σ) := by
  obtain ⟨hI, _, _, hp⟩ := run_target h
  have hw := fun s hs => hI.mgu.holds_false_iff.mpr (hI.waitingFalse s hs)
  have hf := fun s hs => hI.mgu.holds_iff.mpr (hI.firedTrue s hs)
  exact ⟨hw, hf, perm_filter_of_append hp hf hw,
    perm_filter_of_append (List.perm_append_comm.trans hp) (fun s hs => congrArg not (hw s hs))
      fun s hs => congrArg not (hf s hs)⟩

theorem exec_append (a b : List Op) (st : Store) :
    exec (a ++ b) st = (exec a st).bind (exec b) := by
  fun_induction exec a st with
  | case1 st => rfl
  | case2 s t rest st hn => exact exec_unify_none _ hn
  | case3 s t rest st δ hδ hany => rw [List.cons_append, exec_unify _ hδ, if_pos hany]; rfl
  | case4 s t rest st δ hδ hany ih =>
      rw [List.cons_append, exec_unify _ hδ, if_neg hany, ← List.append_assoc, ih]
  | case5 s t rest st hid => rw [List.cons_append, exec_dif, if_pos hid]; rfl
  | case6 s t rest st hid ih => rw [List.cons_append, exec_dif, if_neg hid, ih]
  | case7 sp rest st hh ih =>
      rw [List.cons_append, exec_susp, if_pos hh, ← List.append_assoc, ih]
  | case8 sp rest st hh ih => rw [List.cons_append, exec_susp, if_neg hh, ih]

/-! ### histories without suspended goals -/

/-- equations and disequations of a history. -/
def eqsOf : List Op → Eqs
  | [] => []
  | .basic (.unify s t) :: r => (s, t) :: eqsOf r
  | _ :: r => eqsOf r

def difsOf : List Op → List (Term × Term)
  | [] => []
  | .basic (.dif s t) :: r => (s, t) :: difsOf r
  | _ :: r => difsOf r

/-- the history contains no freeze/when posting. -/
def noSusp : List Op → Prop
  | [] => True
  | .susp _ :: _ => False
  | .basic _ :: r => noSusp r

theorem mem_eqsOf {p : Term × Term} {ops : List Op} :
    p ∈ eqsOf ops ↔ .basic (.unify p.1 p.2) ∈ ops := by
  fun_induction eqsOf ops with
  | case1 => simp
  | case2 s t r ih => simp [ih, Prod.ext_iff]
  | case3 o r h ih =>
      have : Op.basic (.unify p.1 p.2) ≠ o := fun e => h _ _ e.symm
      simp [ih, this]

theorem mem_difsOf {d : Term × Term} {ops : List Op} :
    d ∈ difsOf ops ↔ .basic (.dif d.1 d.2) ∈ ops := by
  fun_induction difsOf ops with
  | case1 => simp
  | case2 s t r ih => simp [ih, Prod.ext_iff]
  | case3 o r h ih =>
      have : Op.basic (.dif d.1 d.2) ≠ o := fun e => h _ _ e.symm
      simp [ih, this]

theorem not_mem_of_noSusp {ops : List Op} (hn : noSusp ops) (s : Susp) : .susp s ∉ ops := by
  fun_induction noSusp ops with
  | case1 => exact nofun
  | case2 => exact hn.elim
  | case3 b r ih => exact fun h => ih hn ((List.mem_cons.mp h).resolve_left nofun)

theorem below_of_basic {ops : List Op} (hn : noSusp ops) (T : Store)
    (h1 : ∀ p ∈ eqsOf ops, p ∈ T.eqs) (h2 : ∀ d ∈ difsOf ops, d ∈ T.allDifs) : Below ops T
  | .susp s, ho => absurd ho (not_mem_of_noSusp hn s)
  | .basic (.unify s t), ho => h1 (s, t) (mem_eqsOf.mpr ho)
  | .basic (.dif s t), ho => h2 (s, t) (mem_difsOf.mpr ho)

theorem mem_of_below {ops : List Op} {T : Store} (hb : Below ops T) :
    (∀ p ∈ eqsOf ops, p ∈ T.eqs) ∧ (∀ d ∈ difsOf ops, d ∈ T.allDifs) :=
  ⟨fun _ hp => hb _ (mem_eqsOf.mp hp), fun _ hd => hb _ (mem_difsOf.mp hd)⟩

/-! ### independence of disequations (infinitely many function symbols) -/

mutual
/-- the names of the compound-term functors occurring in a term. -/
def funs : Term → List String
  | .str f args => f :: funsL args
  | _ => []

def funsL : List Term → List String
  | [] => []
  | t :: ts => funs t ++ funsL ts
end

/-- the grounding substitution `x ↦ g(x)` (`x` as an atom) for a functor name `g`. -/
def tag (g : String) : String → Term := fun x => .str g [.atom x]

/-- from the argument list `[.atom x]` of `tag g x` back to `.var x`. Any other list stands under
    a `g` that `subst (tag g)` did not put there, which `untag_subst_tag` excludes: `.atom ""` is
    a filler. -/
def untagArgs : List Term → Term
  | [.atom x] => .var x
  | _ => .atom ""

mutual
/-- undoes `subst (tag g)` on terms in which the functor `g` does not occur -/
def untag (g : String) : Term → Term
  | .str k args => if k = g then untagArgs args else .str k (untagL g args)
  | t => t
def untagL (g : String) : List Term → List Term
  | [] => []
  | t :: ts => untag g t :: untagL g ts
end

/-- the step of `untag_subst_tag` over the argument list of a compound term -/
theorem untagL_map_tag {g : String} {as : List Term}
    (ih : ∀ a ∈ as, g ∉ funs a → untag g (a.subst (tag g)) = a) :
    g ∉ funsL as → untagL g (as.map (subst (tag g))) = as := by
  induction as with
  | nil => exact fun _ => rfl
  | cons a as ih' =>
      intro h
      rw [funsL, List.mem_append, not_or] at h
      rw [List.map_cons, untagL, ih a (.head _) h.1, ih' (fun x hx => ih x (.tail _ hx)) h.2]

/-- `subst (tag g)` has a left inverse on such terms, so it is injective on them -/
theorem untag_subst_tag {g : String} (t : Term) : g ∉ funs t → untag g (t.subst (tag g)) = t := by
  induction t using induct' with
  | hvar x => intro _; simp [tag, untag, untagArgs]
  | hstr k as ih =>
      intro h
      have hk : k ≠ g := fun e => h (e ▸ List.mem_cons_self)
      rw [subst_str, untag, if_neg hk, untagL_map_tag ih fun hm => h (List.mem_cons_of_mem _ hm)]
  | _ => intro _; rfl

/-- Satisfiability in the usual sense for dif/2: solutions are ground finite trees over a signature
    with infinitely many function symbols, hence a fresh name: `g` is the one name of
    `TermOps.freshNames names 1`.  With a functor `g` that occurs in none of the disequations,
    `x ↦ g(x)` after the most general unifier is ground and separates every pair the unifier has
    not made identical.  `independent` and the C26 statements quantify over arbitrary `θ`, for
    which the most general unifier alone would already be a witness. -/
theorem independent_ground {σ : Subst} {E : Eqs} (h : IsMgu σ E) (D : List (Term × Term))
    (hD : ∀ d ∈ D, ¬Entails E d) :
    ∃ θ, (∀ x, (θ x).vars = []) ∧ Unifies θ E ∧ ∀ d ∈ D, d.1.subst θ ≠ d.2.subst θ := by
  let names := D.flatMap fun d => funs (applyS σ d.1) ++ funs (applyS σ d.2)
  let g := TermOps.mkName (TermOps.maxLen names + 1)
  have hg : ∀ d ∈ D, g ∉ funs (applyS σ d.1) ∧ g ∉ funs (applyS σ d.2) := by
    intro d hd
    have hn : g ∉ names := TermOps.freshNames_not_mem (n := 1) (.head _)
    constructor
    · intro hm; exact hn (List.mem_flatMap.mpr ⟨d, hd, List.mem_append_left _ hm⟩)
    · intro hm; exact hn (List.mem_flatMap.mpr ⟨d, hd, List.mem_append_right _ hm⟩)
  refine ⟨fun x => (σ.toFun x).subst (tag g), fun x => ?_, ?_, ?_⟩
  · refine List.eq_nil_iff_forall_not_mem.mpr fun y hy => ?_
    obtain ⟨z, _, hz⟩ := mem_vars_subst _ _ y hy
    simp [tag, Term.vars, Term.varsL] at hz
  · intro p hp
    rw [← subst_subst, ← subst_subst, h.unifies p hp]
  · intro d hd e
    rw [← subst_subst, ← subst_subst, ← applyS_eq_subst, ← applyS_eq_subst] at e
    have := congrArg (untag g) e
    rw [untag_subst_tag _ (hg d hd).1, untag_subst_tag _ (hg d hd).2] at this
    exact hD d hd (h.identical_iff.mp ((eqb_iff _ _).mpr this))

theorem independent {σ : Subst} {E : Eqs} (h : IsMgu σ E) (D : List (Term × Term))
    (hD : ∀ d ∈ D, ¬Entails E d) :
    ∃ θ, Unifies θ E ∧ ∀ d ∈ D, d.1.subst θ ≠ d.2.subst θ :=
  let ⟨θ, _, h⟩ := independent_ground h D hD
  ⟨θ, h⟩

/-- the converse of `IsMgu.sat`, by the completeness of `unify`. -/
theorem exists_mgu {E : Eqs} (h : Sat E) : ∃ σ, IsMgu σ E := by
  cases hu : unify E [] with
  | some σ =>
      have G := good_of_unify hu
      exact ⟨σ, G.unifies, G.mgu⟩
  | none =>
      obtain ⟨θ, hθ⟩ := h
      exact absurd hθ (not_unifies_of_unify hu θ)

end Coroutine
end Scryer
