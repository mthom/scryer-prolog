import ScryerModel.Model.Fault
import ScryerModel.Proofs.SolveLaws
/-!
Lemmas about `Scryer.Fault`: closed balls are fixed by copying, injection without faults is the
reference interpreter, a fault below `catch/3` is caught like a `throw/1` of the ball, the protocol
machine's skip/unwind discipline, the polling invariants.
-/
namespace Scryer.Fault
open Scryer.Solve

/-- a ball that copying leaves alone (closed term, enough fuel for its depth). -/
def ClosedAt (n : Nat) (ball : Term) : Prop :=
  (∀ σ, resolve n σ ball = some ball) ∧ (∀ sf, rename sf ball = ball) ∧ (∀ v, ball ≠ .var v)

theorem closed_resBall (n : Nat) : ClosedAt (n + 8) resBall :=
  -- `resolve` spends one unit of fuel per level and per argument position: `resBall` takes 5, `intBall` 7; 8 serves both
  ⟨by simp [resBall, resFormal, resolve, resolveList], by simp [resBall, resFormal, rename, renameList],
    by simp [resBall]⟩

theorem closed_intBall (n : Nat) : ClosedAt (n + 8) intBall :=
  ⟨by simp [intBall, intFormal, resolve, resolveList], by simp [intBall, intFormal, rename, renameList],
    by simp [intBall]⟩

theorem throwRes_closed (n : Nat) (s : St) (ball : Term) (hc : ClosedAt n ball) :
    throwRes n s ball = inject ball s := by
  obtain ⟨h1, h2, h3⟩ := hc
  simp only [throwRes, h1 s.σ]
  cases ball with
  | var v => exact absurd rfl (h3 v)
  | _ => simp only [throwResolved, h2, inject]

/-! ### no fault: the reference interpreter -/

theorem solveInj_noFault (ball : Term) (φ : Oracle) (hφ : ∀ g s, φ g s = false) (prog : Prog) :
    ∀ n, solveInj ball φ n prog = solve n prog := by
  intro n
  induction n with
  | zero => funext g s; simp [solveInj, solve]
  | succ n ih => funext g s; simp [solveInj, solve, hφ, ih]

/-! ### a fault below `catch/3`, for any closed ball

`step` on a goal with a constant functor (`true`, `','/2`, `catch/3`, `throw/1`) reduces by
evaluation, so those steps are taken by `rfl`/`exact`. -/

theorem solveInj_succ (ball : Term) (φ : Oracle) (n : Nat) (prog : Prog) (g : Term) (s : St)
    (h : φ g s = false) :
    solveInj ball φ (n + 1) prog g s = step prog (solveInj ball φ n prog) n g s := by
  rw [solveInj, h]; rfl

theorem solveInj_fault (ball : Term) (φ : Oracle) (n : Nat) (prog : Prog) (g : Term) (s : St)
    (hc : ClosedAt n ball) (h : φ g s = true) :
    solveInj ball φ (n + 1) prog g s = solve (n + 1) prog (throwGoal ball) s
    ∧ (solveInj ball φ (n + 1) prog g s).sols = []
    ∧ (solveInj ball φ (n + 1) prog g s).exc = some (ball, s.ctr + 1)
    ∧ (solveInj ball φ (n + 1) prog g s).oof = false := by
  have e1 : solveInj ball φ (n + 1) prog g s = inject ball s := by rw [solveInj, h]; rfl
  have e2 : solve (n + 1) prog (throwGoal ball) s = inject ball s := throwRes_closed n s ball hc
  rw [e1, e2]
  exact ⟨rfl, rfl, rfl, rfl⟩

/-- the catcher `error(E, V)` (two distinct variables, unbound at the catch entry) unifies with a
    ball `error(F, C)` whose arguments are not variables and pass the occurs check, and binds
    exactly `E = F`, `V = C` in front of the entry substitution. The fuels of `hoF`, `hoC` are what
    `unify (n + 5)` has left where it calls `bindVar`: three levels down (`unifyList`, `unify`,
    `bindVar`) for the first argument, one more `unifyList` for the second. -/
theorem unify_errCatcher (n : Nat) (σ : Subst) (e v : String) (F C : Term)
    (he : lookup σ e = none) (hv : lookup σ v = none) (hne : (e == v) = false)
    (hF : ∀ w, F ≠ .var w) (hC : ∀ w, C ≠ .var w)
    (hoF : occurs (n + 2) σ e F = some false) (hoC : occurs (n + 1) ((e, F) :: σ) v C = some false) :
    unify (n + 5) σ (errCatcher e v) (.str "error" [F, C]) = some (some ((v, C) :: (e, F) :: σ)) := by
  have hv' : lookup ((e, F) :: σ) v = none := by simp [lookup, hne, hv]
  -- `hF`, `hC` are what lets `simp` choose the arms of `walk` and `unify` for a non-variable
  simp [errCatcher, unify, unifyList, walk, he, hv', bindVar, hoF, hoC]

theorem solveInj_true (ball : Term) (φ : Oracle) (n : Nat) (prog : Prog) (s : St)
    (h : φ (.atom "true") s = false) : solveInj ball φ (n + 1) prog (.atom "true") s = Res.one s :=
  solveInj_succ ball φ n prog _ s h

theorem conj_catch_true (ball : Term) (φ : Oracle) (n : Nat) (prog : Prog) (s : St) (g c k : Term)
    (c' : Nat) (σ' : Subst)
    (ho : (callGoal (solveInj ball φ (n + 1) prog) (n + 1) s g []).oof = false)
    (hx : (callGoal (solveInj ball φ (n + 1) prog) (n + 1) s g []).exc = some (ball, c'))
    (hs : (callGoal (solveInj ball φ (n + 1) prog) (n + 1) s g []).sols = [])
    (hu : unify (n + 1) s.σ c ball = some (some σ'))
    (hφ : φ (.atom "true") ⟨σ', c'⟩ = false)
    (hφc : φ (.str "catch" [g, c, .atom "true"]) s = false)
    (hφk : φ (.str "," [.str "catch" [g, c, .atom "true"], k]) s = false) :
    solveInj ball φ (n + 3) prog (.str "," [.str "catch" [g, c, .atom "true"], k]) s
      = conjRes (Res.one ⟨σ', c'⟩) (solveInj ball φ (n + 2) prog k) := by
  have hc : solveInj ball φ (n + 2) prog (.str "catch" [g, c, .atom "true"]) s = Res.one ⟨σ', c'⟩ := by
    rw [solveInj_succ ball φ (n + 1) prog _ s hφc]
    exact catchRes_true_once _ n s g c ball c' σ' ho hx hs hu (solveInj_true ball φ n prog _ hφ)
  rw [solveInj_succ ball φ (n + 2) prog _ s hφk, ← hc]
  rfl

/-! ### the protocol machine -/

theorem firstDenied_some_lt (deny : Nat → Bool) : ∀ (g att j : Nat),
    firstDenied deny att g = some j → j < g ∧ deny (att + j) = true ∧ ∀ i, i < j → deny (att + i) = false := by
  intro g
  induction g with
  | zero => intro att j h; cases h
  | succ g ih =>
    intro att j h
    rw [firstDenied] at h
    split at h
    · cases h
      exact ⟨Nat.succ_pos _, ‹_›, fun i hi => absurd hi (Nat.not_lt_zero i)⟩
    · obtain ⟨j', hr, rfl⟩ := Option.map_eq_some_iff.mp h
      obtain ⟨a, b, c⟩ := ih (att + 1) j' hr
      rw [Nat.add_right_comm] at b
      refine ⟨Nat.succ_lt_succ a, b, fun i hi => ?_⟩
      cases i with
      | zero => simpa using ‹¬ deny att = true›
      | succ i => exact Nat.add_right_comm att 1 i ▸ c i (Nat.lt_of_succ_lt_succ hi)

theorem firstDenied_none (deny : Nat → Bool) (g att : Nat)
    (h : ∀ i, i < g → deny (att + i) = false) : firstDenied deny att g = none := by
  cases e : firstDenied deny att g with
  | none => rfl
  | some j =>
    obtain ⟨a, b, _⟩ := firstDenied_some_lt deny g att j e
    exact absurd (h j a) (by rw [b]; exact Bool.noConfusion)

/-- while unwinding, a balanced block is passed without being run and without changing the depth:
each operation is one step of `exec` and of `balanced`. -/
theorem exec_skip_block (deny : Nat → Bool) (tail : List MOp) : ∀ (rest : List MOp) (e d : Nat) (s : MSt),
    balanced e rest = true →
    exec deny (rest ++ tail) (some (d + e)) s = exec deny tail (some d) s := by
  intro rest
  induction rest with
  | nil =>
    intro e d s hb
    have : e = 0 := by simpa [balanced] using hb
    subst this
    rfl
  | cons op r ih =>
    intro e d s hb
    cases op with
    | alloc n g => exact ih e d s hb
    | throwRes => exact ih e d s hb
    | enter m => exact ih (e + 1) d s hb
    | leave =>
      cases e with
      | zero => cases hb
      | succ e' => exact ih e' d s hb

theorem exec_skip (deny : Nat → Bool) (post : List MOp) (body : List MOp) (e : Nat) (s : MSt)
    (hb : balanced e body = true) :
    exec deny (body ++ .leave :: post) (some e) s = exec deny post none s := by
  have := exec_skip_block deny (.leave :: post) body e 0 s hb
  rwa [Nat.zero_add] at this

/-- a run of allocations, each given as (cells, growth attempts) -/
def allocs (pre : List (Nat × Nat)) : List MOp := pre.map fun p => .alloc p.1 p.2
/-- the growth attempts of `allocs pre` together -/
def attempts (pre : List (Nat × Nat)) : Nat := (pre.map (·.2)).sum
/-- the cells of `allocs pre` together -/
def cellsOf (pre : List (Nat × Nat)) : Nat := (pre.map (·.1)).sum

theorem exec_allocs (deny : Nat → Bool) (rest : List MOp) : ∀ (pre : List (Nat × Nat)) (s : MSt),
    (∀ i, i < attempts pre → deny (s.att + i) = false) →
    exec deny (allocs pre ++ rest) none s
      = exec deny rest none { s with len := s.len + cellsOf pre, att := s.att + attempts pre } := by
  intro pre
  induction pre with
  | nil => intro s _; simp [allocs, attempts, cellsOf]
  | cons p pre ih =>
    intro s h
    have h1 : firstDenied deny s.att p.2 = none :=
      firstDenied_none deny p.2 s.att (by
        intro i hi
        exact h i (by simp [attempts]; omega))
    simp only [allocs, List.map_cons, List.cons_append, exec, h1]
    have := ih { s with len := s.len + p.1, att := s.att + p.2 } (by
      intro i hi
      have := h (p.2 + i) (by simp [attempts] at hi ⊢; omega)
      simpa [Nat.add_assoc] using this)
    simp only [allocs] at this
    rw [this]
    simp [attempts, cellsOf, Nat.add_assoc]

/-! ### polling -/

/-- invariant of every run from the initial state. -/
structure PInv (P : Nat) (s : PSt) : Prop where
  flag_pending : s.flag = true ↔ s.pending ≠ 0
  once : s.delivered + s.pending ≤ s.raised
  cnt_lt : s.cnt < P

theorem pstep_inv (P : Nat) (hP : 1 ≤ P) (s : PSt) (i : PInv P s) (e : Ev) : PInv P (pstep P s e) := by
  obtain ⟨h1, h2, h3⟩ := i
  cases e with
  | raise => exact ⟨by simp [pstep], Nat.succ_le_succ h2, h3⟩
  | tick =>
    rw [pstep]
    -- a poll that finds the flag set (the delivery), a poll that finds it clear, an iteration without poll
    split
    · split
      · exact ⟨by simp, by have := h1.mp ‹_›; show s.delivered + 1 + 0 ≤ s.raised; omega, hP⟩
      · exact ⟨h1, h2, hP⟩
    · exact ⟨h1, h2, by show s.cnt + 1 < P; omega⟩

theorem prun_inv (P : Nat) (hP : 1 ≤ P) (evs : List Ev) (s : PSt) (i : PInv P s) :
    PInv P (prun P s evs) :=
  List.foldlRecOn evs _ i fun s hs e _ => pstep_inv P hP s hs e

theorem pinv_init (P : Nat) (hP : 1 ≤ P) : PInv P {} :=
  ⟨by simp, by simp, by show 0 < P; omega⟩

theorem prun_append (P : Nat) (s : PSt) (a b : List Ev) :
    prun P s (a ++ b) = prun P (prun P s a) b :=
  List.foldl_append

theorem ticks_before_poll (P m : Nat) (s : PSt) (h : s.cnt + m < P) :
    prun P s (List.replicate m .tick) = { s with cnt := s.cnt + m } := by
  induction m with
  | zero => rfl
  | succ m ih =>
    rw [List.replicate_succ', prun_append, ih (Nat.lt_of_succ_lt h)]
    exact if_neg (Nat.not_le_of_lt h)

theorem delivered_within_period (P : Nat) (s : PSt) (hf : s.flag = true) (hc : s.cnt < P) :
    prun P s (List.replicate (P - s.cnt) .tick)
      = { s with flag := false, cnt := 0, delivered := s.delivered + 1, pending := 0 } := by
  obtain ⟨m, hm⟩ : ∃ m, P - s.cnt = m + 1 := ⟨P - s.cnt - 1, by omega⟩
  rw [hm, List.replicate_succ', prun_append, ticks_before_poll P m s (by omega)]
  exact (if_pos (by show s.cnt + m + 1 ≥ P; omega)).trans (if_pos hf)

end Scryer.Fault
