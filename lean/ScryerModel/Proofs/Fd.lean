import ScryerModel.Model.Fd
import ScryerModel.Proofs.ListFacts
import ScryerModel.Model.ArithInt
import Mathlib.Data.List.Perm.Subperm
import Mathlib.Data.List.Basic
/-!
The reference semantics of clp(Z) labeling (`Model/Fd.lean`).

Value lists of domains are strictly ascending, so the box of a system, a lexicographic product, is
strictly ascending in `lexLt` (the list order), and so is its filter `solutions`.  A labeling tree
under a valid branching rule partitions the product (`leaves_induction` says what such a tree does):
its leaves are a permutation of it (`tree_perm`, from `product_set_perm`); when the rule cuts the
candidates of the leftmost open variable in two, in order, the product itself is cut in two, in
order (`product_set_append`), and the leaves are the product (`tree_eq`).  Ground expressions are
translated to the is/2 expressions of `Model/ArithInt.lean`.
-/
namespace Scryer.Fd

/-! ### value lists are strictly ascending -/

theorem mem_rangeList {l h x : Int} : x ∈ rangeList l h ↔ l ≤ x ∧ x ≤ h := by
  rw [rangeList, mem_map_range_add]; omega

theorem rangeList_sorted (l h : Int) : (rangeList l h).Pairwise (· < ·) :=
  pairwise_map_range_add l _

theorem mem_merge {z : Int} (xs ys : List Int) : z ∈ merge xs ys ↔ z ∈ xs ∨ z ∈ ys := by
  fun_induction merge xs ys with
  | case1 ys => simp
  | case2 x xs => simp
  | case3 x xs y ys h ih => simp only [List.mem_cons, ih, or_assoc]
  | case4 x xs y ys h1 h2 ih =>
      rw [List.mem_cons (b := y), ih, List.mem_cons (b := y)]; exact or_left_comm
  | case5 x xs y ys h1 h2 ih =>
      obtain rfl : x = y := by omega
      simp only [List.mem_cons, ih]; exact or_or_distrib_left

theorem lt_of_lt_head {x y : Int} {ys : List Int} (h : x < y) (hy : (y :: ys).Pairwise (· < ·)) :
    ∀ z ∈ y :: ys, x < z := by
  intro z hz
  rcases List.mem_cons.1 hz with rfl | hz
  · exact h
  · exact Int.lt_trans h (List.rel_of_pairwise_cons hy hz)

theorem merge_sorted (xs ys : List Int) (hx : xs.Pairwise (· < ·)) (hy : ys.Pairwise (· < ·)) :
    (merge xs ys).Pairwise (· < ·) := by
  fun_induction merge xs ys with
  | case1 ys => exact hy
  | case2 x xs => exact hx
  | case3 x xs y ys h ih =>
      have hx' := List.pairwise_cons.1 hx
      exact List.pairwise_cons.2
        ⟨fun z hz => ((mem_merge _ _).1 hz).elim (hx'.1 z) (lt_of_lt_head h hy z), ih hx'.2 hy⟩
  | case4 x xs y ys h1 h2 ih =>
      have hy' := List.pairwise_cons.1 hy
      exact List.pairwise_cons.2
        ⟨fun z hz => ((mem_merge _ _).1 hz).elim (lt_of_lt_head h2 hx z) (hy'.1 z), ih hx hy'.2⟩
  | case5 x xs y ys h1 h2 ih =>
      obtain rfl : x = y := by omega
      have hx' := List.pairwise_cons.1 hx
      have hy' := List.pairwise_cons.1 hy
      exact List.pairwise_cons.2
        ⟨fun z hz => ((mem_merge _ _).1 hz).elim (hx'.1 z) (hy'.1 z), ih hx'.2 hy'.2⟩

theorem Dom.mem_toList (d : Dom) (x : Int) : x ∈ d.toList ↔ d.mem x = true := by
  induction d with
  | single n => simp [Dom.toList, Dom.mem]
  | range l h => simp [Dom.toList, Dom.mem, mem_rangeList]
  | union a b iha ihb => simp [Dom.toList, Dom.mem, mem_merge, iha, ihb]

theorem Dom.toList_sorted (d : Dom) : d.toList.Pairwise (· < ·) := by
  induction d with
  | single n => simp [Dom.toList]
  | range l h => exact rangeList_sorted l h
  | union a b iha ihb => exact merge_sorted _ _ iha ihb

theorem sorted_ext {l₁ l₂ : List Int} (h₁ : l₁.Pairwise (· < ·)) (h₂ : l₂.Pairwise (· < ·))
    (h : ∀ x, x ∈ l₁ ↔ x ∈ l₂) : l₁ = l₂ :=
  pairwise_ext (fun _ _ => Int.lt_asymm) h₁ h₂ h

/-! ### the product, ascending in `lexLt` -/

theorem mem_product_cons {d : List Int} {ds : List (List Int)} {a : List Int} :
    a ∈ product (d :: ds) ↔ ∃ v ∈ d, ∃ t ∈ product ds, v :: t = a := by
  simp only [product, List.mem_flatMap, List.mem_map]

theorem mem_product : ∀ (ds : List (List Int)) (a : List Int),
    a ∈ product ds ↔ List.Forall₂ (fun v d => v ∈ d) a ds
  | [], a => by simp [product]
  | d :: ds, a => by
      rw [mem_product_cons]
      constructor
      · rintro ⟨v, hv, t, ht, rfl⟩
        exact .cons hv ((mem_product ds t).1 ht)
      · rintro (_ | ⟨hv, ht⟩)
        exact ⟨_, hv, _, (mem_product ds _).2 ht, rfl⟩

theorem lexLt_cons {x y : Int} {xs ys : List Int} :
    lexLt (x :: xs) (y :: ys) ↔ x < y ∨ (x = y ∧ lexLt xs ys) := by
  simp [lexLt]

theorem lexLt_iff_lt : ∀ a b : List Int, lexLt a b ↔ a < b
  | [], [] => by simp [lexLt]
  | [], _ :: _ => by simp [lexLt]
  | _ :: _, [] => by simp [lexLt]
  | x :: xs, y :: ys => by rw [lexLt_cons, List.cons_lt_cons_iff, lexLt_iff_lt xs ys]

theorem lexLt_irrefl (a : List Int) : ¬ lexLt a a := by
  rw [lexLt_iff_lt]; exact List.lt_irrefl a

/-- every variable's candidate list is strictly ascending: this makes `product` ascending in `lexLt`. -/
def SortedStore (st : Store) : Prop := ∀ d ∈ st, d.Pairwise (· < ·)

theorem product_sorted : ∀ ds : Store, SortedStore ds → (product ds).Pairwise lexLt
  | [], _ => by simp [product]
  | d :: ds, h =>
      pairwise_flatMap_map
        (fun _ _ => (product_sorted ds fun d' hd' => h d' (List.mem_cons_of_mem _ hd')).imp
          fun hab => lexLt_cons.2 (Or.inr ⟨rfl, hab⟩))
        ((h d List.mem_cons_self).imp fun hab _ _ => lexLt_cons.2 (Or.inl hab))

theorem reverse_sorted_gt {d : List Int} (h : d.Pairwise (· < ·)) : d.reverse.Pairwise (· > ·) := by
  rw [List.pairwise_reverse]; exact h

theorem product_reverse : ∀ ds : List (List Int),
    product (ds.map List.reverse) = (product ds).reverse
  | [] => by simp [product]
  | d :: ds => by
      simp only [List.map_cons, product, product_reverse ds, List.reverse_flatMap]
      congr 1
      funext v
      simp [Function.comp, List.map_reverse]

/-! ### the box of a system -/

theorem mem_box (s : System) (a : List Int) :
    a ∈ s.box ↔ List.Forall₂ (fun v d => Dom.mem v d = true) a s.doms := by
  unfold System.box
  rw [mem_product, List.forall₂_map_right_iff]
  simp only [Dom.mem_toList]

theorem sortedStore_doms (s : System) : SortedStore (s.doms.map Dom.toList) := by
  intro d hd
  obtain ⟨d', _, rfl⟩ := List.mem_map.1 hd
  exact Dom.toList_sorted d'

theorem box_sorted (s : System) : s.box.Pairwise lexLt :=
  product_sorted _ (sortedStore_doms s)

theorem nodup_of_lexLt {l : List (List Int)} (h : l.Pairwise lexLt) : l.Nodup :=
  nodup_of_pairwise h lexLt_irrefl

theorem box_nodup (s : System) : s.box.Nodup := nodup_of_lexLt (box_sorted s)

/-! ### cutting one variable's candidates cuts the product -/

theorem product_set_perm : ∀ (st : Store) (i : Nat) (L R : List Int), i < st.length →
    (L ++ R).Perm (st.getD i []) →
    (product (st.set i L) ++ product (st.set i R)).Perm (product st)
  | [], _, _, _, hi, _ => by simp at hi
  | d :: ds, 0, L, R, _, h => by
      simp only [List.set_cons_zero, product]
      rw [← List.flatMap_append]
      exact List.Perm.flatMap_right _ (by simpa using h)
  | d :: ds, i+1, L, R, hi, h => by
      simp only [List.set_cons_succ, product]
      refine (List.flatMap_append_perm d _ _).trans ?_
      apply List.Perm.flatMap_left
      intro v _
      rw [← List.map_append]
      exact (product_set_perm ds i L R (by simpa using hi) (by simpa using h)).map _

theorem product_cons_singleton (v : Int) (ds : Store) :
    product ([v] :: ds) = (product ds).map (fun t => v :: t) :=
  List.flatMap_singleton ..

/-- What `firstOpen` does on an unfinished store: it skips closed variables and stops at the first
    open one. -/
theorem firstOpen_induction {motive : Store → Nat → Prop}
    (here : ∀ d ds, 2 ≤ d.length → motive (d :: ds) 0)
    (next : ∀ d ds i, d.length ≤ 1 → motive ds i → motive (d :: ds) (i + 1))
    {st : Store} (h : st.done = false) : motive st (firstOpen st 0) := by
  suffices ∀ k, ∃ i, firstOpen st k = k + i ∧ motive st i by
    obtain ⟨i, hi, hm⟩ := this 0
    rwa [hi, Nat.zero_add]
  intro k
  fun_induction firstOpen st k with
  | case1 k => cases h
  | case2 d ds k hd => exact ⟨0, rfl, here d ds hd⟩
  | case3 d ds k hd ih =>
      have hd' : d.length ≤ 1 := by omega
      obtain ⟨i, hi, hm⟩ := ih (by simpa [Store.done, hd'] using h)
      exact ⟨i + 1, by omega, next d ds i hd' hm⟩

/-- cutting the candidates of the first open variable in two cuts the product in two, in order. -/
theorem product_set_append {L R : List Int} {st : Store} (hd : st.done = false) :
    L ++ R = st.getD (firstOpen st 0) [] →
    product (st.set (firstOpen st 0) L) ++ product (st.set (firstOpen st 0) R) = product st :=
  firstOpen_induction
    (motive := fun st i => L ++ R = st.getD i [] →
      product (st.set i L) ++ product (st.set i R) = product st)
    (fun d ds _ h => by
      rw [List.getD_cons_zero] at h
      rw [List.set_cons_zero, List.set_cons_zero, product, product, ← List.flatMap_append, h, product])
    (fun d ds i hd ih h => by
      rcases d with _ | ⟨v, _ | _⟩
      · rfl
      · rw [List.set_cons_succ, List.set_cons_succ, product_cons_singleton, product_cons_singleton,
          product_cons_singleton, ← List.map_append, ih h]
      · exact absurd hd (by simp))
    hd

theorem product_done : ∀ st : Store, st.done = true → product st = (Store.assignment st).toList
  | [], _ => by simp [product, Store.assignment]
  | d :: ds, h => by
      have hd : d.length ≤ 1 ∧ Store.done ds = true := by
        simpa [Store.done] using h
      have ih := product_done ds hd.2
      match d, hd.1 with
      | [], _ => simp [product, Store.assignment, single?]
      | [v], _ =>
          simp only [product, Store.assignment, single?, List.flatMap_cons, List.flatMap_nil,
            List.append_nil, ih]
          cases Store.assignment ds <;> simp

/-! ### store size (it decreases along a labeling tree); the equations of `tree` -/

theorem size_cons (d : List Int) (ds : Store) : Store.size (d :: ds) = d.length + Store.size ds := rfl

theorem size_set : ∀ (st : Store) (i : Nat) (L : List Int), i < st.length →
    Store.size (st.set i L) + (st.getD i []).length = Store.size st + L.length
  | [], _, _, hi => absurd hi (Nat.not_lt_zero _)
  | d :: ds, 0, L, _ => by
      simp only [List.set_cons_zero, List.getD_cons_zero, size_cons]; omega
  | d :: ds, i+1, L, hi => by
      have := size_set ds i L (Nat.lt_of_succ_lt_succ hi)
      simp only [List.set_cons_succ, List.getD_cons_succ, size_cons]; omega

theorem getD_mem {st : Store} {i : Nat} (h : 0 < (st.getD i []).length) :
    i < st.length ∧ st.getD i [] ∈ st := by
  rw [List.getD_eq_getElem?_getD] at h ⊢
  by_cases hi : i < st.length
  · rw [List.getElem?_eq_getElem hi]; exact ⟨hi, List.getElem_mem hi⟩
  · rw [List.getElem?_eq_none (Nat.le_of_not_lt hi)] at h; cases h

theorem not_done_of_open {st : Store} {i : Nat} (h : 2 ≤ (st.getD i []).length) : st.done = false := by
  cases hd : st.done with
  | false => rfl
  | true =>
    have := List.all_eq_true.1 hd _ (getD_mem (i := i) (by omega)).2
    rw [decide_eq_true_eq] at this
    omega

theorem tree_done (br : Store → Branch) (f : Nat) {st : Store} (h : st.done = true) :
    tree br f st = [st] := by
  cases f <;> simp [tree, h]

theorem tree_succ (br : Store → Branch) (f : Nat) {st : Store} (h : st.done = false) :
    tree br (f + 1) st =
      tree br f (st.set (br st).i (br st).left) ++ tree br f (st.set (br st).i (br st).right) := by
  simp [tree, h]

theorem ValidBranch.size_lt {br : Store → Branch} (hv : ValidBranch br) {st : Store}
    (hd : st.done = false) :
    Store.size (st.set (br st).i (br st).left) < st.size ∧
      Store.size (st.set (br st).i (br st).right) < st.size := by
  obtain ⟨hi, hl, hr, hp⟩ := hv st hd
  have h1 := size_set st (br st).i (br st).left hi
  have h2 := size_set st (br st).i (br st).right hi
  have h3 := hp.length_eq
  rw [List.length_append] at h3
  have := List.length_pos_iff.2 hl
  have := List.length_pos_iff.2 hr
  exact ⟨by omega, by omega⟩

/-! ### the leaves of a labeling tree: a permutation of the product -/

/-- the answers at the leaves of a labeling tree. -/
def leaves (br : Store → Branch) (f : Nat) (st : Store) : List (List Int) :=
  (tree br f st).filterMap Store.assignment

theorem leaves_done (br : Store → Branch) (f : Nat) {st : Store} (hd : st.done = true) :
    leaves br f st = product st := by
  rw [leaves, tree_done br f hd, product_done st hd]
  cases h : Store.assignment st <;> simp [h]

/-- What labeling with a valid rule and enough fuel does: a finished store yields its product (at
    most one assignment); otherwise the answers of the two children are appended. -/
theorem leaves_induction {br : Store → Branch} (hv : ValidBranch br)
    {motive : Store → List (List Int) → Prop}
    (leaf : ∀ st, st.done = true → motive st (product st))
    (node : ∀ st a b, st.done = false → motive (st.set (br st).i (br st).left) a →
      motive (st.set (br st).i (br st).right) b → motive st (a ++ b))
    {f : Nat} {st : Store} (hs : st.size ≤ f) : motive st (leaves br f st) := by
  induction f generalizing st with
  | zero =>
      cases hd : st.done with
      | true => rw [leaves_done br 0 hd]; exact leaf st hd
      | false => exact absurd (hv.size_lt hd).1 (by omega)
  | succ f ih =>
      cases hd : st.done with
      | true => rw [leaves_done br _ hd]; exact leaf st hd
      | false =>
          obtain ⟨hl, hr⟩ := hv.size_lt hd
          rw [leaves, tree_succ br f hd, List.filterMap_append]
          exact node st _ _ hd (ih (by omega)) (ih (by omega))

theorem tree_perm {br : Store → Branch} (hv : ValidBranch br) {f : Nat} {st : Store} (hs : st.size ≤ f) :
    (leaves br f st).Perm (product st) :=
  leaves_induction hv (motive := fun st l => l.Perm (product st)) (fun _ _ => .refl _)
    (fun st _ _ hd ha hb =>
      (ha.append hb).trans (product_set_perm st _ _ _ (hv st hd).1 (hv st hd).2.2.2)) hs

/-! ### what `Props/C27` needs to show clpz's rules valid -/

theorem bisectParts_perm (d : List Int) : ((bisectParts d).1 ++ (bisectParts d).2).Perm d := by
  unfold bisectParts
  exact List.filter_append_perm _ _

theorem fixSel_open (sel : Store → Nat) {st : Store} (h : st.done = false) :
    fixSel sel st < st.length ∧ 2 ≤ (st.getD (fixSel sel st) []).length := by
  have ho : 2 ≤ (st.getD (fixSel sel st) []).length := by
    unfold fixSel
    split
    · rename_i ho; exact of_decide_eq_true ho
    · exact firstOpen_induction (motive := fun st i => 2 ≤ (st.getD i []).length)
        (fun _ _ hd => hd) (fun _ _ _ _ hm => hm) h
  exact ⟨(getD_mem (Nat.lt_of_lt_of_le Nat.zero_lt_two ho)).1, ho⟩

theorem ordered_perm (o : Ord) (d : List Int) : (ordered o d).Perm d := by
  cases o
  · exact List.Perm.refl _
  · exact List.reverse_perm d

/-! ### leftmost ordered cuts: the leaves are the product, in order -/

/-- leftmost ordered branching: the first open variable, its candidates cut in two. -/
def CutBranch (br : Store → Branch) : Prop :=
  ∀ st : Store, SortedStore st → st.done = false →
    (br st).i = firstOpen st 0 ∧ (br st).left ++ (br st).right = st.getD (br st).i []

theorem sortedStore_set {st : Store} {i : Nat} {L : List Int} (h : SortedStore st)
    (hL : L.Pairwise (· < ·)) : SortedStore (st.set i L) := by
  intro d hd
  rcases List.mem_or_eq_of_mem_set hd with hd | rfl
  · exact h d hd
  · exact hL

theorem tree_eq {br : Store → Branch} (hv : ValidBranch br) (hc : CutBranch br) {f : Nat} {st : Store}
    (hs : st.size ≤ f) : SortedStore st → leaves br f st = product st :=
  leaves_induction hv (motive := fun st l => SortedStore st → l = product st) (fun _ _ _ => rfl)
    (fun st a b hd ha hb hst => by
      obtain ⟨hfo, hlr⟩ := hc st hst hd
      -- the two parts of a sorted list are sorted, so the children are sorted stores
      have hsub := List.pairwise_append.1 (hlr ▸ forall_getD hst .nil (br st).i)
      rw [ha (sortedStore_set hst hsub.1), hb (sortedStore_set hst hsub.2.1)]
      rw [hfo] at hlr ⊢
      exact product_set_append hd hlr)
    hs

theorem labelWith_eq_solutions (br : Store → Branch) (hv : ValidBranch br) (hc : CutBranch br)
    (s : System) : labelWith br s = solutions s :=
  congrArg _ (tree_eq hv hc (Nat.le_refl _) (sortedStore_doms s))

theorem fixSel_leftmost (st : Store) : fixSel (selIndex .leftmost) st = firstOpen st 0 := by
  have h : selIndex .leftmost st = firstOpen st 0 := rfl
  unfold fixSel
  rw [h]
  exact ite_self _

theorem stepBranch_cut : CutBranch (stepBranch (selIndex .leftmost) .up) := by
  intro st _ _
  simp only [stepBranch, ordered]
  split <;> rename_i h <;> exact ⟨fixSel_leftmost st, h.symm⟩

theorem filter_le_append {d : List Int} (h : d.Pairwise (· < ·)) (m : Int) :
    d.filter (fun x => decide (x ≤ m)) ++ d.filter (fun x => !decide (x ≤ m)) = d := by
  refine sorted_ext (List.pairwise_append.2 ⟨h.filter _, h.filter _, ?_⟩) h ?_
  · intro x hx y hy
    simp only [List.mem_filter, decide_eq_true_eq, Bool.not_eq_eq_eq_not, Bool.not_true,
      decide_eq_false_iff_not] at hx hy
    omega
  · intro x
    by_cases x ≤ m <;> simp [*]

theorem bisectBranch_cut : CutBranch (bisectBranch (selIndex .leftmost) .up) := by
  intro st hst hd
  simp only [bisectBranch]
  split
  · exact stepBranch_cut st hst hd
  · exact ⟨fixSel_leftmost st, filter_le_append (forall_getD hst .nil _) _⟩

/-! ### ground expressions as is/2 expressions -/

def unToArith : UnOp → Arith.UnOp
  | .neg => .neg | .abs => .abs | .sign => .sign

/-- the is/2 operator of `Model/ArithInt.lean` with the same meaning. `exdiv` (clp(Z)'s `/`, defined
    when the division is exact) has none there. -/
def binToArith : BinOp → Option Arith.BinOp
  | .add => some .add | .sub => some .sub | .mul => some .mul | .tdiv => some .idiv
  | .fdiv => some .div | .mod => some .mod | .rem => some .rem | .exdiv => none
  | .pow => some .pow | .min => some .min | .max => some .max

/-- translation of a ground, `/`-free clp(Z) expression into an is/2 expression of C01. -/
def toArith : Expr → Option Arith.Expr
  | .var _ => none
  | .lit v => some (.lit v)
  | .un op e => (toArith e).map (Arith.Expr.un (unToArith op))
  | .bin op l r =>
      match binToArith op, toArith l, toArith r with
      | some o, some a, some b => some (.bin o a b)
      | _, _, _ => none

theorem evalUn_eq_spec (op : UnOp) (a : Int) :
    Arith.specUn (unToArith op) a = .ok (evalUn op a) := by
  cases op <;> rfl

theorem evalBin_eq_spec {op : BinOp} {o : Arith.BinOp} (h : binToArith op = some o) (a b : Int) :
    evalBin op a b = (Arith.specBin o a b).toOption := by
  cases op <;> simp only [binToArith, Option.some.injEq, reduceCtorEq] at h <;> subst h <;>
    simp only [evalBin, Arith.specBin, Except.toOption]
  -- open after this: the four divisions, which split on `b = 0`, and `^`
  all_goals try (split <;> rfl)
  -- `^`: a negative exponent is defined for the bases 1 and -1 only. `specBin` first sets
  -- `0 ^ negative` apart (is/2 raises another error for it); `evalBin` has one test, `none` for both
  by_cases h0 : a = 0 ∧ b < 0
  · obtain ⟨rfl, hb⟩ := h0
    simp [hb]
  · by_cases h1 : b < 0 ∧ a ≠ 1 ∧ a ≠ -1
    · rw [if_pos h1, if_neg h0, if_pos h1]
    · rw [if_neg h1, if_neg h0, if_neg h1]
      rfl

end Scryer.Fd
