import ScryerModel.Model.Csv
import ScryerModel.Proofs.Positional
/-! Lemmas for property C51: what the reader of `Model/Csv.lean` makes of the text the documented
    writer produces — numbers, fields, lines, tables in turn. The fuel of `rowF` / `rowsF` is dealt with
    before lines and tables: it is never exhausted, so `row` and `rows` satisfy the recursion of the DCG
    as it stands in `csv.pl` (`row_eq`, `rows_eq`), and nothing after that mentions fuel. The writer is
    dealt with likewise: its text is fields joined by the separator and lines joined by the line separator
    (`writeRow_eq`, `writeRows_eq`), and lines and tables are read back from that text. -/
namespace Scryer.Csv

/-! ### digits -/

theorem digitChar_toNat {d : Nat} (h : d < 10) : (digitChar d).toNat = d + 48 := by
  revert d; decide

theorem digitChar_spec : ∀ d, d < 10 → isDigit (digitChar d) = true ∧ digitVal (digitChar d) = d := by
  decide

theorem natDigits_numeral (n : Nat) : Positional.Numeral 10 digitChar n (natDigits n) := by
  -- the fuel `log2 n + 1` is enough: `n < 2 ^ (log2 n + 1)`, and a division by ten more than halves
  suffices h : ∀ k n, n < 2 ^ k → Positional.Numeral 10 digitChar n (natDigitsAux k n) from
    h _ n Nat.lt_log2_self
  intro k
  induction k with
  | zero =>
    intro n hn
    obtain rfl : n = 0 := by simpa using hn
    exact .small (by decide)
  | succ k ih =>
    intro n hn
    rw [natDigitsAux]
    split
    · exact .small ‹_›
    · have hp : 2 ^ (k + 1) = 2 ^ k * 2 := Nat.pow_succ 2 k
      exact .step (by omega) (ih _ (Nat.div_lt_of_lt_mul (by omega)))

theorem natDigits_spec (n : Nat) : (∀ c ∈ natDigits n, isDigit c = true) ∧
    Positional.horner 10 digitVal 0 (natDigits n) = n ∧ natDigits n ≠ [] :=
  (natDigits_numeral n).spec (by decide) digitChar_spec

theorem natOfDigits_natDigits (n : Nat) : natOfDigits (natDigits n) = n := by
  simpa only [natOfDigits, Positional.horner, Nat.mul_comm 10] using (natDigits_spec n).2.1

/-! ### character classes -/

theorem isWs_of_digit {c : Char} (h : isDigit c = true) : isWs c = false := by
  cases hw : isWs c with
  | false => rfl
  | true =>
    simp only [isWs, Bool.or_eq_true, beq_iff_eq] at hw
    rcases hw with rfl | rfl <;> cases h

theorem numChar_ne {c : Char} (h : isNumChar c = true) : c ≠ '"' ∧ c ≠ '\n' ∧ c ≠ '\r' := by
  refine ⟨?_, ?_, ?_⟩ <;> (rintro rfl; revert h; decide)

theorem isNumChar_of_digit {c : Char} (h : isDigit c = true) : isNumChar c = true := by
  simp [isNumChar, h]

theorem takeWhile_all {p : Char → Bool} {l : List Char} (h : ∀ c ∈ l, p c = true) :
    l.takeWhile p = l := by
  have := List.takeWhile_append_of_pos (l₂ := []) h
  rwa [List.append_nil, List.takeWhile_nil, List.append_nil] at this

theorem dropWhile_all {p : Char → Bool} {l : List Char} (h : ∀ c ∈ l, p c = true) :
    l.dropWhile p = [] := by
  have := List.dropWhile_append_of_pos (l₂ := []) h
  rwa [List.append_nil] at this

theorem skipWs_cons_of_not {c : Char} {l : List Char} (h : isWs c = false) :
    skipWs (c :: l) = c :: l := by
  simp [skipWs, h]

/-! ### typing of written numbers: an optional `-` and a body that `classifyUnsigned` accepts -/

theorem allDigits_mem {l : List Char} (h : allDigits l = true) : ∀ c ∈ l, isDigit c = true := by
  simp [allDigits] at h
  exact h.2

theorem expOk_numChars {x : List Char} (h : expOk x = true) : ∀ c ∈ x, isNumChar c = true := by
  have hd : ∀ {r}, allDigits r = true → ∀ c ∈ r, isNumChar c = true :=
    fun h c hc => isNumChar_of_digit (allDigits_mem h c hc)
  revert h
  fun_cases expOk x <;> intro h
  · exact List.forall_mem_cons.2 ⟨rfl, hd h⟩
  · exact List.forall_mem_cons.2 ⟨rfl, hd h⟩
  · exact hd h

theorem numChars_of_dropWhile {l : List Char} (h : ∀ c ∈ l.dropWhile isDigit, isNumChar c = true) :
    ∀ c ∈ l, isNumChar c = true := by
  intro c hc
  rw [← List.takeWhile_append_dropWhile (p := isDigit) (l := l), List.mem_append] at hc
  exact hc.elim (fun hc => isNumChar_of_digit (List.all_eq_true.1 List.all_takeWhile c hc)) (h c)

theorem head_digit_of_takeWhile {l : List Char} (h : ¬ (l.takeWhile isDigit).isEmpty = true) :
    ∃ a r, l = a :: r ∧ isDigit a = true := by
  cases l with
  | nil => exact absurd rfl h
  | cons a r =>
    cases ha : isDigit a with
    | true => exact ⟨a, r, rfl, ha⟩
    | false => simp [ha] at h

theorem classifyUnsigned_some {l : List Char} {v : Nat ⊕ List Char} (h : classifyUnsigned l = some v) :
    (∀ c ∈ l, isNumChar c = true) ∧ (∃ a r, l = a :: r ∧ isDigit a = true) ∧ ∀ x, v = .inr x → x = l := by
  -- `l` is digits, then nothing, or a point and a rest `r` that is digits and what `classifyUnsigned` checked last
  have key : ∀ {c r}, l.dropWhile isDigit = c :: r → ¬ (c != '.') = true →
      (∀ d ∈ r.dropWhile isDigit, isNumChar d = true) → ∀ d ∈ l, isNumChar d = true := by
    intro c r hdw hc hr
    refine numChars_of_dropWhile ?_
    rw [hdw, show c = '.' by simpa using hc]
    exact List.forall_mem_cons.2 ⟨rfl, numChars_of_dropWhile hr⟩
  revert h
  -- left after `cases h`: digits only (case2), `digits.digits` (case5), the same and an exponent (case6)
  fun_cases classifyUnsigned l <;> intro h <;> cases h
  case case2 hne hnil => exact ⟨numChars_of_dropWhile (by simp [hnil]), head_digit_of_takeWhile hne, nofun⟩
  case case5 hne c r hdw hc _ hnil =>
    exact ⟨key hdw hc (by simp [hnil]), head_digit_of_takeWhile hne, fun _ e => (Sum.inr.inj e).symm⟩
  case case6 hne c r hdw hc _ e y hey hcond =>
    simp only [Bool.and_eq_true, Bool.or_eq_true, beq_iff_eq] at hcond
    refine ⟨key hdw hc ?_, head_digit_of_takeWhile hne, fun _ e => (Sum.inr.inj e).symm⟩
    rw [hey]
    exact List.forall_mem_cons.2 ⟨by rcases hcond.1 with rfl | rfl <;> rfl, expOk_numChars hcond.2⟩

/-- a number as written: the body, after a `-` if negative -/
def withSign (neg : Bool) (b : List Char) : List Char := if neg then '-' :: b else b

/-- The body begins with a digit, so `classify` skips no layout and sees the sign exactly when it is there. -/
theorem classify_withSign {b : List Char} {v : Nat ⊕ List Char} (h : classifyUnsigned b = some v)
    (neg : Bool) : classify (withSign neg b) = classifySigned (withSign neg b) neg b ∧
      (∀ c ∈ withSign neg b, isNumChar c = true) ∧ withSign neg b ≠ [] := by
  obtain ⟨hc, ⟨a, r, rfl, ha⟩, _⟩ := classifyUnsigned_some h
  have hw := skipWs_cons_of_not (l := r) (isWs_of_digit ha)
  cases neg
  · refine ⟨?_, hc, List.cons_ne_nil _ _⟩
    show classify (a :: r) = classifySigned (a :: r) false (a :: r)
    rw [classify, hw]
    split
    · rename_i h
      cases h
      exact absurd ha (by decide)
    · rfl
  · refine ⟨?_, List.forall_mem_cons.2 ⟨rfl, hc⟩, List.cons_ne_nil _ _⟩
    show classify ('-' :: a :: r) = classifySigned ('-' :: a :: r) true (a :: r)
    rw [classify, skipWs_cons_of_not (c := '-') (by decide)]
    exact congrArg (classifySigned _ true) hw

theorem classifyUnsigned_natDigits (n : Nat) : classifyUnsigned (natDigits n) = some (.inl n) := by
  obtain ⟨hall, _, hne⟩ := natDigits_spec n
  unfold classifyUnsigned
  rw [takeWhile_all hall, dropWhile_all hall]
  cases hd : natDigits n with
  | nil => exact absurd hd hne
  | cons a l => simp [← hd, natOfDigits_natDigits, hne]

theorem renderInt_eq (i : Int) :
    ∃ neg n, renderInt i = withSign neg (natDigits n) ∧ (if neg = true then -(n : Int) else n) = i := by
  unfold renderInt
  split
  · exact ⟨true, i.natAbs, rfl, by simp only [↓reduceIte]; omega⟩
  · exact ⟨false, i.toNat, rfl, by simp only [Bool.false_eq_true, ↓reduceIte]; omega⟩

theorem renderInt_spec (i : Int) :
    classify (renderInt i) = .int i ∧ (∀ c ∈ renderInt i, isNumChar c = true) ∧ renderInt i ≠ [] := by
  obtain ⟨neg, n, e, hi⟩ := renderInt_eq i
  have h := classify_withSign (classifyUnsigned_natDigits n) neg
  rw [e, h.1, classifySigned, classifyUnsigned_natDigits]
  exact ⟨congrArg Field.int hi, h.2⟩

theorem isFloatLex_cases {l : List Char} (h : isFloatLex l = true) :
    ∃ neg b, l = withSign neg b ∧ classifyUnsigned b = some (.inr b) := by
  have aux : ∀ m : List Char, unsignedFloatLex m = true → classifyUnsigned m = some (.inr m) := by
    intro m hm
    unfold unsignedFloatLex at hm
    split at hm
    · rename_i y hy
      rw [hy, (classifyUnsigned_some hy).2.2 _ rfl]
    · cases hm
  revert h
  fun_cases isFloatLex l <;> intro h
  · exact ⟨true, _, rfl, aux _ h⟩
  · exact ⟨false, _, rfl, aux _ h⟩

theorem floatLex_spec {l : List Char} (h : isFloatLex l = true) :
    classify l = .flt l ∧ (∀ c ∈ l, isNumChar c = true) ∧ l ≠ [] := by
  obtain ⟨neg, b, rfl, hb⟩ := isFloatLex_cases h
  have h := classify_withSign hb neg
  rw [h.1, classifySigned, hb]
  exact ⟨by cases neg <;> rfl, h.2⟩

/-! ### reader on written fields -/

/-- what may follow an unquoted field: end of text, the separator, or a line end -/
def Follow (sep : Char) (r : List Char) : Prop :=
  r = [] ∨ ∃ c r', r = c :: r' ∧ (c = sep ∨ c = '\n' ∨ c = '\r')

/-- what may follow a line: end of text or a line end -/
def RowFollow (r : List Char) : Prop :=
  r = [] ∨ ∃ c r', r = c :: r' ∧ (c = '\n' ∨ c = '\r')

theorem RowFollow.follow {sep : Char} {r : List Char} (h : RowFollow r) : Follow sep r := by
  rcases h with h | ⟨c, r', h, hc⟩
  · exact Or.inl h
  · exact Or.inr ⟨c, r', h, Or.inr hc⟩

theorem tokens_follow {sep : Char} {r : List Char} (hr : Follow sep r) : tokens sep r = ([], r) := by
  rcases hr with rfl | ⟨c, r', rfl, hc⟩
  · rfl
  · unfold tokens
    rcases hc with rfl | rfl | rfl
    · simp
    · by_cases h : '\n' = sep <;> simp [h]
    · by_cases h : '\r' = sep <;> simp [h]

theorem tokens_append {sep : Char} {t r : List Char}
    (ht : ∀ c ∈ t, c ≠ sep ∧ c ≠ '\n' ∧ c ≠ '\r') (hr : Follow sep r) :
    tokens sep (t ++ r) = (t, r) := by
  induction t with
  | nil => simpa using tokens_follow hr
  | cons a t ih =>
    have ha := ht a (by simp)
    have ih' := ih (fun c hc => ht c (by simp [hc]))
    simp only [List.cons_append]
    unfold tokens
    simp [ha.1, ha.2.1, ha.2.2, ih']

theorem stringTokens_escapeQ (s r : List Char) (hr : ∀ r', r ≠ '"' :: r') :
    stringTokens (escapeQ s ++ '"' :: r) = some (s, r) := by
  fun_induction escapeQ s
  case case1 =>
    cases r with
    | nil => rfl
    | cons d ds => simp [stringTokens, show d ≠ '"' from fun h => hr ds (h ▸ rfl)]
  case case2 s ih => simp [stringTokens, ih]
  case case3 c s hc ih =>
    unfold stringTokens
    simp [hc, ih]

theorem field_quoteField (sep : Char) (s r : List Char) (hr : ∀ r', r ≠ '"' :: r') :
    field sep (quoteField s ++ r) = some (mkStr s, r) := by
  have h := stringTokens_escapeQ s r hr
  simp only [quoteField, List.cons_append, List.append_assoc, List.nil_append]
  unfold field
  simp [h]

theorem follow_not_quote {sep : Char} {r : List Char} (hs : sep ≠ '"') (hr : Follow sep r) :
    ∀ r', r ≠ '"' :: r' := by
  intro r' h
  rcases hr with rfl | ⟨c, r'', rfl, hc⟩
  · simp at h
  · simp only [List.cons.injEq] at h
    rcases hc with rfl | rfl | rfl
    · exact hs h.1
    · exact absurd h.1 (by decide)
    · exact absurd h.1 (by decide)

theorem field_unquoted {sep : Char} {t r : List Char} (hne : t ≠ [])
    (ht : ∀ c ∈ t, c ≠ '"' ∧ c ≠ sep ∧ c ≠ '\n' ∧ c ≠ '\r') (hr : Follow sep r) :
    field sep (t ++ r) = some (classify t, r) := by
  cases t with
  | nil => exact absurd rfl hne
  | cons a t' =>
    have ha := ht a (by simp)
    have htk := tokens_append (fun c hc => (ht c hc).2) hr
    simp only [List.cons_append] at htk ⊢
    unfold field
    simp [ha.1, htk]

theorem field_empty {sep : Char} {r : List Char} (hs : sep ≠ '"') (hr : Follow sep r) :
    field sep r = some (.null, r) := by
  have hq := follow_not_quote hs hr
  have htk := tokens_follow hr
  cases r with
  | nil => rfl
  | cons c r' =>
    have : c ≠ '"' := fun e => hq r' (e ▸ rfl)
    unfold field
    simp [this, htk]

theorem sepOk_iff {o : Opts} : sepOk o = true ↔ o.sep ≠ '"' ∧ o.sep ≠ '\n' ∧ o.sep ≠ '\r' := by
  simp [sepOk, and_assoc]

theorem numChars_field_chars {sep : Char} {t : List Char} (hn : ∀ c ∈ t, isNumChar c = true)
    (hsep : t.contains sep = false) : ∀ c ∈ t, c ≠ '"' ∧ c ≠ sep ∧ c ≠ '\n' ∧ c ≠ '\r' := by
  intro c hc
  have h := numChar_ne (hn c hc)
  refine ⟨h.1, ?_, h.2⟩
  rintro rfl
  simp at hsep
  exact hsep hc

theorem field_renderField {o : Opts} {f : Field} {r : List Char} (hs : sepOk o = true)
    (hf : fieldOk o f = true) (hr : Follow o.sep r) :
    field o.sep (renderField o f ++ r) = some (f, r) := by
  have hs' := sepOk_iff.mp hs
  cases f with
  | null =>
    simp only [fieldOk, Option.isNone_iff_eq_none] at hf
    simp only [renderField, renderNull, hf, Option.getD_none, List.nil_append]
    exact field_empty hs'.1 hr
  | str s =>
    have hne : s ≠ [] := by
      intro h; simp [fieldOk, h] at hf
    simp only [renderField, hne, ↓reduceIte]
    rw [field_quoteField o.sep s r (follow_not_quote hs'.1 hr)]
    cases s with
    | nil => exact absurd rfl hne
    | cons a s' => rfl
  | int i =>
    have h := renderInt_spec i
    simp only [fieldOk, Bool.not_eq_true'] at hf
    rw [renderField, field_unquoted h.2.2 (numChars_field_chars h.2.1 hf) hr, h.1]
  | flt l =>
    simp only [fieldOk, Bool.and_eq_true, Bool.not_eq_true'] at hf
    have h := floatLex_spec hf.1
    rw [renderField, field_unquoted h.2.2 (numChars_field_chars h.2.1 hf.2) hr, h.1]

/-! ### the fuel of `rowF` / `rowsF` never runs out: the text left over gets shorter -/

theorem tokens_length (sep : Char) (cs : List Char) :
    (tokens sep cs).2.length ≤ cs.length ∧ ((tokens sep cs).1 ≠ [] → (tokens sep cs).2.length < cs.length) := by
  fun_induction tokens sep cs <;> simp <;> omega

theorem stringTokens_length (cs : List Char) {s r : List Char} (h : stringTokens cs = some (s, r)) :
    r.length < cs.length := by
  fun_induction stringTokens cs generalizing s r
  case case1 => cases h
  case case2 => cases h; simp
  case case4 => cases h; simp
  -- the recursive clauses: a doubled quote (case3), any other character (case5)
  all_goals
    rename_i ih
    obtain ⟨p, hp, he⟩ := Option.map_eq_some_iff.1 h
    cases he
    have := ih hp
    simp only [List.length_cons]
    omega

theorem field_length {sep : Char} {cs : List Char} {f : Field} {r : List Char}
    (h : field sep cs = some (f, r)) :
    r.length ≤ cs.length ∧ (f ≠ .null → r.length < cs.length) := by
  revert h
  -- the clauses of `field`: end of text, quoted field, no token (null), unquoted token
  fun_cases field sep cs <;> intro h
  case case1 => cases h; simp
  case case2 =>
    obtain ⟨p, hp, he⟩ := Option.map_eq_some_iff.1 h
    cases he
    have := stringTokens_length _ hp
    simp only [List.length_cons]
    omega
  case case3 => cases h; simp
  case case4 c cs _ p hp =>
    cases h
    exact ⟨(tokens_length sep _).1, fun _ => (tokens_length sep _).2 hp⟩

theorem endToken_length (r : List Char) : (endToken r).length ≤ r.length := by
  fun_cases endToken r <;> simp only [List.length_cons, Nat.le_refl] <;> omega

theorem rowF_mono (sep : Char) (n : Nat) (cs : List Char) (h : cs.length < n) (m : Nat) (hm : n ≤ m) :
    rowF sep m cs = rowF sep n cs := by
  -- the clauses of `rowF`: no fuel, no field, end of text, separator (the recursive one), end of line;
  -- in all but the first, `m` is a successor as well
  fun_induction rowF sep n cs generalizing m
  case case1 => cases h
  all_goals
    rcases m with _ | m
    · cases hm
  case case2 hf => rw [rowF, hf]
  case case3 hf => rw [rowF, hf]
  case case4 f r' hf ih =>
    have hl := (field_length hf).1
    rw [rowF, hf]
    exact (if_pos rfl).trans (by rw [ih (Nat.lt_of_lt_of_le hl (Nat.le_of_lt_succ h)) m (Nat.le_of_succ_le_succ hm)])
  case case5 hc hf =>
    rw [rowF, hf]
    exact if_neg hc

theorem rowF_length (sep : Char) (n : Nat) (cs : List Char) {x : List Field} {r : List Char}
    (h : rowF sep n cs = some (x, r)) :
    r.length ≤ cs.length ∧ (x ≠ [Field.null] → r.length < cs.length) := by
  fun_induction rowF sep n cs generalizing x r
  case case1 => cases h
  case case2 => cases h
  case case3 f hf =>
    cases h
    exact ⟨Nat.zero_le _, fun hx => (field_length hf).2 fun e => hx (e ▸ rfl)⟩
  case case4 f r' hf ih =>
    obtain ⟨q, hq, he⟩ := Option.map_eq_some_iff.1 h
    cases he
    have := (ih hq).1
    have := (field_length hf).1
    simp only [List.length_cons] at this
    exact ⟨by omega, fun _ => by omega⟩
  case case5 f c r' _ hf =>
    cases h
    have h1 := field_length hf
    have h2 := endToken_length (c :: r')
    exact ⟨by omega, fun hx => by have := h1.2 fun e => hx (e ▸ rfl); omega⟩

theorem rowsF_mono (sep : Char) (n : Nat) (cs : List Char) (h : cs.length < n) (m : Nat) (hm : n ≤ m) :
    rowsF sep m cs = rowsF sep n cs := by
  -- the clauses of `rowsF`: no fuel, no line, a lone empty field, any other line (the recursive one)
  fun_induction rowsF sep n cs generalizing m
  case case1 => cases h
  all_goals
    rcases m with _ | m
    · cases hm
  case case2 hr => rw [rowsF, hr]
  case case3 hr =>
    rw [rowsF, hr]
    exact if_pos rfl
  case case4 x r hr hx ih =>
    have := (rowF_length sep _ _ hr).2 hx
    rw [rowsF, hr]
    exact (if_neg hx).trans (by rw [ih (Nat.lt_of_lt_of_le this (Nat.le_of_lt_succ h)) m (Nat.le_of_succ_le_succ hm)])

/-! ### `row` and `rows` without fuel -/

theorem row_eq (sep : Char) (cs : List Char) : row sep cs =
    match field sep cs with
    | none => none
    | some (f, r) =>
      match r with
      | [] => some ([f], [])
      | c :: r' =>
        if c = sep then (row sep r').map (fun p => (f :: p.1, p.2))
        else some ([f], endToken (c :: r')) := by
  unfold row
  rw [rowF]
  cases hf : field sep cs with
  | none => rfl
  | some p =>
    obtain ⟨f, _ | ⟨c, r'⟩⟩ := p
    · rfl
    · have hl := (field_length hf).1
      simp only
      rw [rowF_mono sep _ r' (Nat.lt_succ_self _) _ hl]

theorem rows_eq (sep : Char) (cs : List Char) : rows sep cs =
    match row sep cs with
    | none => none
    | some (x, r) =>
      if x = [Field.null] then some ([], r) else (rows sep r).map (fun p => (x :: p.1, p.2)) := by
  unfold rows
  rw [rowsF]
  cases hr : row sep cs with
  | none => rfl
  | some p =>
    obtain ⟨x, r⟩ := p
    simp only
    split
    · rfl
    · rename_i hx
      rw [rowsF_mono sep _ r (Nat.lt_succ_self _) _ ((rowF_length sep _ _ hr).2 hx)]

/-! ### the written text in closed form: fields joined by the separator, lines by the line separator -/

theorem writeRow_eq (rf : Field → List Char) (sep : Char) {fs : List Field} (h : fs ≠ []) :
    writeRow rf sep fs = some ([sep].intercalate (fs.map rf)) := by
  fun_induction writeRow rf sep fs
  case case1 => exact absurd rfl h
  case case2 f => rw [List.map_singleton, List.intercalate_singleton]
  case case3 f g r ih =>
    rw [ih (List.cons_ne_nil _ _)]
    simp only [List.map_cons, List.intercalate_cons_cons, List.append_assoc, List.singleton_append, Option.map_some]

theorem writeRows_eq (rf : Field → List Char) (sep : Char) (ls : List Char) {rs : List (List Field)}
    (h : ∀ r ∈ rs, r ≠ []) :
    writeRows rf true sep ls rs = some (ls.intercalate (rs.map fun r => [sep].intercalate (r.map rf))) := by
  induction rs with
  | nil => rfl
  | cons r rs ih =>
    have hr := writeRow_eq rf sep (h r List.mem_cons_self)
    cases rs with
    | nil => rwa [writeRows, List.map_singleton, List.intercalate_singleton]
    | cons s t =>
      rw [writeRows, hr, ih fun x hx => h x (List.mem_cons_of_mem _ hx)]
      simp only [List.map_cons, List.intercalate_cons_cons]

/-- the text of a line in the documented format -/
abbrev lineText (o : Opts) (fs : List Field) : List Char := [o.sep].intercalate (fs.map (renderField o))

/-- the text of a table in the documented format -/
abbrev tableText (o : Opts) (rs : List (List Field)) : List Char := o.lineSep.intercalate (rs.map (lineText o))

/-! ### reader on a written line, and on a blank one -/

theorem rowOk_iff {o : Opts} {r : List Field} :
    rowOk o r = true ↔ r ≠ [] ∧ r ≠ [Field.null] ∧ ∀ f ∈ r, fieldOk o f = true := by
  simp [rowOk, and_assoc]

theorem row_last {sep : Char} (hs : sep ≠ '\n' ∧ sep ≠ '\r') {cs r : List Char} {f : Field}
    (hf : field sep cs = some (f, r)) (hr : RowFollow r) : row sep cs = some ([f], endToken r) := by
  rw [row_eq, hf]
  rcases hr with rfl | ⟨c, r', rfl, hc⟩
  · rfl
  · have hcs : c ≠ sep := by
      rcases hc with rfl | rfl
      · exact hs.1.symm
      · exact hs.2.symm
    simp [hcs]

theorem row_render {o : Opts} (hs : sepOk o = true) {fs : List Field} (hne : fs ≠ [])
    (hall : ∀ f ∈ fs, fieldOk o f = true) {r : List Char} (hr : RowFollow r) :
    row o.sep (lineText o fs ++ r) = some (fs, endToken r) := by
  induction fs with
  | nil => exact absurd rfl hne
  | cons f fs ih =>
    obtain ⟨hf, hrest⟩ := List.forall_mem_cons.1 hall
    cases fs with
    | nil =>
      rw [show lineText o [f] = renderField o f from List.intercalate_singleton]
      exact row_last (sepOk_iff.mp hs).2 (field_renderField hs hf hr.follow) hr
    | cons g rest =>
      rw [show lineText o (f :: g :: rest) = renderField o f ++ [o.sep] ++ lineText o (g :: rest) from
        List.intercalate_cons_cons, List.append_assoc, List.append_assoc, List.singleton_append, row_eq,
        field_renderField hs hf (Or.inr ⟨o.sep, _, rfl, Or.inl rfl⟩)]
      simp only [↓reduceIte, ih (List.cons_ne_nil _ _) hrest, Option.map_some]

theorem row_blank {sep : Char} (hq : sep ≠ '"') (hs : sep ≠ '\n' ∧ sep ≠ '\r') {cs : List Char}
    (h : RowFollow cs) : row sep cs = some ([.null], endToken cs) :=
  row_last hs (field_empty hq h.follow) h

theorem rows_blank {sep : Char} (hq : sep ≠ '"') (hs : sep ≠ '\n' ∧ sep ≠ '\r') {cs : List Char}
    (h : RowFollow cs) : rows sep cs = some ([], endToken cs) := by
  rw [rows_eq, row_blank hq hs h]
  exact if_pos rfl

/-! ### line ends -/

theorem endToken_nil : endToken [] = [] := rfl

theorem endToken_not_blank {t : List Char} (h : ¬ RowFollow t) : endToken t = t := by
  fun_cases endToken t
  · exact absurd (Or.inr ⟨_, _, rfl, Or.inr rfl⟩) h
  · exact absurd (Or.inr ⟨_, _, rfl, Or.inl rfl⟩) h
  · exact absurd (Or.inr ⟨_, _, rfl, Or.inr rfl⟩) h
  · rfl

theorem lineSepOk_cases {o : Opts} (h : lineSepOk o = true) :
    o.lineSep = ['\n'] ∨ o.lineSep = ['\r', '\n'] ∨ o.lineSep = ['\r'] := by
  simpa [lineSepOk, or_assoc] using h

/-- The hypothesis `endToken t = t` is for the lone CR: what comes next must not begin with LF. -/
theorem endToken_lineSep {o : Opts} (h : lineSepOk o = true) (t : List Char) :
    RowFollow (o.lineSep ++ t) ∧ (endToken t = t → endToken (o.lineSep ++ t) = t) := by
  rcases lineSepOk_cases h with e | e | e <;> rw [e]
  · exact ⟨Or.inr ⟨'\n', t, rfl, Or.inl rfl⟩, fun _ => rfl⟩
  · exact ⟨Or.inr ⟨'\r', '\n' :: t, rfl, Or.inr rfl⟩, fun _ => rfl⟩
  · refine ⟨Or.inr ⟨'\r', t, rfl, Or.inr rfl⟩, fun ht => ?_⟩
    cases t with
    | nil => rfl
    | cons a x =>
      have : a ≠ '\n' := by
        rintro rfl
        exact List.cons_ne_self _ _ ht.symm
      simp [endToken, this]

theorem lineSep_length {o : Opts} (h : lineSepOk o = true) : 1 ≤ o.lineSep.length := by
  rcases lineSepOk_cases h with e | e | e <;> rw [e] <;> simp

/-! ### a written line read back together with its line end -/

theorem row_line {o : Opts} (hs : sepOk o = true) (hl : lineSepOk o = true) {fs : List Field}
    {T : List Char} (hne : fs ≠ []) (hall : ∀ f ∈ fs, fieldOk o f = true) (hT : endToken T = T) :
    row o.sep (lineText o fs ++ o.lineSep ++ T) = some (fs, T) := by
  rw [List.append_assoc, row_render hs hne hall (endToken_lineSep hl T).1, (endToken_lineSep hl T).2 hT]

/-! ### reader on written tables -/

/-- A text that began with a line end would read as the empty table (`rows_blank`). -/
theorem endToken_of_rows {sep : Char} (hq : sep ≠ '"') (hs : sep ≠ '\n' ∧ sep ≠ '\r') {T : List Char}
    {r : List Field} {rs : List (List Field)} (h : rows sep T = some (r :: rs, [])) : endToken T = T := by
  refine endToken_not_blank fun hb => ?_
  rw [rows_blank hq hs hb] at h
  cases h

/-- The second conjunct is what the `end_token` after the header line (`parseCsv`) and the one after a lone CR
    (`endToken_lineSep`) need. -/
theorem rows_render {o : Opts} (hs : sepOk o = true) (hl : lineSepOk o = true)
    {rs : List (List Field)} (hall : ∀ r ∈ rs, rowOk o r = true) :
    rows o.sep (tableText o rs) = some (rs, []) ∧ endToken (tableText o rs) = tableText o rs := by
  induction rs with
  | nil => exact ⟨rfl, rfl⟩
  | cons r rs ih =>
    obtain ⟨hr, hrest⟩ := List.forall_mem_cons.1 hall
    obtain ⟨hne, hnn, hfields⟩ := rowOk_iff.mp hr
    have hs' := sepOk_iff.mp hs
    suffices h : rows o.sep (tableText o (r :: rs)) = some (r :: rs, []) from ⟨h, endToken_of_rows hs'.1 hs'.2 h⟩
    cases rs with
    | nil =>
      have hrow := row_render hs hne hfields (Or.inl rfl)
      rw [List.append_nil] at hrow
      rw [show tableText o [r] = lineText o r from List.intercalate_singleton, rows_eq, hrow]
      simp only [hnn, ↓reduceIte]
      rfl
    | cons s t =>
      obtain ⟨ih1, ih2⟩ := ih hrest
      rw [show tableText o (r :: s :: t) = lineText o r ++ o.lineSep ++ tableText o (s :: t) from
        List.intercalate_cons_cons, rows_eq, row_line hs hl hne hfields ih2]
      simp only [hnn, ↓reduceIte, ih1, Option.map_some]

/-! ### unterminated quoted field -/

theorem stringTokens_no_quote : ∀ s : List Char, '"' ∉ s → stringTokens s = none := by
  intro s
  induction s with
  | nil => intro _; rfl
  | cons a s ih =>
    intro h
    simp only [List.mem_cons, not_or] at h
    unfold stringTokens
    have ha : a ≠ '"' := fun e => h.1 e.symm
    simp [ha, ih h.2]

end Scryer.Csv
