import ScryerModel.Model.AtomOps
import ScryerModel.Proofs.Utf8
import ScryerModel.Proofs.ListFacts
/-!
The atom and character builtins (C22): the enumerations behind atom_concat/3 and sub_atom/5
(`splits`, `subTriples`: membership, order, explicit form), unification of the answer variables,
and atom_chars/2, atom_codes/2 through their common frame `atomText`.
-/
namespace Scryer.AtomOps

/-! ## `splits`: the answers of append/3 -/

/-- membership, order and length of `splits` are read off this form. -/
theorem splits_eq_range {α : Type} (s : List α) :
    splits s = (List.range (s.length + 1)).map (fun i => (s.take i, s.drop i)) := by
  induction s with
  | nil => simp [splits]
  | cons x xs ih =>
    rw [splits, ih, List.length_cons, map_range_succ _ (xs.length + 1), List.map_map]
    rfl

theorem mem_splits {α : Type} (s : List α) (p : List α × List α) :
    p ∈ splits s ↔ p.1 ++ p.2 = s := by
  rw [splits_eq_range, List.mem_map]
  constructor
  · rintro ⟨i, _, rfl⟩
    exact List.take_append_drop i s
  · rintro rfl
    exact ⟨p.1.length,
      List.mem_range.2 (Nat.lt_succ_of_le (List.length_append ▸ Nat.le_add_right _ _)),
      by rw [List.take_left' rfl, List.drop_left' rfl]⟩

theorem splits_sorted {α : Type} (s : List α) :
    (splits s).Pairwise (fun p q => p.1.length < q.1.length) := by
  rw [splits_eq_range, List.pairwise_iff_getElem]
  intro i j hi hj h
  have hi' : i < s.length + 1 := by rwa [List.length_map, List.length_range] at hi
  have hj' : j < s.length + 1 := by rwa [List.length_map, List.length_range] at hj
  rw [List.getElem_map, List.getElem_map, List.getElem_range, List.getElem_range]
  show (s.take i).length < (s.take j).length
  rwa [List.length_take, List.length_take, Nat.min_eq_left (Nat.le_of_lt_succ hi'),
    Nat.min_eq_left (Nat.le_of_lt_succ hj')]

theorem splits_length {α : Type} (s : List α) : (splits s).length = s.length + 1 := by
  rw [splits_eq_range, List.length_map, List.length_range]

theorem splits_nodup {α : Type} (s : List α) : (splits s).Nodup :=
  nodup_of_pairwise (splits_sorted s) fun _ => Nat.lt_irrefl _

/-! ## `subTriples`: the answers of the two nested appends of sub_atom/5 -/

/-- order of the answers: Before ascending, then Length ascending. -/
def TripleLt {α : Type} (t u : List α × List α × List α) : Prop :=
  t.1.length < u.1.length ∨ (t.1.length = u.1.length ∧ t.2.1.length < u.2.1.length)

theorem mem_subTriples {α : Type} (s : List α) (t : List α × List α × List α) :
    t ∈ subTriples s ↔ t.1 ++ t.2.1 ++ t.2.2 = s := by
  obtain ⟨b, l, a⟩ := t
  simp only [subTriples, List.mem_flatMap, List.mem_map, Prod.mk.injEq, mem_splits]
  constructor
  · rintro ⟨p, hp, q, hq, rfl, rfl, rfl⟩
    rw [List.append_assoc, hq, hp]
  · intro h
    exact ⟨(b, l ++ a), by simpa [List.append_assoc] using h, (l, a), rfl, rfl, rfl, rfl⟩

theorem subTriples_sorted {α : Type} (s : List α) : (subTriples s).Pairwise TripleLt :=
  pairwise_flatMap_map (fun p _ => (splits_sorted p.2).imp fun h => Or.inr ⟨rfl, h⟩)
    ((splits_sorted s).imp fun h _ _ => Or.inl h)

theorem subTriples_nodup {α : Type} (s : List α) : (subTriples s).Nodup :=
  nodup_of_pairwise (subTriples_sorted s) fun _ h =>
    h.elim (Nat.lt_irrefl _) fun h => Nat.lt_irrefl _ h.2

theorem subTriples_key {α : Type} (s : List α) (t u : List α × List α × List α)
    (ht : t ∈ subTriples s) (hu : u ∈ subTriples s)
    (h1 : t.1.length = u.1.length) (h2 : t.2.1.length = u.2.1.length) : t = u := by
  rw [mem_subTriples] at ht hu
  obtain ⟨b, l, a⟩ := t
  obtain ⟨b', l', a'⟩ := u
  simp only at ht hu h1 h2
  have e : b ++ (l ++ a) = b' ++ (l' ++ a') := by
    rw [← List.append_assoc, ← List.append_assoc, ht, hu]
  obtain ⟨rfl, e2⟩ := List.append_inj e h1
  obtain ⟨rfl, rfl⟩ := List.append_inj e2 h2
  rfl

theorem subTriples_eq_range {α : Type} (s : List α) :
    subTriples s = (List.range (s.length + 1)).flatMap fun i =>
      (List.range (s.length - i + 1)).map fun j =>
        (s.take i, (s.drop i).take j, (s.drop i).drop j) := by
  unfold subTriples
  rw [splits_eq_range, List.flatMap_map]
  congr 1
  funext i
  simp only [splits_eq_range, List.map_map, List.length_drop, Function.comp_def]

/-! ## the answers: unification with the arguments, the error tests passed, the element checks -/
theorem bindVar_nil (n : String) (v : Val) : bindVar n v [] = some [(n, v)] := rfl

theorem bindVar_cons_ne {n m : String} (h : m ≠ n) (v w : Val) (s : Subst) :
    bindVar n v ((m, w) :: s) = (bindVar n v s).map ((m, w) :: ·) := by
  unfold bindVar
  rw [List.lookup_cons, beq_false_of_ne (Ne.symm h)]
  cases s.lookup n with
  | none => rfl
  | some u => by_cases hu : u = v <;> simp [hu]

theorem bindVar_cons_self (n : String) (v w : Val) (s : Subst) :
    bindVar n v ((n, w) :: s) = if w = v then some ((n, w) :: s) else none := by
  unfold bindVar
  rw [List.lookup_cons, beq_self_eq_true]

theorem unifyArg_con (a v : Atomic) (s : Subst) :
    unifyArg (.con a) v s = if a = v then some s else none := rfl

theorem answers_ite (p : Prop) [Decidable p] (s : Subst) :
    answers (if p then some s else none) = .ok (if p then [s] else []) := by
  split <;> rfl

theorem bind_ite_some {α β : Type} (p : Prop) [Decidable p] (a : α) (f : α → Option β) :
    (if p then some a else none).bind f = if p then f a else none := by
  split <;> rfl

theorem ite_ite_none {α : Type} (p q : Prop) [Decidable p] [Decidable q] (x : Option α) :
    (if p then if q then x else none else none) = if p ∧ q then x else none := by
  by_cases hp : p <;> by_cases hq : q <;> simp [hp, hq]

theorem filterMap_eq_filter_map {α β : Type} {l : List α} {f : α → Option β} {p : α → Prop}
    [DecidablePred p] {g : α → β} (h : ∀ x, f x = if p x then some (g x) else none) :
    l.filterMap f = (l.filter fun x => decide (p x)).map g := by
  induction l with
  | nil => rfl
  | cons x xs ih => by_cases hx : p x <;> simp [h x, hx, ih]

theorem filterMap_eq_map {α β : Type} {l : List α} {f : α → Option β} {g : α → β}
    (h : ∀ x, f x = some (g x)) : l.filterMap f = l.map g :=
  funext h ▸ congrFun List.filterMap_eq_map' l

theorem stripPrefix_spec (x z : List Char) :
    stripPrefix? x z = if x <+: z then some (z.drop x.length) else none := by
  induction x generalizing z with
  | nil => simp [stripPrefix?]
  | cons a as ih =>
    cases z with
    | nil => simp [stripPrefix?]
    | cons b bs =>
      by_cases h : a = b
      · subst h; simp [stripPrefix?, ih, List.cons_prefix_cons]
      · simp [stripPrefix?, h, List.cons_prefix_cons]

theorem subAtom_ok {s : List Char} {b l a sub : Arg}
    (h : firstErr [canBeAtom sub, canBeInt b, canBeInt l, canBeInt a, negInt b, negInt l, negInt a]
      = none) :
    subAtom (.con (.atom s)) b l a sub = .ok ((subTriples s).filterMap fun t =>
      (unifyArg b (.int t.1.length) []).bind fun s1 =>
      (unifyArg l (.int t.2.1.length) s1).bind fun s2 =>
      (unifyArg a (.int t.2.2.length) s2).bind fun s3 =>
      unifyArg sub (.atom t.2.1) s3) := by
  unfold subAtom
  rw [h]

theorem validScalar_iff (k : Int) :
    validScalar k = true ↔ (0 ≤ k ∧ k < 0xD800) ∨ (0xE000 ≤ k ∧ k ≤ 0x10FFFF) := by
  simp only [validScalar, Bool.or_eq_true, Bool.and_eq_true, decide_eq_true_eq]

theorem validScalar_toNat (c : Char) : validScalar (c.toNat : Int) = true := by
  have h : c.toNat < 0xD800 ∨ 0xDFFF < c.toNat ∧ c.toNat < 0x110000 := c.valid
  rw [validScalar_iff]
  omega

theorem codeOf_code (c : Char) : codeOf? (Arg.con (codeAtomic c)) = some c := by
  show (if validScalar (c.toNat : Int) then some (Char.ofNat (c.toNat : Int).toNat) else none) = some c
  rw [if_pos (validScalar_toNat c), Int.toNat_natCast, Char.ofNat_toNat]

theorem charsOrVars_chars_append (s : List Char) (r : List Arg) :
    charsOrVars ((s.map fun c => Arg.con (charAtom c)) ++ r) = charsOrVars r := by
  induction s with
  | nil => rfl
  | cons c cs ih => exact ih

theorem codesOrVars_codes_append (s : List Char) (r : List Arg) :
    codesOrVars ((s.map fun c => Arg.con (codeAtomic c)) ++ r) = codesOrVars r := by
  induction s with
  | nil => rfl
  | cons c cs ih =>
    rw [List.map_cons, List.cons_append, ← ih]
    exact if_pos (validScalar_toNat c)

theorem charsOrVars_chars (s : List Char) :
    charsOrVars (s.map fun c => Arg.con (charAtom c)) = .ok () := by
  rw [← List.append_nil (s.map _), charsOrVars_chars_append]
  rfl

theorem codesOrVars_codes (s : List Char) :
    codesOrVars (s.map fun c => Arg.con (codeAtomic c)) = .ok () := by
  rw [← List.append_nil (s.map _), codesOrVars_codes_append]
  rfl

theorem all_ground_con {α : Type} (s : List α) (f : α → Atomic) :
    (s.map fun c => Arg.con (f c)).all Arg.ground = true := by
  induction s with
  | nil => rfl
  | cons c cs ih => simp [Arg.ground, ih]

theorem unifyElems_consts (f : Char → Atomic) (hf : Function.Injective f) (cs s : List Char) (σ : Subst) :
    unifyElems (cs.map fun c => Arg.con (f c)) (.con nilAtom) (s.map f) σ
      = if cs = s then some σ else none := by
  induction cs generalizing s with
  | nil => cases s <;> rfl
  | cons c cs ih =>
    cases s with
    | nil => simp [unifyElems]
    | cons x xs =>
      simp only [List.map_cons, unifyElems, unifyArg_con, hf.eq_iff, List.cons.injEq]
      by_cases h : c = x <;> simp [h, ih]

/-! ## atom_chars/2 and atom_codes/2 through their common frame

`atomText check dec enc` for any conversion whose check accepts the encoded texts and whose
decoder inverts the encoder (so the encoder is injective). -/

section codec
variable {check : List Arg → Except Err Unit} {dec : Arg → Option Char} {enc : Char → Atomic}

theorem atomText_compose (hc : ∀ s : List Char, check (s.map fun c => .con (enc c)) = .ok ())
    (hd : ∀ c, dec (.con (enc c)) = some c) (s : List Char) (x : String) :
    atomText check dec enc (.var x) ⟨s.map fun c => .con (enc c), .con nilAtom⟩
      = .ok [[(x, .one (.atom s))]] := by
  have hf : (s.map fun c => Arg.con (enc c)).filterMap dec = s := by
    rw [List.filterMap_map, show (dec ∘ fun c => Arg.con (enc c)) = some from funext hd,
      List.filterMap_some]
  have ht : (!tailOk (.con nilAtom)) = false := by decide
  simp only [atomText, ht, all_ground_con s enc, hc s, hf]
  rfl

theorem atomText_test (hc : ∀ s : List Char, check (s.map fun c => .con (enc c)) = .ok ())
    (hd : ∀ c, dec (.con (enc c)) = some c) (s cs : List Char) :
    atomText check dec enc (.con (.atom s)) ⟨cs.map fun c => .con (enc c), .con nilAtom⟩
      = .ok (if cs = s then [[]] else []) := by
  have hinj : Function.Injective enc := fun a b h =>
    Option.some.inj ((hd a).symm.trans ((congrArg (fun v => dec (.con v)) h).trans (hd b)))
  have ht : (!tailOk (.con nilAtom)) = false := by decide
  simp only [atomText, ht, hc cs, unifyL, unifyElems_consts enc hinj, answers_ite]
  rfl

end codec

end Scryer.AtomOps
