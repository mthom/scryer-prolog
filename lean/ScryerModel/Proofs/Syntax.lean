import ScryerModel.Model.Syntax
/-! C15: the canonical reader reads what the canonical printer prints (token level): `parseC_printC`, by
    recursion on the term with any fuel above its size and any continuation `k` a term may be followed by
    (`KOk k`: nothing, punctuation, the end token — so the look-ahead after an atom or `-` sees neither the
    `(` of functional notation (`openCT`) nor a number). -/
namespace Scryer.Syntax
open Scryer.Quote

def KOk : List Tok → Prop
  | [] => True
  | .punct _ :: _ => True
  | .endTok :: _ => True
  | _ => False

theorem KOk.cases {k : List Tok} (hk : KOk k) : k = [] ∨ (∃ c r, k = .punct c :: r) ∨ ∃ r, k = .endTok :: r := by
  cases k with
  | nil => exact .inl rfl
  | cons t r => cases t <;> first | exact hk.elim | exact .inr (.inl ⟨_, _, rfl⟩) | exact .inr (.inr ⟨_, rfl⟩)

theorem Tm.size_pos (t : Tm) : 0 < t.size := by cases t <;> simp [Tm.size] <;> omega
theorem Args.size_pos (as : Args) : 0 < as.size := by cases as <;> simp [Args.size] <;> omega

theorem kok_printArgs (as : Args) (k : List Tok) : KOk (printArgs as ++ k) := by
  cases as <;> simp [printArgs, KOk]

theorem parseC_atomTokens (a : List Char) (fuel : Nat) {k : List Tok} (hk : KOk k) :
    parseC (fuel + 1) (atomTokens a ++ k) = some (.atom a, k) := by
  rcases hk.cases with rfl | ⟨c, r, rfl⟩ | ⟨r, rfl⟩
  -- the same script thrice: `parseC` looks one token ahead, so `rfl` wants the head of `k` as a constructor
  all_goals
    unfold atomTokens
    by_cases h1 : a = ['[', ']']
    · subst h1; rfl
    by_cases h2 : a = ['{', '}']
    · subst h2; rfl
    rw [if_neg h1, if_neg h2]; rfl

theorem parseC_functor (f : List Char) (fuel : Nat) (r : List Tok) :
    parseC (fuel + 1) (atomTokens f ++ .openCT :: r) = parseCmp fuel f r := by
  unfold atomTokens
  by_cases h1 : f = ['[', ']']
  · subst h1; rfl
  by_cases h2 : f = ['{', '}']
  · subst h2; rfl
  rw [if_neg h1, if_neg h2]; rfl

mutual
theorem parseC_printC : ∀ (t : Tm) (fuel : Nat) (k : List Tok), t.size < fuel → KOk k →
    parseC fuel (printC t ++ k) = some (t, k)
  | _, 0, _, hf, _ => absurd hf (Nat.not_lt_zero _)
  | .atom a, fuel + 1, k, _, hk => parseC_atomTokens a fuel hk
  | .int n, fuel + 1, k, _, _ => by
    by_cases hn : n < 0
    · rw [show printC (.int n) = [.name ['-'], .int n.natAbs] from if_pos hn]
      exact congrArg (fun m => some (Tm.int m, k)) (by omega)
    · rw [show printC (.int n) = [.int n.toNat] from if_neg hn]
      exact congrArg (fun m => some (Tm.int m, k)) (by omega)
  | .flt neg s, fuel + 1, k, _, _ => by cases neg <;> rfl
  | .var s, fuel + 1, k, _, _ => rfl
  | .cmp f a as, fuel + 1, k, hf, hk => by
    have pa := Tm.size_pos a
    have ps := Args.size_pos as
    simp only [Tm.size] at hf
    cases fuel with
    | zero => omega
    | succ fuel =>
      have ia := parseC_printC a fuel (printArgs as ++ k) (by omega) (kok_printArgs as k)
      have is := parseArgs_printArgs as fuel k (by omega)
      rw [printC, List.append_assoc, List.cons_append, List.append_assoc, parseC_functor]
      simp [parseCmp, ia, is]
theorem parseArgs_printArgs : ∀ (as : Args) (fuel : Nat) (k : List Tok), as.size < fuel →
    parseArgs fuel (printArgs as ++ k) = some (as, k)
  | _, 0, _, hf => absurd hf (Nat.not_lt_zero _)
  | .nil, fuel + 1, k, _ => rfl
  | .cons t ts, fuel + 1, k, hf => by
    have pt := Tm.size_pos t
    have ps := Args.size_pos ts
    simp only [Args.size] at hf
    have it := parseC_printC t fuel (printArgs ts ++ k) (by omega) (kok_printArgs ts k)
    have is := parseArgs_printArgs ts fuel k (by omega)
    simp [printArgs, parseArgs, it, is]
end

end Scryer.Syntax
