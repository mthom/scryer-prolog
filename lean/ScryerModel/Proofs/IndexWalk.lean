import ScryerModel.Model.IndexWalk
/-! The repaired third-level walk delivers exactly the living entries, once each, in order. -/
namespace Scryer.Index

theorem findLivingFrom_none (alive : Nat → Bool) (l : List Nat) (pos : Nat)
    (h : findLivingFrom alive l pos = none) : l.filter alive = [] := by
  induction l generalizing pos with
  | nil => rfl
  | cons c r ih =>
    simp only [findLivingFrom] at h
    split at h
    · simp at h
    · rename_i hc
      simp [hc, ih _ h]

theorem findLivingFrom_some (alive : Nat → Bool) (l : List Nat) (pos ii c : Nat)
    (h : findLivingFrom alive l pos = some (ii, c)) :
    ∃ k, ii = pos + k ∧ k < l.length ∧ l.filter alive = c :: (l.drop (k + 1)).filter alive := by
  induction l generalizing pos with
  | nil => cases h
  | cons x r ih =>
    by_cases hx : alive x = true
    · rw [findLivingFrom, if_pos hx] at h
      cases h
      exact ⟨0, rfl, Nat.zero_lt_succ _, List.filter_cons_of_pos hx⟩
    · rw [findLivingFrom, if_neg hx] at h
      obtain ⟨k, rfl, hk, he⟩ := ih (pos + 1) h
      exact ⟨k + 1, Nat.add_right_comm pos 1 k, Nat.succ_lt_succ hk, by
        rw [List.filter_cons_of_neg hx, he]; rfl⟩

theorem findLiving_none (alive : Nat → Bool) (line : List Nat) (b : Nat)
    (h : findLiving alive line b = none) : (line.drop b).filter alive = [] :=
  findLivingFrom_none alive _ _ h

theorem findLiving_some (alive : Nat → Bool) (line : List Nat) (b ii c : Nat)
    (h : findLiving alive line b = some (ii, c)) :
    b ≤ ii ∧ ii < line.length ∧ (line.drop b).filter alive = c :: (line.drop (ii + 1)).filter alive := by
  obtain ⟨k, rfl, hk, he⟩ := findLivingFrom_some alive _ _ _ _ h
  rw [List.length_drop] at hk
  refine ⟨Nat.le_add_right _ _, Nat.add_lt_of_lt_sub' hk, ?_⟩
  rw [he, List.drop_drop]; rfl

/-- with the repaired `retry`, the backtracking loop resumed at position `b` runs exactly the living
entries from `b` on. -/
theorem walkNext_fixed (alive : Nat → Bool) (line : List Nat) (fuel b : Nat)
    (hb : line.length - b < fuel) :
    walkNext true alive line fuel b = (line.drop b).filter alive := by
  induction fuel generalizing b with
  | zero => cases hb
  | succ fuel ih =>
    rw [walkNext]
    cases h1 : findLiving alive line b with
    | none => exact (findLiving_none alive line b h1).symm
    | some p =>
      obtain ⟨ii, c⟩ := p
      obtain ⟨hle, hlt, heq⟩ := findLiving_some alive line b ii c h1
      dsimp only
      rw [heq]
      cases h2 : findLiving alive line (ii + 1) with
      | none => exact congrArg (c :: ·) (findLiving_none alive line _ h2).symm
      | some q =>
        exact congrArg (c :: ·) (ih (ii + 1)
          (Nat.lt_of_lt_of_le (Nat.sub_lt_sub_left (Nat.lt_of_le_of_lt hle hlt) (Nat.lt_succ_of_le hle))
            (Nat.le_of_lt_succ hb)))

theorem walk_eq_walkNext (alive : Nat → Bool) (line : List Nat) (fuel : Nat) :
    walk true alive line fuel = walkNext true alive line (fuel + 1) 0 := rfl

end Scryer.Index
