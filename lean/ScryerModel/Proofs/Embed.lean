import ScryerModel.Model.Embed
/-! Lemmas for C28: the iterator protocol of `Model/Embed.lean` delivers the stand-alone
    stream of a query whatever lies below its stub, and restores the machine. -/
namespace Scryer.Embed

variable {δ : Type}

theorem unwindTo_app (alts : List (Search δ)) (base : List (Frame δ)) :
    unwindTo (base.length + 1) (alts.map Frame.cp ++ Frame.stub :: base) = Frame.stub :: base := by
  unfold unwindTo
  have : (alts.map Frame.cp ++ Frame.stub :: base).length - (base.length + 1) = (alts.map Frame.cp).length := by
    simp
  rw [this]
  simp

/-- the dispatch loop on a stack `alts ++ stub :: base` stops at the first item of the depth-first
    course `go (s :: alts) d`; nothing below the stub is touched, and the alternatives left are the
    choice points above the stub. -/
theorem exec_go (base : List (Frame δ)) (s : Search δ) (alts : List (Search δ)) (d : δ)
    {st : List (Frame δ)} (hst : st = alts.map Frame.cp ++ Frame.stub :: base) :
    match go (s :: alts) d with
    | .fail d' => exec (base.length + 1) s st d = (Frame.stub :: base, none, d', .broke)
    | .exc b d' => exec (base.length + 1) s st d = (Frame.stub :: base, some b, d', .broke)
    | .last a d' => exec (base.length + 1) s st d = (Frame.stub :: base, none, d', .success a)
    | .more a d' r => ∃ s' w', r = go (s' :: w') d' ∧
        exec (base.length + 1) s st d = ((s' :: w').map Frame.cp ++ Frame.stub :: base, none, d', .success a) := by
  -- the stack enters as a variable `st` with `hst`, so that `fun_induction` can generalise it
  fun_induction exec (base.length + 1) s st d generalizing alts with
  -- the clauses of `exec` in order: `ans`, `exc`, `eff`, `try_`, `fail` on a choice point, `fail` on anything else
  | case1 a st d =>
    cases alts with
    | nil => simp [go, hst]
    | cons s' w' => simp only [go]; exact ⟨s', w', rfl, by rw [hst]⟩
  | case2 b st d => simp [go, hst, unwindTo_app]
  | case3 f k st d ih => rw [go]; exact ih alts hst
  | case4 x y st d ih => rw [go]; exact ih (y :: alts) (by simp [hst])
  | case5 alt below d ih =>
    cases alts with
    | nil => simp at hst
    | cons a alts' =>
      simp only [List.map_cons, List.cons_append, List.cons.injEq, Frame.cp.injEq] at hst
      obtain ⟨rfl, hst⟩ := hst
      rw [go]; exact ih alts' hst
  | case6 st d hne =>
    cases alts with
    | nil => simp [go, hst]
    -- `hne`: the top of `st` is no choice point, so no alternative is left
    | cons a alts' => exact absurd hst (by simpa using hne a _)

/-- the iterator can still produce items: either freshly created by `run_query`, or waiting at the
    alternative of the top choice point after an answer. -/
def Resumable (q : QState δ) (m : Mach δ) (base : List (Frame δ)) (s : Search δ)
    (alts : List (Search δ)) (d : δ) : Prop :=
  q.stubDepth = base.length + 1 ∧ m.ball = none ∧ m.db = d ∧
  ((q.called = false ∧ q.pc = .run s ∧ alts = [] ∧ m.stack = Frame.stub :: base) ∨
   (q.called = true ∧ q.pc = .retry ∧ m.stack = (s :: alts).map Frame.cp ++ Frame.stub :: base))

/-- the iterator has finished: only the stub is left above the base, no ball is pending. -/
def Ended (q : QState δ) (m : Mach δ) (base : List (Frame δ)) (d : δ) : Prop :=
  q.stubDepth = base.length + 1 ∧ q.called = true ∧
  m.stack = Frame.stub :: base ∧ m.ball = none ∧ m.db = d

theorem dispatch_resumable {q : QState δ} {m : Mach δ} {base s alts d}
    (h : Resumable q m base s alts d) :
    dispatch q m =
      let r := exec (base.length + 1) s (alts.map Frame.cp ++ Frame.stub :: base) d
      ({ stack := r.1, ball := r.2.1, db := r.2.2.1 }, r.2.2.2) := by
  obtain ⟨hs, hb, hd, h | h⟩ := h
  · obtain ⟨_, hpc, ha, hst⟩ := h
    subst ha
    unfold dispatch
    rw [hpc]
    simp only [hs, hst, hd, hb, List.map_nil, List.nil_append]
    cases (exec (base.length + 1) s (Frame.stub :: base) d).2.1 <;> rfl
  · obtain ⟨_, hpc, hst⟩ := h
    unfold dispatch
    rw [hpc]
    simp only [hs, hst, hd, hb, List.map_cons, List.cons_append]
    cases (exec (base.length + 1) s (alts.map Frame.cp ++ Frame.stub :: base) d).2.1 <;> rfl

theorem not_stop_of_resumable {q : QState δ} {m : Mach δ} {base s alts d}
    (h : Resumable q m base s alts d) :
    (q.called && decide (m.stack.length ≤ q.stubDepth)) = false := by
  obtain ⟨hs, _, _, h | h⟩ := h
  · simp [h.1]
  · simp [h.2.2, hs]; omega

theorem resumable_start (m : Mach δ) (hb : m.ball = none) (s : Search δ) :
    Resumable (runQuery m s).2 (runQuery m s).1 m.stack s [] m.db := by
  simp [Resumable, runQuery, hb]

theorem next_resumable (cfg : Cfg) (hc : cfg.clearBall = true) {q : QState δ} {m : Mach δ}
    {base s alts d} (h : Resumable q m base s alts d) :
    match go (s :: alts) d with
    | .fail d' => ∃ q' m', next cfg q m = (some .falseEnd, q', m') ∧ Ended q' m' base d'
    | .exc b d' => ∃ q' m', next cfg q m = (some (.exception b), q', m') ∧ Ended q' m' base d'
    | .last a d' => ∃ q' m', next cfg q m = (some (.answer a), q', m') ∧ Ended q' m' base d'
    | .more a d' r => ∃ q' m' s' w', r = go (s' :: w') d' ∧
        next cfg q m = (some (.answer a), q', m') ∧ Resumable q' m' base s' w' d' := by
  have hq := h.1
  have he := exec_go base s alts d rfl
  unfold next
  rw [not_stop_of_resumable h, dispatch_resumable h]
  generalize go (s :: alts) d = sc at he
  cases sc with
  -- with the item known, `next` computes; each invariant holds by `rfl`
  | fail d' => rw [he]; exact ⟨_, _, rfl, hq, rfl, rfl, rfl, rfl⟩
  | exc b d' => rw [he, hc]; exact ⟨_, _, rfl, hq, rfl, rfl, rfl, rfl⟩
  | last a d' => rw [he]; exact ⟨_, _, rfl, hq, rfl, rfl, rfl, rfl⟩
  | more a d' r =>
    obtain ⟨s', w', hr, he⟩ := he
    rw [he]; exact ⟨_, _, s', w', hr, rfl, hq, rfl, rfl, .inr ⟨rfl, rfl, rfl⟩⟩

theorem next_ended (cfg : Cfg) {q : QState δ} {m : Mach δ} {base d} (h : Ended q m base d) :
    next cfg q m = (none, q, m) := by
  unfold next
  simp [h.1, h.2.1, h.2.2.1]

/-- machine-state invariant between two operations of one query: no ball is pending and the stack
    is `base` with this query's stub and its choice points on top. -/
def OpInv (base : List (Frame δ)) (m : Mach δ) : Prop :=
  m.ball = none ∧ ∃ w : List (Search δ), m.stack = w.map Frame.cp ++ Frame.stub :: base

theorem opInv_of_resumable {q : QState δ} {m : Mach δ} {base s alts d}
    (h : Resumable q m base s alts d) : OpInv base m := by
  obtain ⟨_, hb, _, h | h⟩ := h
  · exact ⟨hb, [], by simp [h.2.2.2]⟩
  · exact ⟨hb, s :: alts, h.2.2⟩

theorem opInv_of_ended {q : QState δ} {m : Mach δ} {base d} (h : Ended q m base d) : OpInv base m :=
  ⟨h.2.2.2.1, [], by simp [h.2.2.1]⟩

/-- the invariant between two operations is all `Drop` needs: `b = stub_b` cuts back to the stub, `trust_me` pops it. -/
theorem drop_opInv (cfg : Cfg) (hd : cfg.discardOnDrop = true) {q : QState δ} {m : Mach δ} {base}
    (hq : q.stubDepth = base.length + 1) (h : OpInv base m) :
    drop cfg q m = { stack := base, ball := none, db := m.db } := by
  obtain ⟨stack, ball, db⟩ := m
  obtain ⟨rfl, w, rfl⟩ := h
  cases w with
  | nil => simp [drop, hq]
  | cons s w =>
    have hu := unwindTo_app (s :: w) base
    simp only [List.map_cons, List.cons_append] at hu
    simp [drop, hq, hd, hu]
    rw [if_pos (by omega)]; rfl

theorem consume_ended (cfg : Cfg) (hd : cfg.discardOnDrop = true) {q : QState δ} {m : Mach δ} {base d}
    (h : Ended q m base d) (k : Nat) :
    consume cfg k q m = ([], { stack := base, ball := none, db := d }) := by
  have hdr := drop_opInv cfg hd h.1 (opInv_of_ended h)
  cases k with
  | zero => simp [consume, hdr, h.2.2.2.2]
  | succ k => simp [consume, next_ended cfg h, hdr, h.2.2.2.2]

theorem consume_resumable (cfg : Cfg) (hc : cfg.clearBall = true) (hd : cfg.discardOnDrop = true) :
    ∀ (k : Nat) {q : QState δ} {m : Mach δ} {base s alts d}, Resumable q m base s alts d →
    consume cfg k q m =
      ((go (s :: alts) d).stream.take k,
       { stack := base, ball := none, db := (go (s :: alts) d).dbAt k d }) := by
  intro k
  induction k with
  | zero =>
    intro q m base s alts d h
    simp [consume, drop_opInv cfg hd h.1 (opInv_of_resumable h), h.2.2.1, Script.dbAt]
  | succ k ih =>
    intro q m base s alts d h
    have hn := next_resumable cfg hc h
    generalize go (s :: alts) d = sc at hn ⊢
    cases sc with
    | fail d' =>
      obtain ⟨q', m', hnx, he⟩ := hn
      simp [consume, hnx, consume_ended cfg hd he, Script.stream, Script.dbAt]
    | exc b d' =>
      obtain ⟨q', m', hnx, he⟩ := hn
      simp [consume, hnx, consume_ended cfg hd he, Script.stream, Script.dbAt]
    | last a d' =>
      obtain ⟨q', m', hnx, he⟩ := hn
      simp [consume, hnx, consume_ended cfg hd he, Script.stream, Script.dbAt]
    | more a d' r =>
      obtain ⟨q', m', s', w', rfl, hnx, hr⟩ := hn
      simp [consume, hnx, ih hr, Script.stream, Script.dbAt]

theorem pull_ended (cfg : Cfg) {q : QState δ} {m : Mach δ} {base d} (h : Ended q m base d) (n : Nat) :
    pull cfg n q m = (List.replicate n none, q, m) := by
  induction n with
  | zero => simp [pull]
  | succ n ih => simp [pull, next_ended cfg h, ih, List.replicate_succ]

/-- padded with any `p ≥ n`, not `n` itself: the hypothesis for `n` then fits the goal for `n + 1` as it stands. -/
theorem pull_resumable (cfg : Cfg) (hc : cfg.clearBall = true) :
    ∀ (n p : Nat) {q : QState δ} {m : Mach δ} {base s alts d}, n ≤ p → Resumable q m base s alts d →
    (pull cfg n q m).1 = (((go (s :: alts) d).stream.map some) ++ List.replicate p none).take n ∧
    OpInv base (pull cfg n q m).2.2 := by
  intro n p
  induction n with
  | zero =>
    intro q m base s alts d _ h
    simp [pull, opInv_of_resumable h]
  | succ n ih =>
    intro q m base s alts d hp h
    have hp := Nat.le_of_succ_le hp
    have hn := next_resumable cfg hc h
    generalize go (s :: alts) d = sc at hn ⊢
    cases sc with
    | fail d' =>
      obtain ⟨q', m', hnx, he⟩ := hn
      simp [pull, hnx, pull_ended cfg he, Script.stream, opInv_of_ended he, List.take_replicate, hp]
    | exc b d' =>
      obtain ⟨q', m', hnx, he⟩ := hn
      simp [pull, hnx, pull_ended cfg he, Script.stream, opInv_of_ended he, List.take_replicate, hp]
    | last a d' =>
      obtain ⟨q', m', hnx, he⟩ := hn
      simp [pull, hnx, pull_ended cfg he, Script.stream, opInv_of_ended he, List.take_replicate, hp]
    | more a d' r =>
      obtain ⟨q', m', s', w', rfl, hnx, hr⟩ := hn
      simp [pull, hnx, ih hp hr, Script.stream]

end Scryer.Embed
