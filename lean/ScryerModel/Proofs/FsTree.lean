import ScryerModel.Model.FsTree
/-! Lemmas about `Model/FsTree.lean` (property C48): `get` after `set` and `erase`; the equations of
`splitC`, `joinC` and `walk`; the tree invariant `WF` and the writes that keep it; the names
in a directory (`children`); in a tree, path resolution arrives at what is there (`Loc.Sound`) and at the
lexical normal form of the path; what a successful system call did to the tree (`Writable`: where `rename`
and `copy` put a file). -/
namespace Scryer.FsTree

/-! ### `get` after `set` and `erase` -/

theorem find_cons (x : Path × Entry) (r : Fs) (p : Path) :
    find (x :: r) p = if x.1 = p then some x.2 else find r p := rfl

theorem find_erase (fs : Fs) (p q : Path) :
    find (erase fs p) q = if q = p then none else find fs q := by
  induction fs with
  | nil => exact (ite_self _).symm
  | cons x r ih =>
    rw [erase, List.filter_cons, ← erase, find_cons]
    by_cases hk : x.1 = p
    · rw [if_neg fun h => absurd hk (of_decide_eq_true h), ih]
      by_cases hq : q = p
      · rw [if_pos hq, if_pos hq]
      · rw [if_neg hq, if_neg hq, if_neg fun h => hq (h.symm.trans hk)]
    · rw [if_pos (decide_eq_true hk), find_cons, ih]
      by_cases hx : x.1 = q
      · rw [if_pos hx, if_pos hx, if_neg fun h => hk (hx.trans h)]
      · rw [if_neg hx, if_neg hx]

theorem find_set (fs : Fs) (p q : Path) (e : Entry) :
    find (set fs p e) q = if q = p then some e else find fs q := by
  rw [set, find_cons, find_erase]
  by_cases hq : q = p
  · rw [if_pos hq.symm, if_pos hq]
  · rw [if_neg hq, if_neg hq, if_neg fun h => hq h.symm]

theorem get_erase {fs : Fs} {p q : Path} (hp : p ≠ []) :
    get (erase fs p) q = if q = p then none else get fs q := by
  unfold get
  by_cases hq : q = []
  · rw [if_pos hq, if_pos hq, if_neg (hq ▸ hp.symm)]
  · rw [if_neg hq, if_neg hq, find_erase]

theorem get_set {fs : Fs} {p q : Path} {e : Entry} (hp : p ≠ []) :
    get (set fs p e) q = if q = p then some e else get fs q := by
  unfold get
  by_cases hq : q = []
  · rw [if_pos hq, if_pos hq, if_neg (hq ▸ hp.symm)]
  · rw [if_neg hq, if_neg hq, find_set]

theorem get_nil (fs : Fs) : get fs [] = some .dir := if_pos rfl

theorem file_ne_root {fs : Fs} {p : Path} {b : List UInt8} (hg : get fs p = some (.file b)) : p ≠ [] := by
  intro hp; rw [hp, get_nil] at hg; cases hg

/-! ### `splitC` and `joinC` -/

theorem splitC_ne_nil (p : List Char) : splitC p ≠ [] := by
  fun_induction splitC p <;> simp

theorem splitC_cons_sep (cs : List Char) : splitC ('/' :: cs) = [] :: splitC cs := by
  rw [splitC, if_pos rfl]

theorem splitC_cons_ne {c : Char} (h : c ≠ '/') {cs s : List Char} {ss : List (List Char)}
    (hs : splitC cs = s :: ss) : splitC (c :: cs) = (c :: s) :: ss := by
  rw [splitC, if_neg h, hs]

theorem joinC_cons (s : List Char) {l : List (List Char)} (h : l ≠ []) :
    joinC (s :: l) = s ++ '/' :: joinC l := by
  cases l with
  | nil => exact absurd rfl h
  | cons t r => rfl

theorem joinC_cons_head (c : Char) (s : List Char) (ss : List (List Char)) :
    joinC ((c :: s) :: ss) = c :: joinC (s :: ss) := by
  cases ss <;> rfl

theorem splitC_append {s : List Char} (h : '/' ∉ s) {r t : List Char} {ts : List (List Char)}
    (hr : splitC r = t :: ts) : splitC (s ++ r) = (s ++ t) :: ts := by
  induction s with
  | nil => exact hr
  | cons c cs ih =>
    exact splitC_cons_ne (fun e => h (e ▸ List.mem_cons_self)) (ih fun e => h (List.mem_cons_of_mem _ e))

variable {fs : Fs}

/-! ### the tree invariant and the writes that keep it -/

/-- the tree invariant: whatever exists has a directory as its parent (prefix-closed path map) -/
def WF (fs : Fs) : Prop := ∀ p e, get fs p = some e → get fs p.dropLast = some .dir

theorem dropLast_ne_self {p : Path} (hp : p ≠ []) : p.dropLast ≠ p := by
  intro h
  have hl := congrArg List.length h
  rw [List.length_dropLast] at hl
  exact Nat.ne_of_lt (Nat.sub_one_lt (mt List.length_eq_zero_iff.1 hp)) hl

theorem append_ne_nil (p : Path) (n : Name) : p ++ [n] ≠ [] := by simp

/-- `he`: nothing is left hanging below a file -/
theorem wf_set (h : WF fs) {k : Path} (hk : k ≠ []) (hpar : get fs k.dropLast = some .dir)
    {e : Entry} (he : e = .dir ∨ get fs k ≠ some .dir) : WF (set fs k e) := by
  intro p x hp
  rw [get_set hk] at hp ⊢
  by_cases h1 : p = k
  · rw [h1, if_neg (dropLast_ne_self hk)]; exact hpar
  · rw [if_neg h1] at hp
    have hd := h p x hp
    by_cases h2 : p.dropLast = k
    · rw [if_pos h2]
      rcases he with rfl | he
      · rfl
      · exact absurd (h2 ▸ hd) he
    · rw [if_neg h2]; exact hd

theorem wf_erase (h : WF fs) {k : Path} (hk : k ≠ []) (hch : ∀ n, get fs (k ++ [n]) = none) :
    WF (erase fs k) := by
  intro p e hp
  rw [get_erase hk] at hp ⊢
  by_cases h1 : p = k
  · rw [if_pos h1] at hp; cases hp
  · rw [if_neg h1] at hp
    by_cases h2 : p.dropLast = k
    · have hpn : p ≠ [] := fun hn => hk (by rw [← h2, hn]; rfl)
      rw [← List.dropLast_concat_getLast hpn, h2, hch] at hp; cases hp
    · rw [if_neg h2]; exact h p e hp

theorem no_children_of_not_dir (h : WF fs) {k : Path} (hnd : get fs k ≠ some .dir) (n : Name) :
    get fs (k ++ [n]) = none := by
  cases hg : get fs (k ++ [n]) with
  | none => rfl
  | some e => have := h _ e hg; rw [List.dropLast_concat] at this; exact absurd this hnd

/-! ### the names in a directory -/

theorem find_ne_none {q : Path} : find fs q ≠ none ↔ ∃ x ∈ fs, x.1 = q := by
  induction fs with
  | nil => exact ⟨fun h => absurd rfl h, nofun⟩
  | cons x r ih =>
    rw [find_cons]
    simp only [List.mem_cons, exists_eq_or_imp, ← ih]
    split
    · next hk => exact ⟨fun _ => .inl hk, fun _ => nofun⟩
    · next hk => exact ⟨.inr, fun h => h.resolve_left hk⟩

theorem mem_children (fs : Fs) (d : Path) (n : Name) :
    n ∈ children fs d ↔ get fs (d ++ [n]) ≠ none := by
  rw [get, if_neg (append_ne_nil d n), find_ne_none]
  simp only [children, List.mem_filterMap]
  -- `children fs d` lists an entry stored at `d ++ [n]`, and no other, under the name `n`
  refine exists_congr fun x => and_congr_right fun _ => ?_
  rcases List.eq_nil_or_concat x.1 with h | ⟨ys, m, h⟩
  · simp [h]
  · simp [h]

theorem children_nil_iff (fs : Fs) (d : Path) :
    children fs d = [] ↔ ∀ n, get fs (d ++ [n]) = none := by
  rw [List.eq_nil_iff_forall_not_mem]
  exact forall_congr' fun n => by rw [mem_children, Decidable.not_not]

theorem children_set_new (h : WF fs) {k : Path} (hk : k ≠ []) (hn : get fs k = none)
    (e : Entry) : children (set fs k e) k = [] := by
  refine (children_nil_iff _ _).2 fun n => ?_
  rw [get_set hk, if_neg fun he => List.cons_ne_nil _ _ (List.append_right_eq_self.1 he)]
  exact no_children_of_not_dir h (by rw [hn]; nofun) n

/-! ### the equations of `walk` -/

section
variable {cur : Path} {c : Name} {rest : List Name}

theorem walk_skip (hc : c = "" ∨ c = ".") : walk fs cur (c :: rest) = walk fs cur rest := by
  rw [walk, if_pos hc]

theorem walk_up (hcur : cur ≠ []) : walk fs cur (".." :: rest) = walk fs cur.dropLast rest := by
  rw [walk, if_neg (by decide), if_pos rfl, if_neg hcur]

theorem walk_dir (hc : ¬(c = "" ∨ c = ".")) (hdd : c ≠ "..") (hlen : ¬c.utf8ByteSize > nameMax)
    (hd : get fs (cur ++ [c]) = some .dir) : walk fs cur (c :: rest) = walk fs (cur ++ [c]) rest := by
  rw [walk, if_neg hc, if_neg hdd, if_neg hlen, hd]

theorem walk_file (hc : ¬(c = "" ∨ c = ".")) (hdd : c ≠ "..") (hlen : ¬c.utf8ByteSize > nameMax)
    {b : List UInt8} (hf : get fs (cur ++ [c]) = some (.file b)) :
    walk fs cur [c] = .found (cur ++ [c]) (.file b) := by
  rw [walk, if_neg hc, if_neg hdd, if_neg hlen, hf]; rfl

theorem walk_allEmpty (fs : Fs) (cur : Path) {rest : List Name} :
    rest.all (· == "") = true → walk fs cur rest = .found cur .dir := by
  induction rest with
  | nil => intro _; rfl
  | cons c r ih =>
    intro h
    rw [List.all_cons, Bool.and_eq_true, beq_iff_eq] at h
    rw [walk_skip (.inl h.1)]; exact ih h.2

end

/-! ### resolution arrives at what is there -/

/-- an outcome of path resolution that agrees with the tree: what was found is there, a missing name
is free in an existing directory -/
def Loc.Sound (fs : Fs) : Loc → Prop
  | .found p e => get fs p = some e
  | .missing par n _ => get fs (par ++ [n]) = none ∧ get fs par = some .dir
  | .err _ => True

theorem walk_sound (h : WF fs) {cur : Path} {comps : List Name} :
    get fs cur = some .dir → (walk fs cur comps).Sound fs := by
  -- `walk`'s clauses: 1 no component left; 2 an empty one or `.`; 3, 4 `..` at the root and below it;
  -- 5 a name too long; 6, 7 a free name with nothing but empty components after it, or not; 8 a
  -- directory; 9, 10 a file at the end, or not
  fun_induction walk fs cur comps with
  | case1 => exact id
  | case2 _ _ _ _ ih => exact ih
  | case4 cur _ _ _ ih => exact fun hc => ih (h cur _ hc)
  | case6 _ _ _ _ _ _ hn => exact fun hc => ⟨hn, hc⟩
  | case8 _ _ _ _ _ _ hd ih => exact fun _ => ih hd
  | case9 _ _ _ _ _ _ hf => exact fun _ => hf
  | _ => exact fun _ => trivial

/-! ### resolution is lexical -/

/-- lexical normal form of a component list relative to `cur`: drop empty and `.` components,
`..` removes the last name -/
def lexNorm : Path → List Name → Path
  | cur, [] => cur
  | cur, c :: rest =>
    if c = "" ∨ c = "." then lexNorm cur rest
    else if c = ".." then lexNorm cur.dropLast rest
    else lexNorm (cur ++ [c]) rest

/-- the model has no symbolic links: resolution is lexical -/
theorem walk_found_lexNorm {cur : Path} {comps : List Name} {p : Path} {e : Entry} :
    walk fs cur comps = .found p e → p = lexNorm cur comps := by
  -- the clauses as numbered in `walk_sound`: 1, 9 answer `found`; 2, 4, 8 recurse
  fun_induction walk fs cur comps with
  | case1 => intro hw; cases hw; rfl
  | case2 _ _ _ hc ih => rw [lexNorm, if_pos hc]; exact ih
  | case4 _ _ _ hc ih => rw [lexNorm, if_neg hc, if_pos rfl]; exact ih
  | case8 _ _ _ hc hdd _ _ ih => rw [lexNorm, if_neg hc, if_neg hdd]; exact ih
  | case9 _ _ hc hdd => intro hw; cases hw; rw [lexNorm, if_neg hc, if_neg hdd]; rfl
  | _ => intro hw; cases hw

/-! ### `resolve` -/

variable {cwd : Path} {s : String}

theorem resolve_eq (fs : Fs) (cwd : Path) (s : String) :
    resolve fs cwd s = if s ≠ "" ∧ get fs (if isAbs s then [] else cwd) = some .dir
      then walk fs (if isAbs s then [] else cwd) (comps s) else .err .noent := by
  unfold resolve
  by_cases hs : s = ""
  · rw [if_pos hs, if_neg fun h => h.1 hs]
  · rw [if_neg hs]
    by_cases ha : isAbs s = true
    · simp only [if_pos ha]; rw [if_pos ⟨hs, get_nil fs⟩]
    · simp only [if_neg ha]
      by_cases hd : get fs cwd = some .dir
      · rw [if_pos hd, if_pos ⟨hs, hd⟩]
      · rw [if_neg hd, if_neg fun h => hd h.2]

theorem resolve_sound (h : WF fs) : (resolve fs cwd s).Sound fs := by
  rw [resolve_eq]
  by_cases hc : s ≠ "" ∧ get fs (if isAbs s then [] else cwd) = some .dir
  · rw [if_pos hc]; exact walk_sound h hc.2
  · rw [if_neg hc]; exact trivial

theorem resolve_found (h : WF fs) {p : Path} {e : Entry} (hr : resolve fs cwd s = .found p e) :
    get fs p = some e := by
  have := resolve_sound h (cwd := cwd) (s := s)
  rwa [hr] at this

theorem resolve_missing (h : WF fs) {par : Path} {n : Name} {sl : Bool}
    (hr : resolve fs cwd s = .missing par n sl) :
    get fs (par ++ [n]) = none ∧ get fs par = some .dir := by
  have := resolve_sound h (cwd := cwd) (s := s)
  rwa [hr] at this

theorem resolve_found_lexNorm {p : Path} {e : Entry} :
    resolve fs cwd s = .found p e → p = lexNorm (if isAbs s then [] else cwd) (comps s) := by
  rw [resolve_eq]
  by_cases hc : s ≠ "" ∧ get fs (if isAbs s then [] else cwd) = some .dir
  · rw [if_pos hc]; exact walk_found_lexNorm
  · rw [if_neg hc]; nofun

/-! ### what a successful `mkdir`, `unlink`, `rmdir` did -/

variable {fs' : Fs} {a b : String}

theorem mkdir_ok (hm : mkdir fs cwd s = .ok fs') :
    ∃ par n sl, resolve fs cwd s = .missing par n sl ∧ fs' = set fs (par ++ [n]) .dir := by
  revert hm
  fun_cases mkdir fs cwd s with
  | case1 par n sl hr => intro hm; cases hm; exact ⟨par, n, sl, hr, rfl⟩
  | _ => intro hm; cases hm

theorem unlink_ok (hm : unlink fs cwd s = .ok fs') :
    ∃ p b, resolve fs cwd s = .found p (.file b) ∧ fs' = erase fs p := by
  revert hm
  fun_cases unlink fs cwd s with
  | case1 p b hr => intro hm; cases hm; exact ⟨p, b, hr, rfl⟩
  | _ => intro hm; cases hm

theorem rmdir_ok (hm : rmdir fs cwd s = .ok fs') :
    ∃ p, resolve fs cwd s = .found p .dir ∧ children fs p = [] ∧ p ≠ [] ∧ fs' = erase fs p := by
  revert hm
  fun_cases rmdir fs cwd s with
  -- the one clause that answers `.ok`: an empty directory other than the root
  | case5 _ _ p hr hc hp => intro hm; cases hm; exact ⟨p, hr, Decidable.not_not.1 hc, hp, rfl⟩
  | _ => intro hm; cases hm

theorem mkdir_spec (h : WF fs) (hm : mkdir fs cwd s = .ok fs') :
    ∃ k, k ≠ [] ∧ get fs k = none ∧ get fs k.dropLast = some .dir ∧ fs' = set fs k .dir := by
  obtain ⟨par, n, _, hr, rfl⟩ := mkdir_ok hm
  obtain ⟨h1, h2⟩ := resolve_missing h hr
  exact ⟨par ++ [n], append_ne_nil par n, h1, by rwa [List.dropLast_concat], rfl⟩

theorem mkdir_wf (h : WF fs) (hm : mkdir fs cwd s = .ok fs') : WF fs' := by
  obtain ⟨k, hk, _, hp, rfl⟩ := mkdir_spec h hm
  exact wf_set h hk hp (.inl rfl)

theorem rmdir_wf (h : WF fs) (hm : rmdir fs cwd s = .ok fs') : WF fs' := by
  obtain ⟨k, _, hc, hk, rfl⟩ := rmdir_ok hm
  exact wf_erase h hk ((children_nil_iff fs k).1 hc)

theorem unlink_wf (h : WF fs) (hm : unlink fs cwd s = .ok fs') : WF fs' := by
  obtain ⟨k, b, hr, rfl⟩ := unlink_ok hm
  have hg := resolve_found h hr
  exact wf_erase h (file_ne_root hg) (no_children_of_not_dir h (by rw [hg]; nofun))

/-! ### `rename` and `copy` -/

/-- what `rename` / `copy` write: a file at a place whose parent is a directory and which is not
a directory itself -/
def Writable (fs : Fs) (pd : Path) : Prop :=
  pd ≠ [] ∧ get fs pd ≠ some .dir ∧ get fs pd.dropLast = some .dir

theorem writable_of_file (h : WF fs) {pd : Path} {x : List UInt8}
    (hg : get fs pd = some (.file x)) : Writable fs pd :=
  ⟨file_ne_root hg, by rw [hg]; nofun, h pd _ hg⟩

theorem writable_of_missing (h : WF fs) {par : Path} {n : Name}
    {sl : Bool} (hr : resolve fs cwd s = .missing par n sl) {ps : Path} {e : Entry}
    (hg : get fs ps = some e) : par ++ [n] ≠ ps ∧ Writable fs (par ++ [n]) :=
  have ⟨h1, h2⟩ := resolve_missing h hr
  ⟨(fun he => by rw [he, hg] at h1; cases h1),
    ⟨append_ne_nil par n, by rw [h1]; nofun, by rwa [List.dropLast_concat]⟩⟩

theorem rename_spec (h : WF fs) (hm : rename fs cwd a b = .ok fs') :
    ∃ ps bytes, get fs ps = some (.file bytes) ∧
      (fs' = fs ∨ ∃ pd, pd ≠ ps ∧ Writable fs pd ∧ fs' = set (erase fs ps) pd (.file bytes)) := by
  revert hm
  -- the clauses that answer `.ok`: the target is 1 the source itself, 2 another file, 5 a free name
  -- without a trailing slash
  fun_cases rename fs cwd a b with
  | case1 _ ps _ _ hra => intro hm; cases hm; exact ⟨ps, _, resolve_found h hra, .inl rfl⟩
  | case2 ps bytes hra pd _ hrb hne =>
    intro hm; cases hm
    exact ⟨ps, bytes, resolve_found h hra, .inr ⟨pd, hne, writable_of_file h (resolve_found h hrb), rfl⟩⟩
  | case5 ps bytes hra par n _ hrb =>
    intro hm; cases hm
    have hgs := resolve_found h hra
    have ⟨hne, hw⟩ := writable_of_missing h hrb hgs
    exact ⟨ps, bytes, hgs, .inr ⟨_, hne, hw, rfl⟩⟩
  | _ => intro hm; cases hm

/-- `std::fs::copy` opens the target with `O_TRUNC` before it reads the source: when both are the same
file what is read is empty; the repaired call returns before it opens anything (`fs' = fs`) -/
theorem copy_spec {t : Bool} (h : WF fs) (hm : copy t fs cwd a b = .ok fs') :
    ∃ ps bytes, get fs ps = some (.file bytes) ∧
      (fs' = fs ∨ ∃ pd, (pd = ps → t = true) ∧ Writable fs pd ∧
        fs' = set fs pd (.file (if pd = ps then [] else bytes))) := by
  revert hm
  -- the clauses that answer `.ok`: the target is 1, 2 the source itself, with and without truncation,
  -- 3 another file, 6 a free name without a trailing slash
  fun_cases copy t fs cwd a b with
  | case1 bytes ps _ _ ht hra =>
    intro hm; cases hm
    have hgs := resolve_found h hra
    exact ⟨ps, bytes, hgs, .inr ⟨ps, fun _ => ht, writable_of_file h hgs, by rw [if_pos rfl]⟩⟩
  | case2 _ ps _ _ _ hra => intro hm; cases hm; exact ⟨ps, _, resolve_found h hra, .inl rfl⟩
  | case3 ps bytes hra pd _ hrb hne =>
    intro hm; cases hm
    exact ⟨ps, bytes, resolve_found h hra,
      .inr ⟨pd, fun e => absurd e hne, writable_of_file h (resolve_found h hrb), by rw [if_neg hne]⟩⟩
  | case6 ps bytes hra par n _ hrb =>
    intro hm; cases hm
    have hgs := resolve_found h hra
    have ⟨hne, hw⟩ := writable_of_missing h hrb hgs
    exact ⟨ps, bytes, hgs, .inr ⟨_, fun e => absurd e hne, hw, by rw [if_neg hne]⟩⟩
  | _ => intro hm; cases hm

theorem rename_wf (h : WF fs) (hm : rename fs cwd a b = .ok fs') : WF fs' := by
  obtain ⟨ps, bytes, hg, hc⟩ := rename_spec h hm
  rcases hc with rfl | ⟨pd, hne, ⟨hpd, hnd, hpar⟩, rfl⟩
  · exact h
  · have hps := file_ne_root hg
    have hdl : pd.dropLast ≠ ps := fun he => by rw [he, hg] at hpar; cases hpar
    refine wf_set (wf_erase h hps (no_children_of_not_dir h (by rw [hg]; nofun))) hpd ?_ (.inr ?_)
    · rw [get_erase hps, if_neg hdl]; exact hpar
    · rw [get_erase hps, if_neg hne]; exact hnd

theorem copy_wf {t : Bool} (h : WF fs) (hm : copy t fs cwd a b = .ok fs') : WF fs' := by
  obtain ⟨ps, bytes, _, hc⟩ := copy_spec h hm
  rcases hc with rfl | ⟨pd, _, ⟨hpd, hnd, hpar⟩, rfl⟩
  · exact h
  · exact wf_set h hpd hpar (.inr hnd)

end Scryer.FsTree
