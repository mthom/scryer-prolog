import ScryerModel.Model.Resync
/-!
Every scanner below the dispatch of `next_token` satisfies one invariant, `Scan`: the rest it leaves
is no longer than a bound given by its input, "end of input" is only reported with nothing left,
the token is never the end token, and there is no panic. Each scanner gets one induction along its
definition; `tokAt_dispatched` puts them together, and totality of the fuelled loops, progress and
resynchronisation of the reader follow from it. `Reach` and `Resynced` say behind WHICH end token a
read or skip stops: the first one on the reader's own way through its input.
-/
namespace Scryer.Resync
open Scryer.CharClass

/-- the result leaves at most `n` characters; an end-of-input error leaves none; no panic -/
def Good (n : Nat) : R → Prop
  | .tok _ rest => rest.length ≤ n
  | .err .eof rest => rest = []
  | .err _ rest => rest.length ≤ n
  | .panic => False

theorem good_tok {n : Nat} {k : Kind} {rest : List Char} : Good n (.tok k rest) ↔ rest.length ≤ n := Iff.rfl
theorem good_panic {n : Nat} : Good n .panic ↔ False := Iff.rfl

theorem good_err {n : Nat} {e : Err} {rest : List Char} (he : e ≠ .eof) :
    Good n (.err e rest) ↔ rest.length ≤ n := by
  cases e <;> first | exact absurd rfl he | exact Iff.rfl

theorem Good.mono {n m : Nat} {t : R} (h : Good n t) (hnm : n ≤ m) : Good m t := by
  cases t with
  | tok k rest => exact Nat.le_trans h hnm
  | err e rest => cases e <;> first | exact h | exact Nat.le_trans h hnm
  | panic => exact h

/-- `Good`, and the token is not the end token: what each scanner called by `tokAt` delivers -/
def Scan (n : Nat) (t : R) : Prop := Good n t ∧ ∀ rest, t ≠ .tok .endT rest

theorem Scan.mono {n m : Nat} {t : R} (h : Scan n t) (hnm : n ≤ m) : Scan m t := ⟨h.1.mono hnm, h.2⟩

theorem Scan.eof {n : Nat} : Scan n (.err .eof []) := ⟨rfl, nofun⟩

/-! ## layout -/

theorem layoutGo_le (u : UC) (st : LS) (ins : Bool) (s : List Char) :
    ∀ i r, layoutGo u st ins s = .ok i r → r.length ≤ s.length := by
  fun_induction layoutGo u st ins s
  -- a step that consumes a character: the hypothesis, weakened; a stop: `r` is the input or its tail
  all_goals first
    | (rename_i ih; exact fun i r h => Nat.le_trans (ih i r h) (by simp +arith))
    | (intro i r h; cases h <;> simp)

theorem scanLayout_nil (u : UC) : scanLayout u [] = .err .eof := rfl

theorem scanLayout_le (u : UC) (s : List Char) (i : Bool) (r : List Char)
    (h : scanLayout u s = .ok i r) : r.length ≤ s.length := by
  cases s with
  | nil => cases h
  | cons c t => exact layoutGo_le u .base false (c :: t) i r h

/-! ## runs -/

theorem runTok_scan (p : Char → Bool) {k : Kind} (hk : k ≠ .endT) (s : List Char) :
    Scan s.length (runTok p k s) := by
  fun_induction runTok p k s
  -- recursive call: the hypothesis, weakened by `Scan.mono`; end of input: by `simp`; end of the run: `hk`
  all_goals first
    | exact Scan.mono ‹_› (by simp +arith)
    | (simp +arith [Scan, Good]; done)
    | exact ⟨Nat.le_refl _, fun _ h => hk (R.tok.inj h).1⟩

/-! ## quoted items -/

theorem skipQ_le (q : Char) (s : List Char) : (skipQ q s).length ≤ s.length := by
  fun_induction skipQ q s
  all_goals first
    | exact Nat.le_trans ‹_› (by simp +arith)
    | simp

@[simp] theorem bad_ne_eof (m : QM) : m.bad ≠ .eof := by cases m <;> exact Err.noConfusion

theorem escValue_ne_eof {n : Nat} {e : Err} (h : escValue n = some e) : e ≠ .eof := by
  unfold escValue at h
  split at h
  · cases h; exact Err.noConfusion
  · split at h <;> cases h; exact Err.noConfusion

/-- `k` is the room for the quote that `0''x` puts back in front of its input -/
theorem qGo_scan (u : UC) (m : QM) (st : QS) (s : List Char) {k : Nat} (hk : m = .ch → 1 ≤ k) :
    Scan (s.length + k) (qGo u m st s) := by
  fun_induction qGo u m st s
  -- recursive calls: the hypothesis, weakened by `Scan.mono`; leaves with a fixed result: by `simp`
  all_goals try first
    | exact Scan.mono ‹_› (by simp +arith)
    | (simp +arith [Scan, Good]; done)
  -- left: `0''` giving back the quote, which needs the room `k` (`good_tok` first: on the goal
  -- `Good _ _` the same script goes through `Classical.choice`)
  · exact ⟨good_tok.mpr (by have := hk ‹_›; simp +arith; omega), nofun⟩
  -- and the errors of `escValue`, which are never `eof`
  all_goals exact ⟨(good_err (escValue_ne_eof ‹_›)).mpr (by simp +arith), nofun⟩

theorem bqGo_scan (u : UC) (s : List Char) : Scan s.length (bqGo u s) := by
  fun_induction bqGo u s
  all_goals first
    | exact Scan.mono ‹_› (by simp +arith)
    | (simp +arith [Scan, Good]; done)

theorem recoverQ_scan (fixed : Bool) (q : Char) {n : Nat} {t : R} (h : Scan n t) :
    Scan n (recoverQ fixed q t) := by
  cases t with
  | tok k rest => exact h
  | panic => exact h
  | err e rest =>
    simp only [recoverQ]
    split
    · rename_i hc
      have he : e ≠ .eof := by rintro rfl; simp at hc
      exact ⟨(good_err he).mpr (Nat.le_trans (skipQ_le q rest) ((good_err he).mp h.1)), nofun⟩
    · exact h

/-! ## numbers -/

theorem popTok_succ (n : Nat) : popTok (n + 1) = some n := rfl

theorem expDigits_scan (u : UC) (s : List Char) : Scan s.length (expDigits u s) :=
  runTok_scan _ (k := .num) nofun s

theorem expPart_scan (u : UC) (n : Nat) (ec : Char) (r1 : List Char) :
    Scan (r1.length + 1) (expPart u n ec r1) := by
  fun_cases expPart u n ec r1
  -- digits follow: `expDigits`. Otherwise one of the three `token.pop().unwrap()`: the token holds
  -- `ec` (and the sign) on top of its `n` characters, so `popTok (n + 1)`, `popTok (n + 2)` and the
  -- second pop are `some`, the `.panic` arms contradict that (`simp_all`), and `.tok` leaves `≤ r1.length + 1`
  all_goals first
    | exact (expDigits_scan ..).mono (by simp +arith)
    | simp_all +arith [Scan, Good, popTok]

theorem fracGo_scan (u : UC) (n : Nat) (s : List Char) : Scan s.length (fracGo u n s) := by
  fun_induction fracGo u n s
  all_goals first
    | exact Scan.mono ‹_› (by simp +arith)
    | (simp +arith [Scan, Good]; done)
    | exact expPart_scan ..

theorem dropRun_le (p : Char → Bool) (s : List Char) : (dropRun p s).length ≤ s.length := by
  fun_induction dropRun p s
  all_goals first
    | exact Nat.le_trans ‹_› (by simp +arith)
    | simp

theorem radixConst_scan (p : Char → Bool) (c : Char) (r : List Char) :
    Scan (r.length + 1) (radixConst p c r) := by
  unfold radixConst
  split
  · exact Scan.eof
  · split
    · exact ⟨Nat.le_succ_of_le (dropRun_le p _), nofun⟩
    · exact ⟨Nat.le_refl _, nofun⟩

theorem afterInt_scan (u : UC) (z : Bool) (n : Nat) (c : Char) (r : List Char) :
    Scan (r.length + 1) (afterInt u z n c r) := by
  fun_cases afterInt u z n c r
  -- in turn: `0x` / `0o` / `0b`; a fraction after `.`; `0'` (the quoted-item scanner, `k := 1` for the
  -- quote it may put back); every other arm is `.tok .num` with the look-ahead `c` given back
  all_goals first
    | exact radixConst_scan ..
    | exact (fracGo_scan ..).mono (by simp +arith)
    | exact (qGo_scan u .ch .items r (k := 1) fun _ => Nat.le_refl 1).mono (by simp +arith)
    | simp +arith [Scan, Good]

theorem intGo_scan (u : UC) (st : NS) (z : Bool) (n : Nat) (s : List Char) :
    Scan s.length (intGo u st z n s) := by
  fun_induction intGo u st z n s
  all_goals first
    | exact Scan.mono ‹_› (by simp +arith)
    | (simp +arith [Scan, Good]; done)
    | exact afterInt_scan ..

/-! ## `next_token` -/

/-- What the dispatch of `next_token` can deliver on the input `s`: the token or error of one of
    the scanners, which consumed the first character at least; the end token, exactly where
    `atEnd` says; or (pinned code only) an error that consumes nothing. -/
inductive Dispatched (u : UC) (f : Bool) (s : List Char) : R → Prop
  | scan {t : R} : Scan (s.length - 1) t → Dispatched u f s t
  | endT {rest : List Char} : atEnd u s = true → rest = s.drop 1 ∨ rest = s.drop 2 →
      Dispatched u f s (.tok .endT rest)
  | stuck {e : Err} : f = false → Dispatched u f s (.err e s)

theorem tokAt_dispatched (u : UC) (f ins : Bool) (s : List Char) :
    Dispatched u f s (tokAt u f ins s) := by
  have punct {k : Kind} (hk : k ≠ .endT) (r : List Char) : Scan r.length (.tok k r) :=
    ⟨Nat.le_refl _, fun _ h => hk (R.tok.inj h).1⟩
  -- the cases come in the order of the dispatch
  fun_cases tokAt u f ins s
  · exact .scan Scan.eof                                            -- no input
  · exact .scan (runTok_scan _ Kind.noConfusion _)                  -- variable
  iterate 2 exact .scan (punct Kind.noConfusion _)                  -- `,` and `)`
  · exact .scan (punct (by cases ins <;> exact Kind.noConfusion) _) -- `(`
  · cases eq_of_beq ‹_›                                             -- `.` at the end of input
    exact .endT rfl (.inl rfl)
  · cases eq_of_beq ‹(_ == '.') = true›                             -- `.` before layout or `%`
    exact .endT ‹_› (by split <;> simp)
  · exact .scan (runTok_scan _ Kind.noConfusion _)                  -- `.` starting a graphic name
  · exact .scan (intGo_scan ..)                                     -- digit
  iterate 5 exact .scan (punct Kind.noConfusion _)                  -- `]` `[` `|` `{` `}`
  · exact .scan (recoverQ_scan _ _ (qGo_scan u _ _ _ (k := 0) nofun)) -- `"`
  · exact .stuck (by simp_all)                                      -- NUL when `f = false`
  iterate 2 exact .scan (runTok_scan _ Kind.noConfusion _)          -- small letter, graphic
  · exact .scan (punct Kind.noConfusion _)                          -- `!` or `;`
  · exact .scan (recoverQ_scan _ _ (qGo_scan u _ _ _ (k := 0) nofun)) -- `'`
  · exact .scan (recoverQ_scan _ _ (bqGo_scan ..))                  -- back quote
  · exact .scan ⟨Nat.le_refl _, nofun⟩                              -- other character, `f = true`
  · exact .stuck (by simpa using ‹¬f = true›)                       -- other character, `f = false`

theorem Dispatched.good {u : UC} {s : List Char} {t : R} (h : Dispatched u true s t) :
    Good (s.length - 1) t := by
  cases h with
  | scan h => exact h.1
  | endT _ hr => rcases hr with rfl | rfl <;> simp only [good_tok, List.length_drop] <;> omega
  | stuck hf => cases hf

theorem Dispatched.of_end {u : UC} {f : Bool} {s rest : List Char}
    (h : Dispatched u f s (.tok .endT rest)) :
    atEnd u s = true ∧ (rest = s.drop 1 ∨ rest = s.drop 2) := by
  cases h with
  | scan hs => exact absurd rfl (hs.2 _)
  | endT ha hr => exact ⟨ha, hr⟩

/-- stated with an equation for the result: from `h : nextTok u true s = .tok k rest` (or `.err e rest`),
    `Good _ t` unfolds to the bound on `rest` that the corollaries below state. -/
theorem nextTok_good (u : UC) (s : List Char) {t : R} (h : nextTok u true s = t) : Good (s.length - 1) t := by
  subst h
  unfold nextTok
  split
  · rename_i e _
    cases e <;> first | rfl | exact Nat.zero_le _
  · rename_i ins r he
    exact (tokAt_dispatched u true ins r).good.mono (Nat.sub_le_sub_right (scanLayout_le u s ins r he) 1)

theorem nextTok_nil (u : UC) (f : Bool) : nextTok u f [] = .err .eof [] := rfl

theorem nextTok_tok_lt (u : UC) (s : List Char) (k : Kind) (rest : List Char)
    (h : nextTok u true s = .tok k rest) : rest.length < s.length := by
  cases s with
  | nil => cases h
  | cons c t => exact Nat.lt_succ_of_le (nextTok_good u _ h)

theorem nextTok_err_lt (u : UC) (s : List Char) (e : Err) (rest : List Char)
    (h : nextTok u true s = .err e rest) (he : e ≠ .eof) : rest.length < s.length := by
  cases s with
  | nil => cases h; exact absurd rfl he
  | cons c t => exact Nat.lt_succ_of_le ((good_err he).mp (nextTok_good u _ h))

theorem nextTok_eof_nil (u : UC) (s : List Char) (rest : List Char)
    (h : nextTok u true s = .err .eof rest) : rest = [] :=
  nextTok_good u s h

theorem nextTok_no_panic (u : UC) (s : List Char) : nextTok u true s ≠ .panic :=
  nextTok_good u s

/-! ## skip mode and one read: the fuel suffices; where they stop -/

/-- `Reach u s s'`: the repaired reader, started on `s`, comes to stand on `s'` after layout scans and
    calls of `next_token` that delivered no end token. Not "`s'` is a suffix of `s`": `0'\<nl>` puts a
    quote back where the new line stood. -/
inductive Reach (u : UC) : List Char → List Char → Prop
  | refl (s : List Char) : Reach u s s
  | layout {s r s' : List Char} {i : Bool} : scanLayout u s = .ok i r → Reach u r s' → Reach u s s'
  | tok {s r s' : List Char} {k : Kind} : nextTok u true s = .tok k r → k ≠ .endT → Reach u r s' → Reach u s s'
  | err {s r s' : List Char} {e : Err} : nextTok u true s = .err e r → Reach u r s' → Reach u s s'

/-- what a read or skip mode, started on `s`, leaves: nothing, or what the first end token on the
    reader's way through `s` left. Without `Reach` the second clause holds of every `r`, since
    `next_token` on `'.' :: '\n' :: r` delivers an end token and leaves `r`. -/
def Resynced (u : UC) (s r : List Char) : Prop :=
  r = [] ∨ ∃ s', Reach u s s' ∧ nextTok u true s' = .tok .endT r

theorem Resynced.of_reach {u : UC} {a b r : List Char} (h : ∀ s', Reach u a s' → Reach u b s') :
    Resynced u a r → Resynced u b r :=
  Or.imp_right fun ⟨s', hr, he⟩ => ⟨s', h s' hr, he⟩

theorem Resynced.weaken {u : UC} {s r : List Char} (h : Resynced u s r) :
    r = [] ∨ ∃ s', nextTok u true s' = .tok .endT r :=
  h.imp_right fun ⟨s', _, he⟩ => ⟨s', he⟩

theorem skipGo_spec (u : UC) (f : Nat) (s : List Char) (h : s.length < f) :
    ∃ r, skipGo u f s = some r ∧ r.length ≤ s.length ∧ Resynced u s r := by
  -- case1: no fuel; then by the answer of `nextTok`: end token, other token, `eof`, other error, panic
  fun_induction skipGo u f s with
  | case1 => exact absurd h (Nat.not_lt_zero _)
  | case2 f s rest he =>
    exact ⟨rest, rfl, Nat.le_of_lt (nextTok_tok_lt u s _ rest he), .inr ⟨s, .refl s, he⟩⟩
  | case3 f s k rest hk he ih =>
    have hlt := nextTok_tok_lt u s k rest he
    obtain ⟨r, hr, hle, hend⟩ := ih (by omega)
    exact ⟨r, hr, by omega, hend.of_reach fun _ => .tok he hk⟩
  | case4 => exact ⟨[], rfl, Nat.zero_le _, .inl rfl⟩
  | case5 f s e rest hne he ih =>
    have hlt := nextTok_err_lt u s e rest he hne
    obtain ⟨r, hr, hle, hend⟩ := ih (by omega)
    exact ⟨r, hr, by omega, hend.of_reach fun _ => .err he⟩
  | case6 f s he => exact absurd he (nextTok_no_panic u s)

theorem tokensGo_spec (u : UC) (f n : Nat) (s : List Char) (h : s.length < f) :
    ∃ o r, tokensGo u true f n s = some (o, r) ∧ o ≠ .eof ∧ r.length ≤ s.length ∧
      (s ≠ [] → r.length < s.length) ∧ Resynced u s r := by
  -- as in `skipGo_spec`; an error other than `eof` has two cases, skip mode (case5) and the pinned
  -- branch `fixed = false` (case6), which is not this instance
  fun_induction tokensGo u true f n s with
  | case1 => exact absurd h (Nat.not_lt_zero _)
  | case2 f n s rest he =>
    have hlt := nextTok_tok_lt u s _ rest he
    exact ⟨_, rest, rfl, nofun, Nat.le_of_lt hlt, fun _ => hlt, .inr ⟨s, .refl s, he⟩⟩
  | case3 f n s k rest hk he ih =>
    have hlt := nextTok_tok_lt u s k rest he
    obtain ⟨o, r, hr, ho, hle, _, hend⟩ := ih (by omega)
    exact ⟨o, r, hr, ho, by omega, fun _ => by omega, hend.of_reach fun _ => .tok he hk⟩
  | case4 f n s rest he =>
    cases nextTok_eof_nil u s rest he
    exact ⟨_, [], rfl, nofun, Nat.zero_le _, List.length_pos_iff.mpr, .inl rfl⟩
  | case5 f n s e rest hne he =>
    have hlt := nextTok_err_lt u s e rest he hne
    obtain ⟨r, hr, hle, hend⟩ := skipGo_spec u _ rest (Nat.lt_succ_self _)
    exact ⟨.error e, r, by rw [skipToEnd, hr]; rfl, nofun, by omega, fun _ => by omega,
      hend.of_reach fun _ => .err he⟩
  | case6 _ _ _ _ _ _ _ hf => exact absurd rfl hf
  | case7 f n s he => exact absurd he (nextTok_no_panic u s)

theorem readClause_spec (u : UC) (s : List Char) :
    ∃ o r, readClause u s = some (o, r) ∧ r.length ≤ s.length ∧ (o ≠ .eof → r.length < s.length) ∧
      Resynced u s r := by
  -- case1: the layout scan reports `eof` (`s = []`, or `s` ends just after `/` or `/*`); case2: another error (a block
  -- comment left open, so `s ≠ []`); case3: `.ok` with nothing left; case4: `.ok` with `r ≠ []`, from which one clause is read
  fun_cases readClause u s with
  | case1 => exact ⟨_, _, rfl, Nat.zero_le _, fun h => absurd rfl h, .inl rfl⟩
  | case2 e hne he =>
    have hs : s ≠ [] := fun hs => hne (LR.err.inj ((scanLayout_nil u).symm.trans (hs ▸ he))).symm
    exact ⟨_, _, rfl, Nat.zero_le _, fun _ => List.length_pos_iff.mpr hs, .inl rfl⟩
  | case3 => exact ⟨_, _, rfl, Nat.zero_le _, fun h => absurd rfl h, .inl rfl⟩
  | case4 ins r hr he =>
    have hle := scanLayout_le u s ins r he
    obtain ⟨o, r', h1, _, h3, h4, h5⟩ := tokensGo_spec u _ 0 r (Nat.lt_succ_self _)
    exact ⟨o, r', h1, by omega, fun _ => by have := h4 hr; omega, h5.of_reach fun _ => .layout he⟩

/-! ## the sequence of reads -/

theorem readsGo_eof {u : UC} {s rest : List Char} (hc : readClause u s = some (.eof, rest)) (f : Nat) :
    readsGo u (f + 1) s = some [] := by
  rw [readsGo, hc]

theorem readsGo_cons {u : UC} {s rest : List Char} {o : Outcome}
    (hc : readClause u s = some (o, rest)) (ho : o ≠ .eof) (f : Nat) :
    readsGo u (f + 1) s = (readsGo u f rest).map fun l => (o, s.length - rest.length) :: l := by
  rw [readsGo, hc]
  cases o <;> first | rfl | exact absurd rfl ho

theorem readsGo_total (u : UC) (s : List Char) : ∃ l, ∀ f, s.length < f → readsGo u f s = some l := by
  induction hn : s.length using Nat.strongRecOn generalizing s with | _ n ih => ?_
  obtain ⟨o, r, hc, _, hlt, _⟩ := readClause_spec u s
  by_cases ho : o = .eof
  · subst ho
    exact ⟨[], fun | 0, h => absurd h (Nat.not_lt_zero _) | f + 1, _ => readsGo_eof hc f⟩
  · have := hlt ho
    obtain ⟨l, hl⟩ := ih _ (hn ▸ this) r rfl
    exact ⟨_, fun | 0, h => absurd h (Nat.not_lt_zero _)
                  | f + 1, h => by rw [readsGo_cons hc ho, hl f (by omega)]; rfl⟩

end Scryer.Resync
