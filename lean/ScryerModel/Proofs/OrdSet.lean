import ScryerModel.Model.OrdSet
import ScryerModel.Proofs.Sort
/-
C14 — the transcribed library(ordsets) predicates compute the finite-set operations on strictly
ascending lists (for a total order `cmp`, `IsLinear`). Each operation is proved strictly ascending
and characterised by membership in one induction along its own recursion; by
`strict_unique_linear` the two together determine the result list. The statements are about the
workers (`union2`, `isect2`, …) that carry the head of one list as an argument; the entry
predicates only peel off that head. `ord_subtract/3` alone is stated on the entry predicate, since
its two workers are one (`diffAux_true`).
In each case the ordering half is written out; the membership half is propositional and left to
`grind`, from `List.mem_cons`, the membership hypothesis of the recursive call (`ihm`; `i1`–`i3` in
`ordSubtract_spec`) and, where a head is dropped from the result or kept because the other list lacks
it, the fact that says so (`n`, `n1`, …), stated just before (what lies below a strictly ascending list
is not in it).
-/
namespace Scryer.OrdSet
open Scryer.Sort

variable {α : Type} {cmp : α → α → Ordering}

/-- strict lower bound of a list. -/
def LB (cmp : α → α → Ordering) (x : α) (l : List α) : Prop := ∀ z ∈ l, cmp x z = .lt

theorem strict_cons {x : α} {l : List α} :
    StrictSorted cmp (x :: l) ↔ LB cmp x l ∧ StrictSorted cmp l := List.pairwise_cons

theorem LB.trans (h : IsPreorder cmp) {x y : α} {l : List α} (hxy : cmp x y = .lt)
    (hl : LB cmp y l) : LB cmp x l := fun z hz => h.lt_trans hxy (hl z hz)

theorem LB.cons (h : IsPreorder cmp) {x y : α} {l : List α} (hxy : cmp x y = .lt)
    (s : StrictSorted cmp (y :: l)) : LB cmp x (y :: l) :=
  List.forall_mem_cons.2 ⟨hxy, LB.trans h hxy (strict_cons.1 s).1⟩

theorem ne_of_lt (h : IsPreorder cmp) {x y : α} (hxy : cmp x y = .lt) : x ≠ y := by
  rintro rfl
  exact nomatch (h.refl x).symm.trans hxy

theorem LB.not_mem (h : IsPreorder cmp) {x : α} {l : List α} (hl : LB cmp x l) : x ∉ l :=
  fun hx => ne_of_lt h (hl x hx) rfl

theorem LB.of_subset {x : α} {r a b : List α} (ha : LB cmp x a) (hb : LB cmp x b)
    (hr : ∀ z ∈ r, z ∈ a ∨ z ∈ b) : LB cmp x r := fun z hz => (hr z hz).elim (ha z) (hb z)

theorem not_mem_of_lt (h : IsPreorder cmp) {x y : α} {l : List α} (hxy : cmp x y = .lt)
    (s : StrictSorted cmp (y :: l)) : x ∉ y :: l := (LB.cons h hxy s).not_mem h

/-! ### the binary operations -/

theorem union2_spec (h : IsLinear cmp) (l2 : List α) (h1 : α) (t1 : List α)
    (s1 : StrictSorted cmp (h1 :: t1)) (s2 : StrictSorted cmp l2) :
    StrictSorted cmp (union2 cmp l2 h1 t1) ∧
      ∀ x, x ∈ union2 cmp l2 h1 t1 ↔ x ∈ h1 :: t1 ∨ x ∈ l2 := by
  -- case1: `l2 = []`; case2, case3, case4: `cmp h1 h2` is `<`, `=`, `>` (`hc`)
  fun_induction union2 cmp l2 h1 t1 with
  | case1 h1 t1 => exact ⟨s1, by simp⟩
  | case2 h2 t2 h1 t1 hc ih =>
    have s1' := strict_cons.1 s1
    obtain ⟨ihs, ihm⟩ := ih s2 s1'.2
    refine ⟨strict_cons.2
      ⟨(LB.cons h.toIsPreorder hc s2).of_subset s1'.1 fun z hz => (ihm z).1 hz, ihs⟩, ?_⟩
    grind
  | case3 h2 t2 h1 t1 hc ih =>
    obtain rfl := h.eq_imp _ _ hc
    have s1' := strict_cons.1 s1
    have s2' := strict_cons.1 s2
    cases t1 with
    | nil => exact ⟨s2, by grind⟩
    | cons a t =>
      obtain ⟨ihs, ihm⟩ := ih s1'.2 s2'.2
      refine ⟨strict_cons.2 ⟨s1'.1.of_subset s2'.1 fun z hz => (ihm z).1 hz, ihs⟩, ?_⟩
      grind
  | case4 h2 t2 h1 t1 hc ih =>
    have s2' := strict_cons.1 s2
    obtain ⟨ihs, ihm⟩ := ih s1 s2'.2
    refine ⟨strict_cons.2 ⟨(LB.cons h.toIsPreorder (h.lt_of_gt hc) s1).of_subset s2'.1
      fun z hz => (ihm z).1 hz, ihs⟩, ?_⟩
    grind

theorem isect2_spec (h : IsLinear cmp) (l2 : List α) (h1 : α) (t1 : List α)
    (s1 : StrictSorted cmp (h1 :: t1)) (s2 : StrictSorted cmp l2) :
    StrictSorted cmp (isect2 cmp l2 h1 t1) ∧
      ∀ x, x ∈ isect2 cmp l2 h1 t1 ↔ x ∈ h1 :: t1 ∧ x ∈ l2 := by
  fun_induction isect2 cmp l2 h1 t1 with
  | case1 h1 t1 => exact ⟨.nil, by simp⟩
  | case2 h2 t2 h1 t1 hc ih =>
    obtain ⟨ihs, ihm⟩ := ih s2 (strict_cons.1 s1).2
    have n := not_mem_of_lt h.toIsPreorder hc s2
    exact ⟨ihs, by grind⟩
  | case3 h2 t2 h1 t1 hc ih =>
    obtain rfl := h.eq_imp _ _ hc
    have s1' := strict_cons.1 s1
    cases t1 with
    | nil => exact ⟨List.pairwise_singleton _ _, by grind⟩
    | cons a t =>
      obtain ⟨ihs, ihm⟩ := ih s1'.2 (strict_cons.1 s2).2
      exact ⟨strict_cons.2 ⟨fun z hz => s1'.1 z ((ihm z).1 hz).1, ihs⟩, by grind⟩
  | case4 h2 t2 h1 t1 hc ih =>
    obtain ⟨ihs, ihm⟩ := ih s1 (strict_cons.1 s2).2
    have n := not_mem_of_lt h.toIsPreorder (h.lt_of_gt hc) s1
    exact ⟨ihs, by grind⟩

theorem symdiffAux_spec (h : IsLinear cmp) (l2 : List α) (h1 : α) (t1 : List α)
    (s1 : StrictSorted cmp (h1 :: t1)) (s2 : StrictSorted cmp l2) :
    StrictSorted cmp (symdiffAux cmp l2 h1 t1) ∧
      ∀ x, x ∈ symdiffAux cmp l2 h1 t1 ↔ (x ∈ h1 :: t1 ∧ x ∉ l2) ∨ (x ∉ h1 :: t1 ∧ x ∈ l2) := by
  -- as in `union2_spec`, but `=` comes twice: case3 with `t1 = []`, case4 with `t1 = a :: t`; case5 is `>`
  fun_induction symdiffAux cmp l2 h1 t1 with
  | case1 h1 t1 => exact ⟨s1, by simp⟩
  | case2 h2 t2 h1 t1 hc ih =>
    have s1' := strict_cons.1 s1
    obtain ⟨ihs, ihm⟩ := ih s2 s1'.2
    have n := not_mem_of_lt h.toIsPreorder hc s2
    refine ⟨strict_cons.2 ⟨(LB.cons h.toIsPreorder hc s2).of_subset s1'.1 fun z hz => ?_, ihs⟩,
      by grind⟩
    grind
  | case3 h2 t2 h1 hc =>
    obtain rfl := h.eq_imp _ _ hc
    have n := (strict_cons.1 s2).1.not_mem h.toIsPreorder
    exact ⟨(strict_cons.1 s2).2, by grind⟩
  | case4 h2 t2 h1 hc a t ih =>
    obtain rfl := h.eq_imp _ _ hc
    have n1 := (strict_cons.1 s1).1.not_mem h.toIsPreorder
    have n2 := (strict_cons.1 s2).1.not_mem h.toIsPreorder
    obtain ⟨ihs, ihm⟩ := ih (strict_cons.1 s1).2 (strict_cons.1 s2).2
    exact ⟨ihs, by grind⟩
  | case5 h2 t2 h1 t1 hc ih =>
    have s2' := strict_cons.1 s2
    have hc' := h.lt_of_gt hc
    obtain ⟨ihs, ihm⟩ := ih s1 s2'.2
    have n := not_mem_of_lt h.toIsPreorder hc' s1
    refine ⟨strict_cons.2 ⟨(LB.cons h.toIsPreorder hc' s1).of_subset s2'.1 fun z hz => ?_, ihs⟩,
      by grind⟩
    grind

/-- `diff12` is `diff21` with its arguments in the other order: unlike the other workers, `ord_subtract/3`
    never swaps the roles of its two lists, so it is a plain two-list walk. -/
theorem diffAux_true (l : List α) (h2 : α) (t2 : List α) :
    diffAux cmp true l h2 t2 = ordSubtract cmp l (h2 :: t2) := by
  cases l with
  | nil => rw [diffAux.eq_def]; rfl
  | cons h1 t1 => rw [ordSubtract, diffAux.eq_def, diffAux.eq_def cmp false]

theorem ordSubtract_cons_cons (h1 : α) (t1 : List α) (h2 : α) (t2 : List α) :
    ordSubtract cmp (h1 :: t1) (h2 :: t2) = match cmp h1 h2 with
      | .lt => h1 :: ordSubtract cmp t1 (h2 :: t2)
      | .eq => ordSubtract cmp t1 t2
      | .gt => ordSubtract cmp (h1 :: t1) t2 := by
  rw [ordSubtract, diffAux.eq_def]
  simp only [diffAux_true]
  cases t1 <;> rfl

theorem ordSubtract_spec (h : IsLinear cmp) (a b : List α) (sa : StrictSorted cmp a)
    (sb : StrictSorted cmp b) :
    StrictSorted cmp (ordSubtract cmp a b) ∧ ∀ x, x ∈ ordSubtract cmp a b ↔ x ∈ a ∧ x ∉ b := by
  induction a generalizing b with
  | nil => exact ⟨.nil, by simp [ordSubtract]⟩
  | cons h1 t1 iha =>
    have sa' := strict_cons.1 sa
    induction b with
    | nil => simpa [ordSubtract, diffAux] using sa
    | cons h2 t2 ihb =>
      have sb' := strict_cons.1 sb
      -- taken out of the quantified hypotheses first: `grind` would instantiate those again and again
      have i1 := iha _ sa'.2 sb
      have i2 := iha _ sa'.2 sb'.2
      have i3 := ihb sb'.2
      clear iha ihb
      rw [ordSubtract_cons_cons]
      cases hc : cmp h1 h2 with
      | lt =>
        have n := not_mem_of_lt h.toIsPreorder hc sb
        exact ⟨strict_cons.2 ⟨fun z hz => sa'.1 z ((i1.2 z).1 hz).1, i1.1⟩, by grind⟩
      | eq =>
        obtain rfl := h.eq_imp _ _ hc
        have n := sa'.1.not_mem h.toIsPreorder
        exact ⟨i2.1, by grind⟩
      | gt =>
        have n := not_mem_of_lt h.toIsPreorder (h.lt_of_gt hc) sa
        exact ⟨i3.1, by grind⟩

/-! ### add / delete one element -/

theorem addel_spec (h : IsLinear cmp) (s : List α) (e : α) (ss : StrictSorted cmp s) :
    StrictSorted cmp (addel cmp s e) ∧ ∀ x, x ∈ addel cmp s e ↔ x = e ∨ x ∈ s := by
  fun_induction addel cmp s e with
  | case1 e => exact ⟨List.pairwise_singleton _ _, by simp⟩
  | case2 y t e hc ih =>
    have ss' := strict_cons.1 ss
    obtain ⟨ihs, ihm⟩ := ih ss'.2
    exact ⟨strict_cons.2 ⟨fun z hz => ((ihm z).1 hz).elim (· ▸ hc) (ss'.1 z), ihs⟩, by grind⟩
  | case3 y t e hc =>
    obtain rfl := h.eq_imp _ _ hc
    exact ⟨ss, by grind⟩
  | case4 y t e hc =>
    exact ⟨strict_cons.2 ⟨LB.cons h.toIsPreorder (h.lt_of_gt hc) ss, ss⟩, by grind⟩

theorem delel_spec (h : IsLinear cmp) (s : List α) (e : α) (ss : StrictSorted cmp s) :
    StrictSorted cmp (delel cmp s e) ∧ ∀ x, x ∈ delel cmp s e ↔ x ∈ s ∧ x ≠ e := by
  fun_induction delel cmp s e with
  | case1 e => exact ⟨.nil, by simp⟩
  | case2 y t e hc ih =>
    have ss' := strict_cons.1 ss
    obtain ⟨ihs, ihm⟩ := ih ss'.2
    have n := ne_of_lt h.toIsPreorder hc
    exact ⟨strict_cons.2 ⟨fun z hz => ss'.1 z ((ihm z).1 hz).1, ihs⟩, by grind⟩
  | case3 y t e hc =>
    obtain rfl := h.eq_imp _ _ hc
    have n := (strict_cons.1 ss).1.not_mem h.toIsPreorder
    exact ⟨(strict_cons.1 ss).2, by grind⟩
  | case4 y t e hc =>
    have n := not_mem_of_lt h.toIsPreorder (h.lt_of_gt hc) ss
    exact ⟨ss, by grind⟩

/-! ### tests: is_ordset, memberchk, subset, intersect -/

theorem isOrdset3_iff (h : IsPreorder cmp) (l : List α) (x : α) :
    isOrdset3 cmp l x = true ↔ StrictSorted cmp (x :: l) := by
  induction l generalizing x with
  | nil => simp [isOrdset3, StrictSorted]
  | cons y t ih =>
    simp only [isOrdset3, Bool.and_eq_true, beq_iff_eq, ih, h.gt_iff]
    exact ⟨fun ⟨e, s⟩ => strict_cons.2 ⟨LB.cons h e s, s⟩,
      fun s => ⟨(strict_cons.1 s).1 y List.mem_cons_self, (strict_cons.1 s).2⟩⟩

theorem mem_iff_of_gt (h : IsLinear cmp) {item x : α} (pre xs : List α)
    (s : StrictSorted cmp (pre ++ x :: xs)) (hc : cmp item x = .gt) :
    item ∈ pre ++ x :: xs ↔ item ∈ xs := by
  have hx : cmp x item = .lt := h.lt_of_gt hc
  have hp : item ∉ pre := fun hm =>
    ne_of_lt h.toIsPreorder (h.lt_trans ((List.pairwise_append.1 s).2.2 item hm x List.mem_cons_self) hx) rfl
  have := ne_of_lt h.toIsPreorder hx
  grind

theorem ordMemberchk_iff (h : IsLinear cmp) (item : α) (s : List α) (ss : StrictSorted cmp s) :
    ordMemberchk cmp item s = true ↔ item ∈ s := by
  have eqi : ∀ y, (cmp item y == .eq) = true ↔ item = y := fun y => by
    simp only [beq_iff_eq]
    exact ⟨h.eq_imp _ _, fun e => e ▸ h.refl _⟩
  -- cases 1–5: four or more elements (`item` above `x4`; below `x4` and above / below / at `x2`; at
  -- `x4`); 6–8: three (above / below / at `x2`); 9–11: two, likewise; 12, 13: one, none
  fun_induction ordMemberchk cmp item s with
  | case1 x1 x2 x3 x4 xs hc ih =>
    exact (ih (ss.sublist (List.sublist_append_right [x1, x2, x3, x4] xs))).trans (mem_iff_of_gt h [x1, x2, x3] xs ss hc).symm
  | case2 x1 x2 x3 x4 xs hc hc2 =>
    have n4 := not_mem_of_lt h.toIsPreorder hc (strict_cons.1 (strict_cons.1 (strict_cons.1 ss).2).2).2
    have key := mem_iff_of_gt h [x1] (x3 :: x4 :: xs) ss hc2
    rw [eqi]; grind
  | case3 x1 x2 x3 x4 xs hc hc2 =>
    have n2 := not_mem_of_lt h.toIsPreorder hc2 (strict_cons.1 ss).2
    rw [eqi]; grind
  | case4 x1 x2 x3 x4 xs hc hc2 => simp [h.eq_imp _ _ hc2]
  | case5 x1 x2 x3 x4 xs hc => simp [h.eq_imp _ _ hc]
  | case6 x1 x2 x3 hc ih =>
    exact (ih (List.pairwise_singleton _ _)).trans (mem_iff_of_gt h [x1] [x3] ss hc).symm
  | case7 x1 x2 x3 hc =>
    have n2 := not_mem_of_lt h.toIsPreorder hc (strict_cons.1 ss).2
    rw [eqi]; grind
  | case8 x1 x2 x3 hc => simp [h.eq_imp _ _ hc]
  | case9 x1 x2 hc => simpa using mem_iff_of_gt h [x1] [] ss hc
  | case10 x1 x2 hc =>
    have n2 := not_mem_of_lt h.toIsPreorder hc (strict_cons.1 ss).2
    rw [eqi]; grind
  | case11 x1 x2 hc => simp [h.eq_imp _ _ hc]
  | case12 x1 => rw [eqi]; simp
  | case13 => simp

/-- `ord_subset/2` walks the recursion of `ord_subtract/3` and fails where that would emit an
    element; no property of `cmp` or of the lists is involved. -/
theorem ordSubsetAux_eq (h1 : α) (t1 l2 : List α) :
    ordSubsetAux cmp h1 t1 l2 = (diffAux cmp false l2 h1 t1).isEmpty := by
  fun_induction ordSubsetAux cmp h1 t1 l2 <;> rw [diffAux.eq_def] <;> simp [*]

theorem ordSubset_eq (a b : List α) : ordSubset cmp a b = (ordSubtract cmp a b).isEmpty := by
  cases a with
  | nil => rfl
  | cons h1 t1 => exact ordSubsetAux_eq h1 t1 b

/-- likewise `ord_intersect/2` succeeds where `ord_intersection/3` emits its first element. -/
theorem ordIntersectAux_eq (l2 : List α) (h1 : α) (t1 : List α) :
    ordIntersectAux cmp l2 h1 t1 = !(isect2 cmp l2 h1 t1).isEmpty := by
  fun_induction ordIntersectAux cmp l2 h1 t1 <;> rw [isect2.eq_def] <;> simp [*]

theorem ordIntersect_eq (a b : List α) : ordIntersect cmp a b = !(ordInt cmp a b).isEmpty := by
  cases a with
  | nil => rfl
  | cons h1 t1 => exact ordIntersectAux_eq b h1 t1
end Scryer.OrdSet
