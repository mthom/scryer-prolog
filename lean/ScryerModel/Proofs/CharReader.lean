import ScryerModel.Proofs.Utf8
import ScryerModel.Model.CharReader
/-! Lemmas for C18: the `CharReader` mechanism model refines the stream specification
(`pending s` = the unread bytes is the abstraction function). Every state with the cursor inside the
buffer is a `window`, and each operation is one equation on windows that gives the whole new state;
the `*_spec` lemmas read off them that `WF` is kept and what happens to `pending`. The last section
defines the loop as it was before the two repairs (`peekLoopOld`, `readAllOld`) for the sensitivity
examples of `Props/C18`. -/
namespace Scryer.CharReader
open Scryer.Utf8

/-- well-formed reader state: the cursor is inside the buffer and the underlying reader never
    returns an empty chunk before the end of input (`Ok(0)` means end of input). -/
def WF (s : St) : Prop := s.pos ≤ s.buf.length ∧ ∀ c ∈ s.chunks, c ≠ []

/-! ### the first item of a byte sequence -/

theorem firstItem_ok {l : List Nat} {cp n : Nat} (h : decodeFirst l = .ok cp n) :
    firstItem l = (.char cp, n) := by unfold firstItem; rw [h]

theorem firstItem_invalid {l : List Nat} {n : Nat} (h : decodeFirst l = .invalid n) :
    firstItem l = (.bad (l.take n), n) := by unfold firstItem; rw [h]

theorem firstItem_incomplete {l : List Nat} (h : decodeFirst l = .incomplete) :
    firstItem l = (.bad l, l.length) := by unfold firstItem; rw [h]

theorem firstItem_span {l : List Nat} (hl : l ≠ []) :
    1 ≤ (firstItem l).2 ∧ (firstItem l).2 ≤ l.length := by
  have hlen : 0 < l.length := List.length_pos_iff.2 hl
  cases hd : decodeFirst l with
  | ok cp n =>
    rw [firstItem_ok hd]; have := decodeFirst_ok hd; exact ⟨this.2.2.1, this.2.1⟩
  | invalid n =>
    rw [firstItem_invalid hd]; have := decodeFirst_invalid hd; exact ⟨this.1, this.2.1⟩
  | incomplete =>
    rw [firstItem_incomplete hd]; exact ⟨hlen, Nat.le_refl _⟩

/-- the bytes an item of the decoding stands for. -/
def itemBytes : Item → List Nat
  | .char cp => encode cp
  | .bad bs => bs

theorem firstItem_bytes (l : List Nat) : itemBytes (firstItem l).1 = l.take (firstItem l).2 := by
  cases hd : decodeFirst l with
  | ok cp n => rw [firstItem_ok hd]; exact (decodeFirst_ok_take hd).symm
  | invalid n => rw [firstItem_invalid hd]; rfl
  | incomplete => rw [firstItem_incomplete hd]; exact List.take_length.symm

theorem firstItem_len {l : List Nat} (hl : l ≠ []) :
    (firstItem l).2 = (itemBytes (firstItem l).1).length := by
  rw [firstItem_bytes, List.length_take, Nat.min_eq_left (firstItem_span hl).2]

/-! ### laws of the specification stream

what is left of the put-back/read theorems of `Props/C18` once the refinement has taken them from the
reader to its unread bytes. -/

theorem specPeek_nil : specPeek [] = .eof := rfl
theorem specRead_nil : specRead [] = ([], .eof) := rfl

theorem specRead_of_ne {l : List Nat} (hl : l ≠ []) :
    specRead l = (l.drop (firstItem l).2, itemToOut (firstItem l).1) := by
  cases l with
  | nil => exact absurd rfl hl
  | cons a t =>
    simp only [specRead, List.isEmpty_cons, Bool.false_eq_true, ↓reduceIte]
    generalize firstItem (a :: t) = p
    obtain ⟨it, n⟩ := p
    cases it <;> rfl

theorem itemToOut_ne_panic (it : Item) : itemToOut it ≠ .panic := by
  cases it <;> intro h <;> cases h

theorem itemToOut_ne_eof (it : Item) : itemToOut it ≠ .eof := by
  cases it <;> intro h <;> cases h

theorem specRead_ne_panic (l : List Nat) : (specRead l).2 ≠ .panic := by
  by_cases hne : l = []
  · subst hne; nofun
  · rw [specRead_of_ne hne]; exact itemToOut_ne_panic _

theorem specPeek_eq (l : List Nat) : specPeek l = (specRead l).2 := by
  unfold specPeek specRead
  split
  · rfl
  · split <;> rfl

theorem specPeek_of_ne {l : List Nat} (hl : l ≠ []) : specPeek l = itemToOut (firstItem l).1 :=
  (specPeek_eq l).trans (congrArg Prod.snd (specRead_of_ne hl))

theorem specPeek_ne_panic (l : List Nat) : specPeek l ≠ .panic :=
  specPeek_eq l ▸ specRead_ne_panic l

theorem specRead_putBack {cp : Nat} (l : List Nat) (hs : isScalar cp = true) :
    specRead (specPutBack l cp) = (l, .char cp) := by
  rw [specPutBack, specRead_of_ne (List.append_ne_nil_of_left_ne_nil (encode_ne_nil cp) l), firstItem_ok (decodeFirst_encode hs l), drop_encode_append]
  rfl

theorem specPutBack_read {l l' : List Nat} {cp : Nat} (h : specRead l = (l', .char cp)) :
    specPutBack l' cp = l := by
  by_cases hne : l = []
  · subst hne; cases h
  · rw [specRead_of_ne hne] at h
    obtain ⟨rfl, h2⟩ := Prod.mk.inj h
    have hb := firstItem_bytes l
    cases hit : (firstItem l).1 with
    | bad bs => rw [hit] at h2; cases h2
    | char c =>
      rw [hit] at h2 hb; cases h2
      exact (congrArg (· ++ _) hb).trans (List.take_append_drop _ _)

/-! ### reader states as windows, one equation per operation -/

/-- the reader whose buffer holds the consumed bytes `pre` before the unread bytes `u`: the shape of
    every state with the cursor inside the buffer. -/
def window (pre u : List Nat) (ch : List (List Nat)) : St := ⟨pre ++ u, pre.length, ch⟩

variable {pre u c : List Nat} {ch cs : List (List Nat)} {s : St} {n cp : Nat}

theorem eq_window (h : s.pos ≤ s.buf.length) :
    s = window (s.buf.take s.pos) (s.buf.drop s.pos) s.chunks := by
  unfold window
  rw [List.take_append_drop, List.length_take, Nat.min_eq_left h]

theorem window_wf (h : ∀ c ∈ ch, c ≠ []) : WF (window pre u ch) :=
  ⟨(List.length_append ▸ Nat.le_add_right _ _ : pre.length ≤ (pre ++ u).length), h⟩

theorem pending_window : pending (window pre u ch) = u ++ ch.flatten :=
  congrArg (· ++ _) (List.drop_left ..)

theorem drop_window : (window pre u ch).buf.drop (window pre u ch).pos = u := List.drop_left ..

theorem pos_lt_window : (window pre u ch).pos < (window pre u ch).buf.length ↔ u ≠ [] := by
  show pre.length < (pre ++ u).length ↔ _
  rw [List.length_append, ← List.length_pos_iff]; omega

theorem readChunk_window : readChunk (window pre u (c :: cs)) = (window pre (u ++ c) cs, c.length) :=
  congrArg (fun b => (St.mk b pre.length cs, c.length)) (List.append_assoc ..)

theorem take4_ite {l : List Nat} : (if l.length > 4 then l.take 4 else l) = l.take 4 := by
  split
  · rfl
  · rw [List.take_of_length_le (Nat.le_of_not_lt ‹_›)]

/-- compaction (`drain(4..pos)`): at most four consumed bytes are kept, for `put_back_char`. -/
theorem compact_window : compact (window pre u ch) = window (pre.take 4) u ch := by
  unfold compact window
  split
  · rename_i h
    dsimp only
    rw [List.take_append_of_le_length (Nat.le_of_lt h), List.drop_left, List.length_take,
      Nat.min_eq_left (Nat.le_of_lt h)]
  · rw [List.take_of_length_le (Nat.le_of_not_lt ‹_›)]

theorem consume_window (hn : n ≤ u.length) :
    consume (window pre u ch) n = window (pre ++ u.take n) (u.drop n) ch := by
  unfold consume window
  rw [List.append_assoc, List.take_append_drop, List.length_append, List.length_take,
    Nat.min_eq_left hn]

theorem writeAt_spec {l : List Nat} {i : Nat} (xs : List Nat) (hi : i ≤ l.length) :
    i ≤ (writeAt l i xs).length ∧ (writeAt l i xs).drop i = xs ++ l.drop (i + xs.length) := by
  have ht : (l.take i).length = i := by rw [List.length_take]; omega
  unfold writeAt
  exact ⟨by rw [List.length_append, List.length_append, ht]; omega,
    by rw [List.append_assoc, List.drop_left' ht]⟩


/-- `put_back_char`, both branches (room before the cursor / buffer grown at the front): the
    encoding replaces the last `len_utf8` consumed bytes, as far as there are any. -/
theorem putBack_window :
    putBack (window pre u ch) cp = window (pre.take (pre.length - lenUtf8 cp)) (encode cp ++ u) ch := by
  unfold putBack window writeAt
  dsimp only
  split
  · rename_i h
    dsimp only
    rw [encode_length, Nat.sub_add_cancel h, List.drop_left,
      List.take_append_of_le_length (Nat.sub_le _ _), List.length_take,
      Nat.min_eq_left (Nat.sub_le _ _), List.append_assoc]
  · rename_i h
    have h := Nat.le_of_not_le h
    dsimp only
    rw [encode_length, Nat.zero_add, Nat.sub_eq_zero_of_le h, List.take_zero, List.take_zero,
      ← List.append_assoc, List.drop_left' (by rw [List.length_append, List.length_replicate,
        Nat.sub_add_cancel h])]
    rfl

/-! ### `peek_char` and `read_char` against the specification -/

theorem badBytes_invalid {rem : List Nat} {n : Nat} (h : decodeFirst rem = .invalid n) :
    badBytes rem = .bad (rem.take n) := by unfold badBytes; rw [h]

theorem badBytes_incomplete {rem : List Nat} (h : decodeFirst rem = .incomplete) :
    badBytes rem = .bad rem := by unfold badBytes; rw [h]

theorem firstItem_append {p : List Nat} (q : List Nat) (h : decodeFirst p ≠ .incomplete) :
    firstItem (p ++ q) = firstItem p := by
  have ha := decodeFirst_append q h
  cases hd : decodeFirst p with
  | ok cp n => rw [firstItem_ok hd, firstItem_ok (ha.trans hd)]
  | invalid n =>
    rw [firstItem_invalid hd, firstItem_invalid (ha.trans hd),
      List.take_append_of_le_length (decodeFirst_invalid hd).2.1]
  | incomplete => exact absurd hd h

/-- where `peek_char` answers from the buffered bytes `u`: the decoder has decided on them, or
    nothing follows. -/
theorem specPeek_decided {u v : List Nat} (hu : u ≠ [])
    (h : decodeFirst u ≠ .incomplete ∨ v = []) :
    specPeek (u ++ v) = itemToOut (firstItem u).1 ∧ (firstItem (u ++ v)).2 ≤ u.length := by
  have hfi : firstItem (u ++ v) = firstItem u := by
    rcases h with h | rfl
    · exact firstItem_append _ h
    · rw [List.append_nil]
  rw [specPeek_of_ne (List.append_ne_nil_of_left_ne_nil hu v), hfi]
  exact ⟨rfl, (firstItem_span hu).2⟩

/-- the loop of `peek_char`; the fuel bound: one iteration per remaining chunk, plus one. It ends in
    a window with the same unread bytes that holds the whole first item in its buffer.
    `u ≠ [] ∨ ch = []` is what `refresh_buffer` leaves (`refreshBuffer_window`) and every iteration
    keeps: on an empty buffer the loop answers `eof` without asking for a chunk. -/
theorem peekLoop_window : ∀ (fuel : Nat) (pre u : List Nat) (ch : List (List Nat)),
    (∀ c ∈ ch, c ≠ []) → ch.length + 1 ≤ fuel → (u ≠ [] ∨ ch = []) →
    ∃ pre' u' ch', peekLoop fuel (window pre u ch) = (window pre' u' ch', specPeek (u ++ ch.flatten)) ∧
      u' ++ ch'.flatten = u ++ ch.flatten ∧ (∀ c ∈ ch', c ≠ []) ∧
      (u ++ ch.flatten ≠ [] → (firstItem (u ++ ch.flatten)).2 ≤ u'.length)
  | 0, _, _, _, _, hf, _ => by omega
  | fuel + 1, pre, u, ch, hch, hf, hd => by
    by_cases hu : u = []
    · subst hu
      obtain rfl := hd.resolve_left (fun h => h rfl)
      exact ⟨pre, [], [], by rw [peekLoop, if_neg (mt pos_lt_window.1 (fun h => h rfl))]; rfl, rfl, hch,
        fun h => absurd rfl h⟩
    · rw [peekLoop, if_pos (pos_lt_window.2 hu)]
      simp only [drop_window, compact_window, decodeFirst_take4]
      have dec := fun h => specPeek_decided (v := ch.flatten) hu (.inl h)
      cases h1 : decodeFirst u with
      | ok cp n =>
        have ⟨ho, hsp⟩ := dec (by rw [h1]; nofun)
        exact ⟨pre, u, ch, by rw [ho, firstItem_ok h1]; rfl, rfl, hch, fun _ => hsp⟩
      | invalid n =>
        have ⟨ho, hsp⟩ := dec (by rw [h1]; nofun)
        exact ⟨pre, u, ch, by rw [ho, firstItem_invalid h1, badBytes_invalid h1]; rfl, rfl, hch,
          fun _ => hsp⟩
      | incomplete =>
        cases ch with
        | nil =>
          -- end of input inside a character: all remaining bytes are the bad sequence
          have ⟨ho, hsp⟩ := specPeek_decided (v := ([] : List (List Nat)).flatten) hu (.inr rfl)
          refine ⟨pre.take 4, u, [], ?_, rfl, hch, fun _ => hsp⟩
          rw [ho, firstItem_incomplete h1]
          show (_, badBytes ((window (pre.take 4) u []).buf.drop _)) = _
          rw [drop_window, badBytes_incomplete h1]; rfl
        | cons c cs =>
          rw [readChunk_window]
          obtain ⟨x, xs, rfl⟩ := List.exists_cons_of_ne_nil (hch c List.mem_cons_self)
          obtain ⟨pre', u', ch', he, hp, hc', hsp⟩ := peekLoop_window fuel (pre.take 4) (u ++ x :: xs) cs
            (fun d hd => hch d (List.mem_cons_of_mem _ hd)) (by rw [List.length_cons] at hf; omega)
            (.inl (List.append_ne_nil_of_left_ne_nil hu _))
          rw [List.flatten_cons, ← List.append_assoc]
          exact ⟨pre', u', ch', he, hp, hc', hsp⟩

/-- `refresh_buffer`: a buffer that is used up is cut to four bytes and refilled. -/
theorem refreshBuffer_window (hch : ∀ c ∈ ch, c ≠ []) :
    ∃ pre' u' ch', refreshBuffer (window pre u ch) = window pre' u' ch' ∧
      u' ++ ch'.flatten = u ++ ch.flatten ∧ (∀ c ∈ ch', c ≠ []) ∧ (u' ≠ [] ∨ ch' = []) := by
  by_cases hu : u = []
  · subst hu
    have e : refreshBuffer (window pre [] ch) = (readChunk (window (pre.take 4) [] ch)).1 := by
      simp only [window, List.append_nil]
      rw [refreshBuffer, if_pos (Nat.le_refl _)]
      dsimp only
      rw [take4_ite]
    cases ch with
    | nil => exact ⟨_, [], [], e, rfl, hch, .inr rfl⟩
    | cons c cs =>
      rw [readChunk_window] at e
      exact ⟨_, _, cs, e, by rw [List.flatten_cons, List.append_assoc],
        fun d hd => hch d (List.mem_cons_of_mem _ hd), .inl (hch c List.mem_cons_self)⟩
  · exact ⟨pre, u, ch, by rw [refreshBuffer, if_neg (Nat.not_le_of_lt (pos_lt_window.2 hu))], rfl, hch,
      .inl hu⟩

theorem peekChar_window {s : St} (h : WF s) :
    ∃ pre u ch, peekChar s = (window pre u ch, specPeek (pending s)) ∧ u ++ ch.flatten = pending s ∧
      (∀ c ∈ ch, c ≠ []) ∧ (pending s ≠ [] → (firstItem (pending s)).2 ≤ u.length) := by
  rw [eq_window h.1, pending_window]
  obtain ⟨pre1, u1, ch1, e1, hp1, hc1, hd1⟩ :=
    refreshBuffer_window (pre := s.buf.take s.pos) (u := s.buf.drop s.pos) h.2
  obtain ⟨pre2, u2, ch2, e2, hp2⟩ := peekLoop_window _ pre1 u1 ch1 hc1 (Nat.le_refl _) hd1
  rw [hp1] at e2 hp2
  exact ⟨pre2, u2, ch2, by rw [peekChar, e1]; exact e2, hp2⟩

theorem peekChar_spec {s : St} (h : WF s) :
    WF (peekChar s).1 ∧ pending (peekChar s).1 = pending s ∧
      (peekChar s).2 = specPeek (pending s) := by
  obtain ⟨pre, u, ch, e, hp, hc, -⟩ := peekChar_window h
  rw [e, pending_window]
  exact ⟨window_wf hc, hp, rfl⟩

theorem readItem_item {s s1 : St} {it : Item} (h : peekChar s = (s1, itemToOut it)) :
    readItem s = (consume s1 (itemBytes it).length, itemToOut it) := by
  cases it
  · simp only [readItem, readChar, h, itemToOut, itemBytes, encode_length]
  · simp only [readItem, readChar, h, itemToOut, itemBytes]

theorem readItem_eof {s s1 : St} (h : peekChar s = (s1, .eof)) : readItem s = (s1, .eof) := by
  simp only [readItem, readChar, h]

theorem readItem_spec {s : St} (h : WF s) :
    WF (readItem s).1 ∧ (pending (readItem s).1, (readItem s).2) = specRead (pending s) := by
  obtain ⟨pre, u, ch, e, hp, hc, hsp⟩ := peekChar_window h
  generalize pending s = l at hp hsp e ⊢
  subst hp
  by_cases hne : u ++ ch.flatten = []
  · rw [hne] at e ⊢
    rw [readItem_eof e, pending_window, hne]
    exact ⟨window_wf hc, rfl⟩
  · rw [specPeek_of_ne hne] at e
    have hn := hsp hne
    rw [firstItem_len hne] at hn
    rw [specRead_of_ne hne, readItem_item e, consume_window hn, pending_window, firstItem_len hne,
      List.drop_append_of_le_length hn]
    exact ⟨window_wf hc, rfl⟩

/-! ### reading to the end of input -/

theorem readAllF_eof (fuel : Nat) {s : St} (h : (readItem s).2 = .eof) :
    readAllF (fuel + 1) s = [] := by
  rcases hri : readItem s with ⟨s1, o⟩
  rw [hri] at h; dsimp only at h; subst h
  simp only [readAllF, hri]

theorem readAllF_item (fuel : Nat) {s : St} {it : Item} (h : (readItem s).2 = itemToOut it) :
    readAllF (fuel + 1) s = itemToOut it :: readAllF fuel (readItem s).1 := by
  rcases hri : readItem s with ⟨s1, o⟩
  rw [hri] at h; dsimp only at h; subst h
  cases it <;> simp only [readAllF, hri, itemToOut]

theorem decodeAllF_nil (k : Nat) : decodeAllF k [] = [] := by cases k <;> rfl

theorem decodeAllF_cons (k : Nat) {l : List Nat} (h : l ≠ []) :
    decodeAllF (k + 1) l = (firstItem l).1 :: decodeAllF k (l.drop (firstItem l).2) := by
  cases l with
  | nil => exact absurd rfl h
  | cons a t => rfl

/-- `fuel` is the reader's (`readAllF`; `readAll` passes one more than the bytes, for the round that meets the
    end of input), `k` the decoder's (`decodeAllF`); each need only cover the unread bytes, an item taking at
    least one. -/
theorem readAllF_spec : ∀ (fuel k : Nat) (s : St), WF s → (pending s).length < fuel →
    (pending s).length ≤ k → readAllF fuel s = (decodeAllF k (pending s)).map itemToOut
  | 0, _, _, _, h, _ => by omega
  | fuel + 1, k, s, hwf, hf, hk => by
    obtain ⟨hw', hr⟩ := readItem_spec hwf
    by_cases hne : pending s = []
    · rw [hne, specRead_nil] at hr
      rw [hne, decodeAllF_nil, readAllF_eof fuel (Prod.mk.inj hr).2]; rfl
    · rw [specRead_of_ne hne] at hr
      obtain ⟨hr1, hr2⟩ := Prod.mk.inj hr
      have hspan := firstItem_span hne
      have hpos : 0 < (pending s).length := List.length_pos_iff.2 hne
      cases k with
      | zero => omega
      | succ k =>
        rw [decodeAllF_cons k hne, List.map_cons, readAllF_item fuel hr2, ← hr1]
        congr 1
        have hl : (pending (readItem s).1).length = (pending s).length - (firstItem (pending s)).2 := by
          rw [hr1, List.length_drop]
        exact readAllF_spec fuel k _ hw' (by omega) (by omega)

theorem decodeAllF_bytes : ∀ (k : Nat) (l : List Nat), l.length ≤ k →
    (decodeAllF k l).flatMap itemBytes = l
  | 0, l, h => by
    have : l = [] := List.eq_nil_of_length_eq_zero (by omega)
    subst this; rfl
  | k + 1, l, h => by
    by_cases hne : l = []
    · subst hne; rfl
    · have hspan := firstItem_span hne
      rw [decodeAllF_cons k hne, List.flatMap_cons, firstItem_bytes,
        decodeAllF_bytes k _ (by rw [List.length_drop]; omega)]
      exact List.take_append_drop _ _

/-! ### sensitivity: the loop as it was before the two `fix:` commits

`peek_char` originally guarded the compaction with `self.buf.len() > 4` (not `self.pos > 4`),
so `self.buf.drain(4..self.pos)` was reached with `pos < 4` (a slice-index panic), and at end
of input it called `bad_bytes_error(&self.buf)` on the whole buffer with
`error_len().expect(..)`. These definitions differ from `compact`/`badBytes`/`peekLoop` only
there; `Props/C18` shows by evaluation that the theorems fail for them. -/

/-- original compaction: `none` = the `drain(4..pos)` panic. -/
def compactOld (s : St) : Option St :=
  if s.buf.length > 4 then
    if s.pos < 4 then none
    else some { s with buf := s.buf.take 4 ++ s.buf.drop s.pos, pos := 4 }
  else some s

/-- original `bad_bytes_error`: `error_len().expect("we should have at least 4 bytes")`. -/
def badBytesOld (rem : List Nat) : Out :=
  match decodeFirst rem with
  | .ok _ _ => .panic
  | .invalid n => .bad (rem.take n)
  | .incomplete => .panic

def peekLoopOld : Nat → St → St × Out
  | 0, s => (s, .panic)
  | fuel+1, s =>
    if s.pos < s.buf.length then
      let rem := s.buf.drop s.pos
      let pre := rem.take 4
      match decodeFirst pre with
      | .ok cp _ => (s, .char cp)
      | .invalid _ => (s, badBytesOld rem)
      | .incomplete =>
        match compactOld s with
        | none => (s, .panic)
        | some s =>
          match readChunk s with
          | (s, 0) => (s, badBytesOld s.buf)          -- the whole buffer, not `buf[pos..]`
          | (s, _) => peekLoopOld fuel s
    else (s, .eof)

def readItemOld (s : St) : St × Out :=
  let s := refreshBuffer s
  match peekLoopOld (s.chunks.length + 1) s with
  | (s, .char cp) => (consume s (lenUtf8 cp), .char cp)
  | (s, .bad bs) => (consume s bs.length, .bad bs)
  | r => r

def readAllOldF : Nat → St → List Out
  | 0, _ => []
  | fuel+1, s =>
    match readItemOld s with
    | (_, .eof) => []
    | (_, .panic) => [.panic]
    | (s, o) => o :: readAllOldF fuel s

def readAllOld (chunks : List (List Nat)) : List Out :=
  readAllOldF (chunks.flatten.length + 1) (init chunks)

end Scryer.CharReader
