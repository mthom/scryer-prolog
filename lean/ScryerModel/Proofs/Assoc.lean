import ScryerModel.Model.Assoc
import ScryerModel.Proofs.Sort
/-
C14 — the transcribed AVL insertion/lookup of library(assoc) (Model/Assoc.lean):
* rotations (`avl_geq`) and re-tagging keep the in-order sequence;
* `insert` never fails on a balanced tree, keeps it balanced, and reports a height change
  exactly when the height grew by one;
* the in-order list after `put_assoc` is the sorted-association-list insertion of the old one,
  hence stays strictly ascending by key, and `get_assoc` is the lookup in that list:
  `get (put k v t) k' = if k' == k then v else get t k'`.
-/
namespace Scryer.Assoc
open Scryer.Sort Tree

variable {κ ν : Type}

/-! ### height and the balance invariant, as Props/C14 states it -/

def height : Tree κ ν → Nat
  | t => 0
  | node _ _ _ l r => max (height l) (height r) + 1

def rootBal : Tree κ ν → Bal
  | t => .eq
  | node _ _ b _ _ => b

/-- the tag `b` is right for subtree heights `hl`, `hr`. -/
def TagOk (b : Bal) (hl hr : Nat) : Prop :=
  match b with
  | .lt => hl = hr + 1
  | .eq => hl = hr
  | .gt => hr = hl + 1

/-- AVL balance: every tag tells the truth (so sibling heights differ by at most one). -/
def Balanced : Tree κ ν → Prop
  | t => True
  | node _ _ b l r => Balanced l ∧ Balanced r ∧ TagOk b (height l) (height r)

/-! ### rotations keep the in-order sequence -/

theorem avlGeq_toList {tr tr' : Tree κ ν} {c : Bool} (e : avlGeq tr = some (tr', c)) :
    toList tr' = toList tr := by
  unfold avlGeq at e
  -- the six rotations alike (`simp at e` refutes the catch-all clause): `e` gives the new tree,
  -- and its in-order list is the old one re-bracketed
  split at e <;> simp at e <;> obtain ⟨rfl, _⟩ := e <;> simp [toList]

theorem rebalance_toList {toBe : Bool} {tr tr' : Tree κ ν} {b1 : Bal} {ch c : Bool}
    (e : rebalance toBe tr b1 ch = some (tr', c)) : toList tr' = toList tr := by
  unfold rebalance at e
  split at e
  · exact avlGeq_toList e
  · split at e <;> simp at e
    obtain ⟨rfl, _⟩ := e
    simp [toList]

theorem adjust_toList {ch : Bool} {tr tr' : Tree κ ν} {s : Side} {c : Bool}
    (e : adjust ch tr s = some (tr', c)) : toList tr' = toList tr := by
  cases ch with
  | false =>
    simp [adjust] at e
    obtain ⟨rfl, _⟩ := e
    rfl
  | true =>
    cases tr with
    | t => simp [adjust] at e
    | node k v b0 l r =>
      simp only [adjust, if_true] at e
      cases hr : rebalance (table b0 s).2.2 (node k v b0 l r) (table b0 s).1 (table b0 s).2.1 with
      | none => simp [hr] at e
      | some p =>
        simp [hr] at e
        obtain ⟨rfl, _⟩ := e
        exact rebalance_toList (tr' := p.1) (c := p.2) hr

/-! ### balance by construction

`Avl tr n`: `tr` is balanced and has height `n`, as an inductive family, so that rotations
rebuild trees constructor by constructor and no height arithmetic is left. -/

inductive Avl : Tree κ ν → Nat → Prop
  | leaf : Avl t 0
  | lt {k v l r n} : Avl l (n + 1) → Avl r n → Avl (node k v .lt l r) (n + 2)
  | eq {k v l r n} : Avl l n → Avl r n → Avl (node k v .eq l r) (n + 1)
  | gt {k v l r n} : Avl l n → Avl r (n + 1) → Avl (node k v .gt l r) (n + 2)

theorem Avl.balanced {tr : Tree κ ν} {n : Nat} (h : Avl tr n) : Balanced tr ∧ height tr = n := by
  induction h with
  | leaf => exact ⟨trivial, rfl⟩
  | lt _ _ ihl ihr =>
    refine ⟨⟨ihl.1, ihr.1, ?_⟩, ?_⟩
    · rw [ihl.2, ihr.2]; rfl
    · rw [height, ihl.2, ihr.2, Nat.max_eq_left (Nat.le_succ _)]
  | eq _ _ ihl ihr =>
    refine ⟨⟨ihl.1, ihr.1, ?_⟩, ?_⟩
    · rw [ihl.2, ihr.2]; rfl
    · rw [height, ihl.2, ihr.2, Nat.max_self]
  | gt _ _ ihl ihr =>
    refine ⟨⟨ihl.1, ihr.1, ?_⟩, ?_⟩
    · rw [ihl.2, ihr.2]; rfl
    · rw [height, ihl.2, ihr.2, Nat.max_eq_right (Nat.le_succ _)]

theorem avl_of_balanced : ∀ (tr : Tree κ ν), Balanced tr → Avl tr (height tr)
  | t, _ => .leaf
  | node _ _ .lt l r, ⟨bl, br, (tag : height l = height r + 1)⟩ => by
    have hl := avl_of_balanced l bl
    rw [height, tag, Nat.max_eq_left (Nat.le_succ _)]
    rw [tag] at hl
    exact .lt hl (avl_of_balanced r br)
  | node _ _ .eq l r, ⟨bl, br, (tag : height l = height r)⟩ => by
    have hl := avl_of_balanced l bl
    rw [height, tag, Nat.max_self]
    rw [tag] at hl
    exact .eq hl (avl_of_balanced r br)
  | node _ _ .gt l r, ⟨bl, br, (tag : height r = height l + 1)⟩ => by
    have hr := avl_of_balanced r br
    rw [height, tag, Nat.max_eq_right (Nat.le_succ _)]
    rw [tag] at hr
    exact .gt (avl_of_balanced l bl) hr

/-! ### rebalancing a tree whose left (right) subtree is two higher -/

theorem avlGeq_left (k : κ) (v : ν) {l r : Tree κ ν} {n : Nat} (hl : Avl l (n + 2)) (hr : Avl r n) :
    ∃ tr' c, avlGeq (node k v .lt l r) = some (tr', c) ∧ c = (rootBal l != .eq) ∧
      Avl tr' (if rootBal l = .eq then n + 3 else n + 2) := by
  cases hl with
  | lt ha hb => exact ⟨_, _, rfl, rfl, .eq ha (.eq hb hr)⟩
  | eq ha hb => exact ⟨_, _, rfl, rfl, .gt ha (.lt hb hr)⟩
  | gt ha hb =>
    cases hb with
    | lt hb hc => exact ⟨_, _, rfl, rfl, .eq (.eq ha hb) (.gt hc hr)⟩
    | eq hb hc => exact ⟨_, _, rfl, rfl, .eq (.eq ha hb) (.eq hc hr)⟩
    | gt hb hc => exact ⟨_, _, rfl, rfl, .eq (.lt ha hb) (.eq hc hr)⟩

theorem avlGeq_right (k : κ) (v : ν) {l r : Tree κ ν} {n : Nat} (hl : Avl l n) (hr : Avl r (n + 2)) :
    ∃ tr' c, avlGeq (node k v .gt l r) = some (tr', c) ∧ c = (rootBal r != .eq) ∧
      Avl tr' (if rootBal r = .eq then n + 3 else n + 2) := by
  cases hr with
  | gt ha hb => exact ⟨_, _, rfl, rfl, .eq (.eq hl ha) hb⟩
  | eq ha hb => exact ⟨_, _, rfl, rfl, .lt (.gt hl ha) hb⟩
  | lt ha hb =>
    cases ha with
    | lt ha hc => exact ⟨_, _, rfl, rfl, .eq (.eq hl ha) (.gt hc hb)⟩
    | eq ha hc => exact ⟨_, _, rfl, rfl, .eq (.eq hl ha) (.eq hc hb)⟩
    | gt ha hc => exact ⟨_, _, rfl, rfl, .eq (.lt hl ha) (.eq hc hb)⟩

/-! ### insert keeps the tree balanced -/

/-- what `insert` promises about its result `(tr', ch)` for an old tree of height `n`: the
    height grows by one exactly when `ch`, and then the new root is not tagged `-` unless the
    old tree was empty. -/
def InsOk (n : Nat) (tr' : Tree κ ν) (ch : Bool) : Prop :=
  Avl tr' (n + if ch then 1 else 0) ∧ (ch = true → rootBal tr' ≠ .eq ∨ n = 0)

/-- By induction on the derivation, not on the tree: every case then knows its tag, both subtree
    heights, and has the induction hypotheses at those heights. -/
theorem insert_avl (cmp : κ → κ → Ordering) (k : κ) (v : ν) {tr : Tree κ ν} {n : Nat} (h : Avl tr n) :
    ∃ tr' ch, insert cmp tr k v = some (tr', ch) ∧ InsOk n tr' ch := by
  induction h with
  | leaf => exact ⟨_, _, rfl, .eq .leaf .leaf, fun _ => .inr rfl⟩
  -- tag `<`: a grown left subtree is two higher than the right one and is rotated, a grown right one evens out
  | @lt key val l r n hl hr ihl ihr =>
    simp only [insert]
    cases cmp k key with
    | eq => exact ⟨_, _, rfl, .lt hl hr, nofun⟩
    | lt =>
      obtain ⟨nl, ch, e, hnl, hroot⟩ := ihl
      simp only [e]
      cases ch with
      | false => exact ⟨_, _, rfl, .lt hnl hr, nofun⟩
      | true =>
        -- the left subtree was not empty, so its new root is tagged `<` or `>`: the rotation
        -- gives back the old height and `adjust` reports no change (from `table`; the flag `c` of
        -- `avl_geq` it ignores)
        obtain ⟨tr', c, e, -, htr⟩ := avlGeq_left key val hnl hr
        rw [if_neg ((hroot rfl).resolve_right (Nat.succ_ne_zero _))] at htr
        exact ⟨tr', false, by simp [adjust, table, rebalance, e], htr, nofun⟩
    | gt =>
      obtain ⟨nr, ch, e, hnr, -⟩ := ihr
      simp only [e]
      cases ch with
      | false => exact ⟨_, _, rfl, .lt hl hnr, nofun⟩
      | true => exact ⟨_, _, rfl, .eq hl hnr, nofun⟩
  -- tag `-`: the side that grew becomes the deeper one and the whole tree grows (new tag `<` or `>`, not `-`)
  | @eq key val l r n hl hr ihl ihr =>
    simp only [insert]
    cases cmp k key with
    | eq => exact ⟨_, _, rfl, .eq hl hr, nofun⟩
    | lt =>
      obtain ⟨nl, ch, e, hnl, -⟩ := ihl
      simp only [e]
      cases ch with
      | false => exact ⟨_, _, rfl, .eq hnl hr, nofun⟩
      | true => exact ⟨_, _, rfl, .lt hnl hr, fun _ => .inl nofun⟩
    | gt =>
      obtain ⟨nr, ch, e, hnr, -⟩ := ihr
      simp only [e]
      cases ch with
      | false => exact ⟨_, _, rfl, .eq hl hnr, nofun⟩
      | true => exact ⟨_, _, rfl, .gt hl hnr, fun _ => .inl nofun⟩
  -- tag `>`: the mirror image of `<`
  | @gt key val l r n hl hr ihl ihr =>
    simp only [insert]
    cases cmp k key with
    | eq => exact ⟨_, _, rfl, .gt hl hr, nofun⟩
    | lt =>
      obtain ⟨nl, ch, e, hnl, -⟩ := ihl
      simp only [e]
      cases ch with
      | false => exact ⟨_, _, rfl, .gt hnl hr, nofun⟩
      | true => exact ⟨_, _, rfl, .eq hnl hr, nofun⟩
    | gt =>
      obtain ⟨nr, ch, e, hnr, hroot⟩ := ihr
      simp only [e]
      cases ch with
      | false => exact ⟨_, _, rfl, .gt hl hnr, nofun⟩
      | true =>
        obtain ⟨tr', c, e, -, htr⟩ := avlGeq_right key val hl hnr
        rw [if_neg ((hroot rfl).resolve_right (Nat.succ_ne_zero _))] at htr
        exact ⟨tr', false, by simp [adjust, table, rebalance, e], htr, nofun⟩

/-! ### the in-order list: sorted association lists -/

/-- insertion into an association list sorted by key (an equal key keeps the OLD key term and
    takes the new value, as `insert(=, …)` does). -/
def insPairs (cmp : κ → κ → Ordering) (k : κ) (v : ν) : List (κ × ν) → List (κ × ν)
  | [] => [(k, v)]
  | (a, va) :: rest =>
    match cmp k a with
    | .lt => (k, v) :: (a, va) :: rest
    | .eq => (a, v) :: rest
    | .gt => (a, va) :: insPairs cmp k v rest

/-- first pair whose key is `==` to `key`. -/
def lookup (cmp : κ → κ → Ordering) (key : κ) : List (κ × ν) → Option ν
  | [] => none
  | (a, va) :: rest => if cmp key a = .eq then some va else lookup cmp key rest

/-- keys strictly ascending. -/
def KeysSorted (cmp : κ → κ → Ordering) (l : List (κ × ν)) : Prop :=
  l.Pairwise fun p q => cmp p.1 q.1 = .lt

/-- the search-tree invariant: in-order keys strictly ascending. -/
def Ordered (cmp : κ → κ → Ordering) (tr : Tree κ ν) : Prop := KeysSorted cmp (toList tr)

variable {cmp : κ → κ → Ordering}

/-- insertion into `a ++ (key, val) :: c` with `a` below `key` goes where `insert` goes at a node
    with that key: into `a`, onto the pair itself, or into `c`. -/
theorem insPairs_append (h : IsPreorder cmp) (k : κ) (v : ν) (key : κ) (val : ν)
    (a c : List (κ × ν)) (ha : ∀ p ∈ a, cmp p.1 key = .lt) :
    insPairs cmp k v (a ++ (key, val) :: c) = match cmp k key with
      | .lt => insPairs cmp k v a ++ (key, val) :: c
      | .eq => a ++ (key, v) :: c
      | .gt => a ++ (key, val) :: insPairs cmp k v c := by
  induction a with
  | nil => simp only [List.nil_append, insPairs]; cases cmp k key <;> rfl
  | cons p a ih =>
    obtain ⟨x, vx⟩ := p
    have hx := ha (x, vx) List.mem_cons_self
    have ih := ih fun p hp => ha p (List.mem_cons_of_mem _ hp)
    simp only [List.cons_append, insPairs]
    cases hc : cmp k key with
    | lt => simp only [hc] at ih; simp only [ih]; cases cmp k x <;> rfl
    | eq =>
      have : cmp k x = .gt := by rw [h.gt_iff, h.congr_right hc]; exact hx
      simp only [hc] at ih; simp only [this, ih]
    | gt =>
      have : cmp k x = .gt := by rw [h.gt_iff]; exact h.lt_trans hx (h.lt_of_gt hc)
      simp only [hc] at ih; simp only [this, ih]

theorem keysSorted_append {a c : List (κ × ν)} {key : κ} {val : ν}
    (s : KeysSorted cmp (a ++ (key, val) :: c)) :
    KeysSorted cmp a ∧ KeysSorted cmp c ∧ (∀ p ∈ a, cmp p.1 key = .lt) ∧
      (∀ q ∈ c, cmp key q.1 = .lt) := by
  have := List.pairwise_append.1 s
  have h2 := List.pairwise_cons.1 this.2.1
  exact ⟨this.1, h2.2, fun p hp => this.2.2 p hp (key, val) List.mem_cons_self, h2.1⟩

theorem insert_toList (h : IsPreorder cmp) (k : κ) (v : ν) (tr : Tree κ ν)
    (ord : Ordered cmp tr) {tr' : Tree κ ν} {ch : Bool} (e : insert cmp tr k v = some (tr', ch)) :
    toList tr' = insPairs cmp k v (toList tr) := by
  induction tr generalizing tr' ch with
  | t =>
    simp [insert] at e
    obtain ⟨rfl, _⟩ := e
    simp [toList, insPairs]
  | node key val b l r ihl ihr =>
    obtain ⟨sl, sr, hl, hr⟩ := keysSorted_append (cmp := cmp) ord
    show toList tr' = insPairs cmp k v (toList l ++ (key, val) :: toList r)
    rw [insPairs_append h k v key val _ _ hl]
    simp only [insert] at e
    cases hc : cmp k key with
    | eq =>
      simp only [hc, Option.some.injEq, Prod.mk.injEq] at e
      obtain ⟨rfl, _⟩ := e
      rfl
    | lt =>
      simp only [hc] at e
      cases e1 : insert cmp l k v with
      | none => simp [e1] at e
      | some res =>
        obtain ⟨nl, c1⟩ := res
        simp only [e1] at e
        rw [adjust_toList e, ← ihl sl e1]
        rfl
    | gt =>
      simp only [hc] at e
      cases e1 : insert cmp r k v with
      | none => simp [e1] at e
      | some res =>
        obtain ⟨nr, c1⟩ := res
        simp only [e1] at e
        rw [adjust_toList e, ← ihr sr e1]
        rfl

theorem insPairs_forall {P : κ → Prop} {k : κ} (v : ν) {l : List (κ × ν)} (hk : P k)
    (hl : ∀ q ∈ l, P q.1) : ∀ p ∈ insPairs cmp k v l, P p.1 := by
  induction l with
  | nil => simpa [insPairs] using hk
  | cons q rest ih =>
    obtain ⟨a, va⟩ := q
    have hl' := List.forall_mem_cons.1 hl
    simp only [insPairs]
    split
    · exact List.forall_mem_cons.2 ⟨hk, hl⟩
    · exact List.forall_mem_cons.2 hl'
    · exact List.forall_mem_cons.2 ⟨hl'.1, ih hl'.2⟩

theorem insPairs_sorted (h : IsPreorder cmp) (k : κ) (v : ν) (l : List (κ × ν))
    (s : KeysSorted cmp l) : KeysSorted cmp (insPairs cmp k v l) := by
  induction l with
  | nil => exact List.pairwise_singleton _ _
  | cons q rest ih =>
    obtain ⟨a, va⟩ := q
    have s' := List.pairwise_cons.1 s
    simp only [insPairs]
    cases hc : cmp k a with
    | lt =>
      refine List.pairwise_cons.2 ⟨?_, s⟩
      intro p hp
      rcases List.mem_cons.1 hp with rfl | hp
      · exact hc
      · exact h.lt_trans hc (s'.1 p hp)
    | eq => exact List.pairwise_cons.2 ⟨s'.1, s'.2⟩
    | gt =>
      refine List.pairwise_cons.2 ⟨?_, ih s'.2⟩
      exact insPairs_forall (P := fun x => cmp a x = .lt) v (h.lt_of_gt hc) s'.1

theorem lookup_insPairs (h : IsPreorder cmp) (k k' : κ) (v : ν) (l : List (κ × ν)) :
    lookup cmp k' (insPairs cmp k v l) = if cmp k' k = .eq then some v else lookup cmp k' l := by
  induction l with
  | nil => simp [insPairs, lookup]
  | cons q rest ih =>
    obtain ⟨a, va⟩ := q
    simp only [insPairs]
    cases hc : cmp k a with
    | lt => simp only [lookup]
    | eq =>
      simp only [lookup]
      rw [h.congr_right hc k']
      split <;> rfl
    | gt =>
      simp only [lookup, ih]
      by_cases ha : cmp k' a = .eq
      · have : cmp k' k ≠ .eq := by
          intro e
          have := h.eq_trans (h.eq_symm e) ha
          rw [this] at hc; cases hc
        simp [ha, this]
      · simp [ha]

theorem lookup_append (key : κ) (a b : List (κ × ν)) :
    lookup cmp key (a ++ b) = (lookup cmp key a).orElse fun _ => lookup cmp key b := by
  induction a with
  | nil => simp [lookup]
  | cons p a ih =>
    obtain ⟨x, vx⟩ := p
    simp only [List.cons_append, lookup]
    split
    · simp
    · exact ih

theorem lookup_none_of_ne (key : κ) (l : List (κ × ν)) (hl : ∀ p ∈ l, cmp key p.1 ≠ .eq) :
    lookup cmp key l = none := by
  induction l with
  | nil => rfl
  | cons p a ih =>
    obtain ⟨x, vx⟩ := p
    simp only [lookup, if_neg (hl (x, vx) List.mem_cons_self)]
    exact ih fun p hp => hl p (List.mem_cons_of_mem _ hp)

theorem get_eq_lookup (h : IsPreorder cmp) (key : κ) (tr : Tree κ ν) (ord : Ordered cmp tr) :
    get cmp key tr = lookup cmp key (toList tr) := by
  induction tr with
  | t => rfl
  | node k v b l r ihl ihr =>
    obtain ⟨sl, sr, hl, hr⟩ := keysSorted_append (cmp := cmp) ord
    simp only [get, toList, lookup_append, lookup]
    -- `lookup` walks `l ++ (k, v) :: r`; the part the tree search does not enter holds no key `==` to `key` (`hl`, `hr`)
    cases hc : cmp key k with
    | eq =>
      have := lookup_none_of_ne key (toList l) fun p hp e =>
        nomatch (hl p hp).symm.trans ((h.congr_left (h.eq_symm e) k).trans hc)
      simp [this]
    | lt =>
      rw [ihl sl]
      have := lookup_none_of_ne key (toList r) fun p hp e =>
        nomatch e.symm.trans (h.lt_trans hc (hr p hp))
      simp [this]
    | gt =>
      rw [ihr sr]
      have := lookup_none_of_ne key (toList l) fun p hp e =>
        nomatch (h.eq_symm e).symm.trans (h.lt_trans (hl p hp) (h.lt_of_gt hc))
      simp [this]

end Scryer.Assoc
