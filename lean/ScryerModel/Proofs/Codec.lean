import ScryerModel.Model.Codec
import ScryerModel.Proofs.Utf8
/-!
Lemmas for the codec models (C37).

A digit table (`lowerHex`, `b64Alphabet`) is free of repetitions because its character codes are
a few disjoint ranges; that makes `idxOf` the inverse of `getD`. Regrouping bits (hex nibbles,
Base64 sextets, UTF-8 payloads) is positional arithmetic: `(a * m + x) / m = a` and
`(a * m + x) % m = x` for `x < m` (in `Proofs/Positional`), and `a / m * m + a % m = a`. For UTF-8,
`Utf8.Seq c s` says that `s` is the shortest-form byte sequence of the code point `c`, written with
the payload bits of its bytes; `utf8EncodeChar` is `Utf8.encode`, related to `Seq` there, and the
two decoders are each related to `Seq` here.
-/
namespace Scryer.Codec
open List (range' nodup_range')
-- `Seq` only: `isCont`, `isScalar` below are the `Prop`s of Model/Codec.lean, not `Utf8`'s `Bool`s
open Utf8 (Seq)
open Positional (mul_add_div_of_lt mod_lt_lit mul_add_lt)

theorem Bytes.nil : Bytes [] := fun _ h => nomatch h

theorem Bytes.cons {b : Nat} {bs : List Nat} (hb : b < 256) (h : Bytes bs) : Bytes (b :: bs) :=
  List.forall_mem_cons.2 ⟨hb, h⟩

theorem Bytes.map_toNat (bs : List UInt8) : Bytes (bs.map UInt8.toNat) :=
  List.forall_mem_map.2 fun x _ => x.toNat_lt

theorem inj_of_roundtrip {α β : Type} {P : α → Prop} {enc : α → β} {dec : β → Option α}
    (rt : ∀ a, P a → dec (enc a) = some a) {a b : α} (ha : P a) (hb : P b) (h : enc a = enc b) :
    a = b :=
  Option.some.inj ((rt a ha).symm.trans (h ▸ rt b hb))

/-! ## Digit tables: `l.getD · d` maps a digit to its character, `l.idxOf` is the inverse -/

theorem getD_mem {α} {l : List α} {n : Nat} (d : α) (h : n < l.length) : l.getD n d ∈ l := by
  rw [List.getD_eq_getElem?_getD, List.getElem?_eq_getElem h]
  exact List.getElem_mem h

theorem idxOf_getD {α} [BEq α] [LawfulBEq α] {l : List α} (hl : l.Nodup) {n : Nat} (d : α)
    (h : n < l.length) : l.idxOf (l.getD n d) = n := by
  rw [List.getD_eq_getElem?_getD, List.getElem?_eq_getElem h]
  exact hl.idxOf_getElem n h

theorem getD_idxOf {α} [BEq α] [LawfulBEq α] {l : List α} {c : α} (d : α)
    (h : l.idxOf c < l.length) : l.getD (l.idxOf c) d = c := by
  rw [List.getD_eq_getElem?_getD, List.getElem?_eq_getElem h]
  exact List.getElem_idxOf h

theorem nodup_of_map {α β} (f : α → β) {l : List α} (h : (l.map f).Nodup) : l.Nodup :=
  List.Pairwise.of_map f (fun _ _ hne e => hne (congrArg f e)) h

theorem nodup_range'_append {s n : Nat} {l : List Nat} (hl : l.Nodup)
    (h : ∀ b ∈ l, b < s ∨ s + n ≤ b) : (range' s n ++ l).Nodup :=
  List.nodup_append.2 ⟨nodup_range', hl, fun a ha b hb e => by
    have := List.mem_range'_1.1 ha
    have := h b hb
    omega⟩

/-! ## Hex -/

/-- `0-9`, `a-f` -/
theorem lowerHex_nodup : lowerHex.Nodup := by
  have codes : lowerHex.map Char.toNat = range' 48 10 ++ range' 97 6 := by decide
  exact nodup_of_map Char.toNat (codes ▸ nodup_range'_append nodup_range' (by decide))

theorem hexVal_hexDigit {n : Nat} (h : n < 16) : hexVal (hexDigit n) = some n := by
  unfold hexVal hexDigit
  simp only [idxOf_getD lowerHex_nodup '?' (show n < lowerHex.length from h), if_pos h]

theorem hexDigit_lower {n : Nat} (h : n < 16) : hexDigit n ∈ lowerHex := getD_mem '?' h

theorem hexVal_lt {c : Char} {v : Nat} (h : hexVal c = some v) : v < 16 := by
  unfold hexVal at h
  simp only at h
  split at h
  · cases h; assumption
  · split at h
    · cases h; assumption
    · cases h

theorem hexEncode_cons (b : Nat) (bs : List Nat) :
    hexEncode (b :: bs) = hexDigit (b / 16) :: hexDigit (b % 16) :: hexEncode bs := by
  rw [hexEncode, Nat.shiftRight_eq_div_pow b 4, Nat.and_two_pow_sub_one_eq_mod b 4]

theorem firstNonByte_none_iff (bs : List Int) :
    firstNonByte bs = none ↔ ∀ b ∈ bs, 0 ≤ b ∧ b ≤ 255 := by
  fun_induction firstNonByte bs with
  | case1 => exact ⟨fun _ => nofun, fun _ => rfl⟩
  | case2 b bs hb ih => rw [ih, List.forall_mem_cons, and_iff_right hb]
  | case3 b bs hb => exact ⟨nofun, fun h => absurd (h b List.mem_cons_self) hb⟩

theorem firstNonByte_some (bs : List Int) (b : Int) (h : firstNonByte bs = some b) :
    b ∈ bs ∧ ¬ (0 ≤ b ∧ b ≤ 255) := by
  fun_induction firstNonByte bs with
  | case1 => cases h
  | case2 a bs _ ih => exact ⟨List.mem_cons_of_mem _ (ih h).1, (ih h).2⟩
  | case3 a bs ha => cases h; exact ⟨List.mem_cons_self, ha⟩

/-! ## Base64 -/

theorem b64Alphabet_length (url : Bool) : (b64Alphabet url).length = 64 := by
  cases url <;> rfl

/-- `A-Z`, `a-z`, `0-9` and two characters that are no letters or digits -/
theorem b64Alphabet_nodup (url : Bool) : (b64Alphabet url).Nodup := by
  have codes : (b64Alphabet url).map Char.toNat =
      range' 65 26 ++ (range' 97 26 ++ (range' 48 10 ++ if url then [45, 95] else [43, 47])) := by
    cases url <;> decide
  refine nodup_of_map Char.toNat (codes ▸ ?_)
  cases url <;> exact nodup_range'_append (nodup_range'_append (nodup_range'_append
    (by decide) (by decide)) (by decide)) (by decide)

theorem b64Alphabet_notPad : ∀ url, ∀ c ∈ b64Alphabet url, notPad c = true := by decide

theorem b64Val_b64Char (url : Bool) {n : Nat} (h : n < 64) : b64Val url (b64Char url n) = some n := by
  unfold b64Val b64Char
  simp only [idxOf_getD (b64Alphabet_nodup url) '=' ((b64Alphabet_length url).symm ▸ h), if_pos h]

theorem b64Char_mem (url : Bool) {n : Nat} (h : n < 64) : b64Char url n ∈ b64Alphabet url :=
  getD_mem '=' ((b64Alphabet_length url).symm ▸ h)

theorem b64Val_some {url : Bool} {c : Char} {v : Nat} (h : b64Val url c = some v) :
    v < 64 ∧ b64Char url v = c := by
  unfold b64Val at h
  simp only at h
  split at h
  · next hlt =>
    cases h
    exact ⟨hlt, getD_idxOf '=' ((b64Alphabet_length url).symm ▸ hlt)⟩
  · cases h

/-- every element is a 6-bit value -/
def Sext (ss : List Nat) : Prop := ∀ s ∈ ss, s < 64

theorem Sext.nil : Sext [] := fun _ h => nomatch h

theorem Sext.cons {s : Nat} {ss : List Nat} (hs : s < 64) (h : Sext ss) : Sext (s :: ss) :=
  List.forall_mem_cons.2 ⟨hs, h⟩

theorem unsextets_sextets (bs : List Nat) (h : Bytes bs) :
    Sext (sextets bs) ∧ unsextets (sextets bs) = some bs := by
  fun_induction sextets bs with
  | case1 => exact ⟨.nil, rfl⟩
  | case2 a =>
    have ⟨ha, _⟩ := List.forall_mem_cons.1 h
    refine ⟨.cons (Nat.div_lt_of_lt_mul ha)
      (.cons (Nat.mul_lt_mul_of_pos_right (k := 16) (mod_lt_lit a) (by decide)) .nil), ?_⟩
    simp only [unsextets, Nat.mul_mod_left, ↓reduceIte, Nat.mul_div_cancel _ (by decide : 0 < 16),
      Nat.div_add_mod']
  | case3 a b =>
    have ⟨ha, h⟩ := List.forall_mem_cons.1 h
    have hb : b / 16 < 16 := Nat.div_lt_of_lt_mul (List.forall_mem_cons.1 h).1
    refine ⟨.cons (Nat.div_lt_of_lt_mul ha) (.cons (mul_add_lt (n := 4) (mod_lt_lit a) hb)
      (.cons (Nat.mul_lt_mul_of_pos_right (k := 4) (mod_lt_lit b) (by decide)) .nil)), ?_⟩
    simp only [unsextets, Nat.mul_mod_left, ↓reduceIte, Nat.mul_div_cancel _ (by decide : 0 < 4),
      mul_add_div_of_lt hb, Nat.mul_add_mod_of_lt hb, Nat.div_add_mod']
  | case4 a b c rest ih =>
    have ⟨ha, h⟩ := List.forall_mem_cons.1 h
    have ⟨hb, h⟩ := List.forall_mem_cons.1 h
    have ⟨hc, h⟩ := List.forall_mem_cons.1 h
    have hb : b / 16 < 16 := Nat.div_lt_of_lt_mul hb
    have hc : c / 64 < 4 := Nat.div_lt_of_lt_mul hc
    have ⟨i1, i2⟩ := ih h
    refine ⟨.cons (Nat.div_lt_of_lt_mul ha) (.cons (mul_add_lt (n := 4) (mod_lt_lit a) hb)
      (.cons (mul_add_lt (n := 16) (mod_lt_lit b) hc) (.cons (mod_lt_lit c) i1))), ?_⟩
    simp only [unsextets, i2, mul_add_div_of_lt hb, Nat.mul_add_mod_of_lt hb, mul_add_div_of_lt hc,
      Nat.mul_add_mod_of_lt hc, Nat.div_add_mod']

theorem sextets_unsextets (vs bs : List Nat) (hv : Sext vs) (h : unsextets vs = some bs) :
    sextets bs = vs ∧ Bytes bs := by
  fun_induction unsextets vs generalizing bs with
  -- case 1: `[]`; cases 3, 5: a last group of two / three values whose spare bits are zero (`hb`, `hc`);
  -- case 7: a full group and the rest decodes; cases 2, 4, 6, 8 return `none`
  | case1 => cases h; exact ⟨rfl, .nil⟩
  | case3 a b hb =>
    cases h
    have ⟨ha, hv⟩ := List.forall_mem_cons.1 hv
    have hb' : b / 16 < 4 := Nat.div_lt_of_lt_mul (List.forall_mem_cons.1 hv).1
    refine ⟨?_, .cons (mul_add_lt ha hb') .nil⟩
    simp only [sextets, mul_add_div_of_lt hb', Nat.mul_add_mod_of_lt hb',
      Nat.div_mul_cancel (Nat.dvd_of_mod_eq_zero hb)]
  | case5 a b c hc =>
    cases h
    have ⟨ha, hv⟩ := List.forall_mem_cons.1 hv
    have ⟨hb, hv⟩ := List.forall_mem_cons.1 hv
    have hb : b / 16 < 4 := Nat.div_lt_of_lt_mul hb
    have hc' : c / 4 < 16 := Nat.div_lt_of_lt_mul (List.forall_mem_cons.1 hv).1
    refine ⟨?_, .cons (mul_add_lt ha hb) (.cons (mul_add_lt (n := 16) (mod_lt_lit b) hc') .nil)⟩
    simp only [sextets, mul_add_div_of_lt hb, Nat.mul_add_mod_of_lt hb, mul_add_div_of_lt hc',
      Nat.mul_add_mod_of_lt hc', Nat.div_add_mod', Nat.div_mul_cancel (Nat.dvd_of_mod_eq_zero hc)]
  | case7 a b c d rest r e ih =>
    cases h
    have ⟨ha, hv⟩ := List.forall_mem_cons.1 hv
    have ⟨hb, hv⟩ := List.forall_mem_cons.1 hv
    have ⟨hc, hv⟩ := List.forall_mem_cons.1 hv
    have ⟨hd, hv⟩ := List.forall_mem_cons.1 hv
    have hb : b / 16 < 4 := Nat.div_lt_of_lt_mul hb
    have hc : c / 4 < 16 := Nat.div_lt_of_lt_mul hc
    have ⟨i1, i2⟩ := ih r hv e
    refine ⟨?_, .cons (mul_add_lt ha hb) (.cons (mul_add_lt (n := 16) (mod_lt_lit b) hc)
      (.cons (mul_add_lt (n := 4) (mod_lt_lit c) hd) i2))⟩
    simp only [sextets, i1, mul_add_div_of_lt hb, Nat.mul_add_mod_of_lt hb, mul_add_div_of_lt hc,
      Nat.mul_add_mod_of_lt hc, mul_add_div_of_lt hd, Nat.mul_add_mod_of_lt hd, Nat.div_add_mod']
  | _ => cases h

theorem b64Vals_map (url : Bool) (ss : List Nat) (h : Sext ss) :
    b64Vals url (ss.map (b64Char url)) = some ss := by
  induction ss with
  | nil => rfl
  | cons s ss ih =>
    have ⟨h1, h2⟩ := List.forall_mem_cons.1 h
    simp only [List.map_cons, b64Vals, b64Val_b64Char url h1, ih h2]

theorem sextets_length (bs : List Nat) : (sextets bs).length = (4 * bs.length + 2) / 3 := by
  fun_induction sextets bs with
  | case4 a b c rest ih =>
    show (sextets rest).length + 4 = (4 * (rest.length + 3) + 2) / 3
    rw [ih, Nat.mul_add, Nat.add_right_comm, Nat.add_mul_div_right _ _ (by decide)]
  | _ => simp only [List.length_cons, List.length_nil]

theorem sextets_length_add_padCount (bs : List Nat) :
    (sextets bs).length + padCount bs.length = 4 * ((bs.length + 2) / 3) := by
  fun_induction sextets bs with
  | case4 a b c rest ih =>
    show (sextets rest).length + 4 + padCount (rest.length + 3) = 4 * ((rest.length + 2 + 3) / 3)
    rw [Nat.add_div_right _ (by decide), Nat.mul_succ, ← ih, Nat.add_right_comm, padCount, padCount,
      Nat.add_mod_right]
  | _ => simp only [List.length_cons, List.length_nil, padCount]

theorem padFor_sextets (bs : List Nat) : padFor (sextets bs).length = some (padCount bs.length) := by
  fun_induction sextets bs with
  | case1 => rfl
  | case2 => rfl
  | case3 => rfl
  | case4 a b c rest ih =>
    show padFor ((sextets rest).length + 4) = some (padCount (rest.length + 3))
    rw [padFor, padCount, Nat.add_mod_right, Nat.add_mod_right]
    exact ih

theorem tailOk_sextets (pad : Bool) (bs : List Nat) (tail : List Char) :
    tailOk pad (sextets bs).length tail = true ↔
      tail = if pad then List.replicate (padCount bs.length) '=' else [] := by
  unfold tailOk
  rw [padFor_sextets]
  cases pad <;> simp

theorem takeWhile_body_pad (body : List Char) (pad : Bool) (k : Nat)
    (hb : ∀ c ∈ body, notPad c = true) :
    (body ++ if pad then List.replicate k '=' else []).takeWhile notPad = body
    ∧ (body ++ if pad then List.replicate k '=' else []).dropWhile notPad
      = if pad then List.replicate k '=' else [] := by
  rw [List.takeWhile_append_of_pos hb, List.dropWhile_append_of_pos hb]
  cases pad
  · simp
  · cases k <;> simp [List.replicate_succ, notPad]

theorem b64Vals_some {url : Bool} {cs : List Char} {vs : List Nat} (h : b64Vals url cs = some vs) :
    Sext vs ∧ vs.map (b64Char url) = cs := by
  induction cs generalizing vs with
  | nil => cases h; exact ⟨.nil, rfl⟩
  | cons c cs ih =>
    rw [b64Vals] at h
    split at h
    · next v r e1 e2 =>
      cases h
      have ⟨hv, hc⟩ := b64Val_some e1
      have ⟨hr, hm⟩ := ih e2
      exact ⟨.cons hv hr, by rw [List.map_cons, hc, hm]⟩
    · cases h

theorem b64Decode_eq_some_iff (o : B64Opts) (cs : List Char) (bs : List Nat) :
    b64Decode o cs = some bs ↔ Bytes bs ∧ b64Encode o bs = cs := by
  constructor
  · intro h
    unfold b64Decode at h
    simp only at h
    split at h
    · next hok =>
      split at h
      · next vs hv =>
        have ⟨hsx, hmap⟩ := b64Vals_some hv
        have ⟨hse, hby⟩ := sextets_unsextets vs bs hsx h
        rw [← hmap, List.length_map, ← hse, tailOk_sextets] at hok
        refine ⟨hby, ?_⟩
        rw [b64Encode, hse, hmap, ← hok, List.takeWhile_append_dropWhile]
      · cases h
    · cases h
  · rintro ⟨h, rfl⟩
    have ⟨hs, hu⟩ := unsextets_sextets bs h
    have ⟨e1, e2⟩ := takeWhile_body_pad ((sextets bs).map (b64Char o.url)) o.pad (padCount bs.length)
      (List.forall_mem_map.2 fun s hs' => b64Alphabet_notPad _ _ (b64Char_mem _ (hs s hs')))
    simp only [b64Decode, b64Encode, e1, e2, List.length_map, (tailOk_sextets o.pad bs _).2 rfl,
      if_true, b64Vals_map o.url _ hs, hu]

/-! ## UTF-8 -/

def Scalars (cs : List Nat) : Prop := ∀ c ∈ cs, isScalar c

/-- Lean's `Char` is a Unicode scalar value, as are Scryer's characters. -/
theorem Scalars.map_toNat (cs : List Char) : Scalars (cs.map Char.toNat) :=
  List.forall_mem_map.2 fun c _ => c.valid

/-- the same four-way `if` as `Utf8.encode`; `Utf8.Seq` and its two encoder lemmas serve here. -/
theorem utf8EncodeChar_eq_encode (c : Nat) : utf8EncodeChar c = Utf8.encode c := rfl

theorem cont_lt {x : Nat} (h : x < 64) : 0x80 + x < 256 :=
  Nat.add_lt_add_left (Nat.lt_trans h (by decide : 64 < 128)) 0x80

theorem lead_lt {a p n : Nat} (hp : p < n) (hn : a + n ≤ 256 := by decide) : a + p < 256 :=
  Nat.lt_of_lt_of_le (Nat.add_lt_add_left hp a) hn

theorem lead_not_lt {a p k : Nat} (hk : k ≤ a := by decide) : ¬ a + p < k :=
  Utf8.not_lt_of_ge_lit (Nat.le_add_right a p) hk

theorem lead_mem {a p n : Nat} (hp : p < n) : a ≤ a + p ∧ a + p < a + n :=
  ⟨Nat.le_add_right a p, Nat.add_lt_add_left hp a⟩

theorem isCont_add {x : Nat} (h : x < 64) : isCont (0x80 + x) :=
  ⟨Nat.le_add_right _ _, Nat.add_lt_add_left h 0x80⟩

theorem isCont.payload {b : Nat} (h : isCont b) : ∃ x, x < 64 ∧ b = 0x80 + x := by
  obtain ⟨x, rfl⟩ := Nat.exists_eq_add_of_le h.1
  exact ⟨x, Nat.lt_of_add_lt_add_left h.2, rfl⟩

theorem lead_payload {a b n : Nat} (h : a ≤ b) (h' : b < n + a) : ∃ p, p < n ∧ b = a + p := by
  obtain ⟨p, rfl⟩ := Nat.exists_eq_add_of_le h
  exact ⟨p, Nat.lt_of_add_lt_add_left (Nat.add_comm n a ▸ h'), rfl⟩

theorem cont_mod {x : Nat} (h : x < 64) : (0x80 + x) % 64 = x :=
  Nat.mul_add_mod_of_lt (a := 2) h

theorem cp2_payload {p x : Nat} (hp : p < 32) (hx : x < 64) :
    cp2 (0xC0 + p) (0x80 + x) = p * 64 + x := by
  rw [cp2, cont_mod hx, Nat.mul_add_mod_of_lt (a := 6) hp]

theorem cp3_payload {p x y : Nat} (hp : p < 16) (hx : x < 64) (hy : y < 64) :
    cp3 (0xE0 + p) (0x80 + x) (0x80 + y) = (p * 64 + x) * 64 + y := by
  rw [cp3, cont_mod hx, cont_mod hy, Nat.mul_add_mod_of_lt (a := 14) hp, Nat.add_mul, Nat.mul_assoc]

theorem cp4_payload {p x y z : Nat} (hp : p < 8) (hx : x < 64) (hy : y < 64) (hz : z < 64) :
    cp4 (0xF0 + p) (0x80 + x) (0x80 + y) (0x80 + z) = ((p * 64 + x) * 64 + y) * 64 + z := by
  rw [cp4, cont_mod hx, cont_mod hy, cont_mod hz, Nat.mul_add_mod_of_lt (a := 30) hp]
  simp only [Nat.add_mul, Nat.mul_assoc]

theorem isScalar.lt {c : Nat} (h : isScalar c) : c < 0x110000 :=
  h.elim (fun h => Nat.lt_trans h (by decide)) (·.2)

theorem seq_bytes {c : Nat} {s : List Nat} (h : Seq c s) : Bytes s := by
  cases h with
  | one h => exact .cons (Nat.lt_trans h (by decide)) .nil
  | two hp hx _ => exact .cons (lead_lt hp) (.cons (cont_lt hx) .nil)
  | three hp hx hy _ => exact .cons (lead_lt hp) (.cons (cont_lt hx) (.cons (cont_lt hy) .nil))
  | four hp hx hy hz _ _ =>
    exact .cons (lead_lt hp) (.cons (cont_lt hx) (.cons (cont_lt hy) (.cons (cont_lt hz) .nil)))

theorem decode_seq {c : Nat} {s : List Nat} (h : Seq c s) (hs : isScalar c) (r : List Nat) :
    utf8Decode (s ++ r) = (utf8Decode r).map (c :: ·) := by
  cases h with
  | one h =>
    show utf8Decode (_ :: r) = _
    rw [utf8Decode.eq_def]
    simp only [if_pos h]
  | two hp hx hc =>
    show utf8Decode (_ :: _ :: r) = _
    rw [utf8Decode.eq_def]
    simp only []
    rw [if_neg lead_not_lt, if_neg lead_not_lt, if_pos (Nat.add_lt_add_left hp 0xC0),
      cp2_payload hp hx, if_pos ⟨isCont_add hx, hc⟩]
  | three hp hx hy hc =>
    show utf8Decode (_ :: _ :: _ :: r) = _
    rw [utf8Decode.eq_def]
    simp only []
    rw [if_neg lead_not_lt, if_neg lead_not_lt, if_neg lead_not_lt,
      if_pos (Nat.add_lt_add_left hp 0xE0), cp3_payload hp hx hy, if_pos ⟨isCont_add hx, isCont_add hy, hc, hs⟩]
  | four hp hx hy hz hc hc' =>
    show utf8Decode (_ :: _ :: _ :: _ :: r) = _
    rw [utf8Decode.eq_def]
    simp only []
    rw [if_neg lead_not_lt, if_neg lead_not_lt, if_neg lead_not_lt, if_neg lead_not_lt,
      if_pos (Nat.add_lt_add_left hp 0xF0), cp4_payload hp hx hy hz,
      if_pos ⟨isCont_add hx, isCont_add hy, isCont_add hz, hc, hc'⟩]

/-- What the strict decoder accepts is a concatenation of well-formed sequences. -/
theorem utf8Decode_induction {motive : List Nat → List Nat → Prop} (nil : motive [] [])
    (seq : ∀ c s r cs, Seq c s → isScalar c → utf8Decode r = some cs → motive r cs →
      motive (s ++ r) (c :: cs))
    (bs cs : List Nat) (h : utf8Decode bs = some cs) : motive bs cs := by
  fun_induction utf8Decode bs generalizing cs with
  -- case 1: `[]`; cases 2, 4, 7, 10: the accepting branch for a lead byte of the 1-, 2-, 3-, 4-byte form
  -- (`hb` resp. `hc`: the checks it passed); every remaining case returns `none`
  | case1 => cases h; exact nil
  | case2 b bs hb ih =>
    obtain ⟨r, e, rfl⟩ := Option.map_eq_some_iff.mp h
    exact seq b [b] bs r (.one hb) (.inl (Nat.lt_trans hb (by decide))) e (ih r e)
  | case4 b h1 h2 h3 b1 r hc ih =>
    obtain ⟨r', e, rfl⟩ := Option.map_eq_some_iff.mp h
    obtain ⟨p, hp, rfl⟩ := lead_payload (Nat.le_of_not_lt h2) h3
    obtain ⟨x, hx, rfl⟩ := hc.1.payload
    rw [cp2_payload hp hx] at hc ⊢
    exact seq _ _ r r' (.two hp hx hc.2) (.inl (Nat.lt_trans (mul_add_lt hp hx) (by decide))) e
      (ih r' e)
  | case7 b h1 h2 h3 h4 b1 b2 r hc ih =>
    obtain ⟨r', e, rfl⟩ := Option.map_eq_some_iff.mp h
    obtain ⟨p, hp, rfl⟩ := lead_payload (Nat.le_of_not_lt h3) h4
    obtain ⟨x, hx, rfl⟩ := hc.1.payload
    obtain ⟨y, hy, rfl⟩ := hc.2.1.payload
    rw [cp3_payload hp hx hy] at hc ⊢
    exact seq _ _ r r' (.three hp hx hy hc.2.2.1) hc.2.2.2 e (ih r' e)
  | case10 b h1 h2 h3 h4 h5 b1 b2 b3 r hc ih =>
    obtain ⟨r', e, rfl⟩ := Option.map_eq_some_iff.mp h
    obtain ⟨p, hp, rfl⟩ := lead_payload (Nat.le_of_not_lt h4) h5
    obtain ⟨x, hx, rfl⟩ := hc.1.payload
    obtain ⟨y, hy, rfl⟩ := hc.2.1.payload
    obtain ⟨z, hz, rfl⟩ := hc.2.2.1.payload
    rw [cp4_payload hp hx hy hz] at hc ⊢
    exact seq _ _ r r' (.four hp hx hy hz hc.2.2.2.1 hc.2.2.2.2)
      (.inr ⟨Nat.lt_of_lt_of_le (by decide) hc.2.2.2.1, hc.2.2.2.2⟩) e (ih r' e)
  | _ => cases h

theorem utf8Decode_eq_some_iff (bs cs : List Nat) :
    utf8Decode bs = some cs ↔ Scalars cs ∧ utf8Encode cs = bs := by
  constructor
  · exact utf8Decode_induction (motive := fun bs cs => Scalars cs ∧ utf8Encode cs = bs)
      ⟨nofun, rfl⟩
      (fun c s r cs hs hc _ ih =>
        ⟨List.forall_mem_cons.2 ⟨hc, ih.1⟩, by rw [utf8Encode, utf8EncodeChar_eq_encode, hs.encode, ih.2]⟩) bs cs
  · rintro ⟨h, rfl⟩
    induction cs with
    | nil => rfl
    | cons c cs ih =>
      have ⟨hc, hcs⟩ := List.forall_mem_cons.1 h
      rw [utf8Encode, utf8EncodeChar_eq_encode, decode_seq (.of_lt hc.lt) hc, ih hcs]
      rfl

/-! ### The clauses of `charsio.pl` -/

theorem shr_and (c k : Nat) : (c >>> k) &&& 0x3F = c / 2 ^ k % 64 := by
  rw [Nat.shiftRight_eq_div_pow]
  exact Nat.and_two_pow_sub_one_eq_mod _ 6

/-- `0x80 \/ ((Code >> K) /\ 0x3F)` -/
theorem cont_byte (c k : Nat) : 0x80 ||| (c >>> k &&& 0x3F) = 0x80 + c / 2 ^ k % 64 := by
  rw [shr_and]
  exact (Nat.shiftLeft_add_eq_or_of_lt (i := 6) (mod_lt_lit _) 2).symm

/-- `Prefix \/ ((Code >> K) /\ 0x3F)` where the `i ≤ 6` free bits of the prefix hold all of
    `Code >> K` -/
theorem lead_byte {a i c k : Nat} (h : c / 2 ^ k < 2 ^ i) (hi : 2 ^ i ≤ 64) :
    a <<< i ||| (c >>> k &&& 0x3F) = a <<< i + c / 2 ^ k := by
  rw [shr_and, Nat.mod_eq_of_lt (Nat.lt_of_lt_of_le h hi)]
  exact (Nat.shiftLeft_add_eq_or_of_lt h a).symm

theorem and_shiftLeft_mask (b j k : Nat) :
    b &&& (2 ^ j - 1) <<< k = b / 2 ^ k % 2 ^ j * 2 ^ k := by
  rw [← Nat.and_two_pow_sub_one_eq_mod, ← Nat.shiftRight_eq_div_pow, ← Nat.shiftLeft_eq]
  apply Nat.eq_of_testBit_eq
  intro i
  simp only [Nat.testBit_and, Nat.testBit_shiftLeft, Nat.testBit_shiftRight]
  by_cases h : k ≤ i
  · simp [h, Nat.add_sub_cancel' h]
  · simp [h]

theorem and_mask_eq_iff {b j k v : Nat} (hb : b < 2 ^ k * 2 ^ j) :
    b &&& (2 ^ j - 1) <<< k = v * 2 ^ k ↔ v * 2 ^ k ≤ b ∧ b < (v + 1) * 2 ^ k := by
  have hk := Nat.two_pow_pos k
  rw [and_shiftLeft_mask, Nat.mod_eq_of_lt (Nat.div_lt_of_lt_mul hb), Nat.mul_right_cancel_iff hk,
    ← Nat.le_div_iff_mul_le hk, ← Nat.div_lt_iff_lt_mul hk, Nat.lt_succ_iff, Nat.le_antisymm_iff,
    and_comm]

/-! The bit tests of `leading//2` and of clause 2 of `continuation` on an octet, as ranges. -/

theorem and80 {b : Nat} (hb : b < 256) : b &&& 0x80 = 0 ↔ b < 0x80 :=
  (and_mask_eq_iff (j := 1) (k := 7) (v := 0) hb).trans ⟨fun h => h.2, fun h => ⟨Nat.zero_le _, h⟩⟩

theorem andC0 {b : Nat} (hb : b < 256) : b &&& 0xC0 = 0x80 ↔ isCont b :=
  and_mask_eq_iff (j := 2) (k := 6) (v := 2) hb

theorem andE0 {b : Nat} (hb : b < 256) : b &&& 0xE0 = 0xC0 ↔ 0xC0 ≤ b ∧ b < 0xE0 :=
  and_mask_eq_iff (j := 3) (k := 5) (v := 6) hb

theorem andF0 {b : Nat} (hb : b < 256) : b &&& 0xF0 = 0xE0 ↔ 0xE0 ≤ b ∧ b < 0xF0 :=
  and_mask_eq_iff (j := 4) (k := 4) (v := 14) hb

theorem andF8 {b : Nat} (hb : b < 256) : b &&& 0xF8 = 0xF0 ↔ 0xF0 ≤ b ∧ b < 0xF8 :=
  and_mask_eq_iff (j := 5) (k := 3) (v := 30) hb

theorem leading_eq {b : Nat} (hb : b < 256) : leading b =
    if b < 0x80 then some (1, b)
    else if 0xC0 ≤ b ∧ b < 0xE0 then some (2, b - 0xC0)
    else if 0xE0 ≤ b ∧ b < 0xF0 then some (3, b - 0xE0)
    else if 0xF0 ≤ b ∧ b < 0xF8 then some (4, b - 0xF0)
    else none := by
  simp only [leading, and80 hb, andE0 hb, andF0 hb, andF8 hb]

theorem contStep_one {min code : Nat} {bs : List Nat} (hm : min ≤ code) (h : isScalar code) :
    contStep min code 1 bs = .char code bs := by
  rw [contStep, if_neg (Nat.not_lt.2 hm), if_pos h]

theorem contStep_cont {min code nb x : Nat} {r : List Nat} (hx : x < 64) :
    contStep min code (nb + 2) ((0x80 + x) :: r) =
      match contStep min (code * 64 + x) (nb + 1) r with
      | .fail => .char 0xFFFD r
      | s => s := by
  rw [contStep, if_pos ((andC0 (cont_lt hx)).2 (isCont_add hx)), Nat.add_sub_cancel_left,
    ← Nat.shiftLeft_add_eq_or_of_lt (i := 6) hx, Nat.shiftLeft_eq]
  rfl

theorem contStep_one_inv {min code : Nat} {bs : List Nat} {c : Nat} {r : List Nat}
    (h : contStep min code 1 bs = .char c r) (hc : c ≠ 0xFFFD) :
    c = code ∧ r = bs ∧ min ≤ code ∧ isScalar code := by
  rw [contStep] at h
  split at h
  · cases h; exact absurd rfl hc
  · next hm =>
    split at h
    · next hs => cases h; exact ⟨rfl, rfl, Nat.le_of_not_lt hm, hs⟩
    · cases h

theorem contStep_cont_inv {min code nb : Nat} {bs : List Nat} {c : Nat} {r : List Nat}
    (hb : Bytes bs) (h : contStep min code (nb + 2) bs = .char c r) (hc : c ≠ 0xFFFD) :
    ∃ x rest, x < 64 ∧ bs = (0x80 + x) :: rest ∧
      contStep min (code * 64 + x) (nb + 1) rest = .char c r := by
  cases bs with
  | nil => simp [contStep] at h
  | cons b rest =>
    by_cases hcont : isCont b
    · obtain ⟨x, hx, rfl⟩ := hcont.payload
      rw [contStep_cont hx] at h
      split at h
      · cases h; exact absurd rfl hc
      · exact ⟨x, rest, hx, rfl, h⟩
    · rw [contStep, if_neg (mt (andC0 (List.forall_mem_cons.1 hb).1).1 hcont)] at h
      cases h; exact absurd rfl hc

theorem mechStep_of_contStep {fix : Bool} {b nb code : Nat} {rest : List Nat} {c : Nat}
    {r : List Nat} (hl : leading b = some (nb, code))
    (h : contStep (if fix then minCode nb else 0) code nb rest = .char c r) :
    mechStep fix b rest = .char c r := by
  simp only [mechStep, hl, h]

theorem mechStep_inv {fix : Bool} {b : Nat} {rest : List Nat} {c : Nat} {r : List Nat}
    (h : mechStep fix b rest = .char c r) (hc : c ≠ 0xFFFD) :
    ∃ nb code, leading b = some (nb, code) ∧
      contStep (if fix then minCode nb else 0) code nb rest = .char c r := by
  unfold mechStep at h
  split at h
  · next nb code hl =>
    split at h
    · cases h; exact absurd rfl hc
    · exact ⟨nb, code, hl, h⟩
  · cases h; exact absurd rfl hc

/-- On a well-formed sequence the clauses of `decode_utf8//1` (pinned, and repaired for finding
    C37-1) yield its scalar value and consume exactly the sequence. -/
theorem mechStep_seq {c b : Nat} {t : List Nat} (h : Seq c (b :: t)) (hs : isScalar c) (fix : Bool)
    (r : List Nat) : mechStep fix b (t ++ r) = .char c r := by
  have min {nb n : Nat} (hn : minCode nb ≤ n) : (if fix then minCode nb else 0) ≤ n := by
    cases fix
    · exact Nat.zero_le n
    · exact hn
  cases h with
  | one h =>
    refine mechStep_of_contStep ?_ (contStep_one (min (nb := 1) (Nat.zero_le c)) hs)
    rw [leading_eq (Nat.lt_trans h (by decide)), if_pos h]
  | @two p x hp hx hc =>
    refine mechStep_of_contStep (nb := 2) (code := p) ?_ ?_
    · rw [leading_eq (lead_lt hp), if_neg lead_not_lt, if_pos (lead_mem hp), Nat.add_sub_cancel_left]
    · rw [List.cons_append, contStep_cont hx, List.nil_append, contStep_one (min hc) hs]
  | @three p x y hp hx hy hc =>
    refine mechStep_of_contStep (nb := 3) (code := p) ?_ ?_
    · rw [leading_eq (lead_lt hp), if_neg lead_not_lt, if_neg (fun h => absurd h.2 lead_not_lt),
        if_pos (lead_mem hp), Nat.add_sub_cancel_left]
    · rw [List.cons_append, contStep_cont hx, List.cons_append, contStep_cont hy,
        List.nil_append, contStep_one (min hc) hs]
  | @four p x y z hp hx hy hz hc _ =>
    refine mechStep_of_contStep (nb := 4) (code := p) ?_ ?_
    · rw [leading_eq (lead_lt hp), if_neg lead_not_lt, if_neg (fun h => absurd h.2 lead_not_lt),
        if_neg (fun h => absurd h.2 lead_not_lt), if_pos (lead_mem hp), Nat.add_sub_cancel_left]
    · rw [List.cons_append, contStep_cont hx, List.cons_append, contStep_cont hy,
        List.cons_append, contStep_cont hz, List.nil_append, contStep_one (min hc) hs]

theorem mechStep_fix_seq {b : Nat} {rest : List Nat} {c : Nat} {r : List Nat}
    (hb : Bytes (b :: rest)) (h : mechStep true b rest = .char c r) (hc : c ≠ 0xFFFD) :
    ∃ t, Seq c (b :: t) ∧ isScalar c ∧ rest = t ++ r := by
  have ⟨hb0, hbr⟩ := List.forall_mem_cons.1 hb
  obtain ⟨nb, code, hl, h⟩ := mechStep_inv h hc
  rw [leading_eq hb0] at hl
  rw [if_pos rfl] at h
  by_cases h1 : b < 0x80
  · rw [if_pos h1] at hl
    cases hl
    obtain ⟨rfl, rfl, _, hs⟩ := contStep_one_inv h hc
    exact ⟨[], .one h1, hs, rfl⟩
  rw [if_neg h1] at hl
  by_cases h2 : 0xC0 ≤ b ∧ b < 0xE0
  · rw [if_pos h2] at hl
    cases hl
    obtain ⟨p, hp, rfl⟩ := lead_payload h2.1 h2.2
    rw [Nat.add_sub_cancel_left] at h
    obtain ⟨x, _, hx, rfl, h1⟩ := contStep_cont_inv hbr h hc
    obtain ⟨rfl, rfl, hm, hs⟩ := contStep_one_inv h1 hc
    exact ⟨[_], .two hp hx hm, hs, rfl⟩
  rw [if_neg h2] at hl
  by_cases h3 : 0xE0 ≤ b ∧ b < 0xF0
  · rw [if_pos h3] at hl
    cases hl
    obtain ⟨p, hp, rfl⟩ := lead_payload h3.1 h3.2
    rw [Nat.add_sub_cancel_left] at h
    obtain ⟨x, _, hx, rfl, h1⟩ := contStep_cont_inv hbr h hc
    obtain ⟨y, _, hy, rfl, h2⟩ := contStep_cont_inv (List.forall_mem_cons.1 hbr).2 h1 hc
    obtain ⟨rfl, rfl, hm, hs⟩ := contStep_one_inv h2 hc
    exact ⟨[_, _], .three hp hx hy hm, hs, rfl⟩
  rw [if_neg h3] at hl
  by_cases h4 : 0xF0 ≤ b ∧ b < 0xF8
  · rw [if_pos h4] at hl
    cases hl
    obtain ⟨p, hp, rfl⟩ := lead_payload h4.1 h4.2
    rw [Nat.add_sub_cancel_left] at h
    obtain ⟨x, _, hx, rfl, h1⟩ := contStep_cont_inv hbr h hc
    have hbr := (List.forall_mem_cons.1 hbr).2
    obtain ⟨y, _, hy, rfl, h2⟩ := contStep_cont_inv hbr h1 hc
    obtain ⟨z, _, hz, rfl, h3⟩ := contStep_cont_inv (List.forall_mem_cons.1 hbr).2 h2 hc
    obtain ⟨rfl, rfl, hm, hs⟩ := contStep_one_inv h3 hc
    exact ⟨[_, _, _], .four hp hx hy hz hm hs.lt, hs, rfl⟩
  · rw [if_neg h4] at hl
    cases hl

theorem utf8DecodeMech_cons (fix : Bool) (b : Nat) (rest : List Nat) :
    utf8DecodeMech fix (b :: rest) =
    match mechStep fix b rest with
    | .fail => .fail
    | .reprErr => .reprErr
    | .char c r =>
      match utf8DecodeMech fix r with
      | .ok cs => .ok (c :: cs)
      | d => d := by
  rw [utf8DecodeMech]
  split
  · simp_all
  · simp_all
  · next c r hm =>
    rw [hm]
    simp only []
    cases utf8DecodeMech fix r <;> rfl

theorem mechStep_ne_fail (fix : Bool) (b : Nat) (r : List Nat) : mechStep fix b r ≠ .fail := by
  -- a failed continuation is answered by the fifth clause of `leading//2`: U+FFFD
  unfold mechStep
  split
  · split <;> simp_all
  · simp

end Scryer.Codec
