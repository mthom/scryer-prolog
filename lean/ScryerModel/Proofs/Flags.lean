import ScryerModel.Model.Flags
/-!
Lemmas for C44 over `Model/Flags.lean`.

Main results: `get_eq_spec` and `set_eq_spec` — clause resolution over the corrected clause
lists (`cpfFixed`, `spfFixed`) computes exactly the table specification (`specGet`,
`specSet`), for every flag term, value term and state. Both go clause by clause: the lemmas of
the section on clause resolution step through the first clause of a list whose tail is a
variable, and the concrete lists appear only in the last step, once per flag. Then facts about
the table: frame/read-back lemmas for `Flag.store`, preservation of the reachable-state
invariant `St.wf`, a given flag against the enumeration and a set against its read-back
(`given_eq_enumerated_spec`, `set_iff_reads_back_spec`), and the value of a flag after a history as
its last effective write (`expectedValue`, `value_run`).
-/
namespace Scryer.Flags

theorem ofName_name (k : Flag) : Flag.ofName? k.name = some k := by
  cases k <;> simp [Flag.ofName?, Flag.name]

theorem ofName_some {s : String} {k : Flag} (h : Flag.ofName? s = some k) : s = k.name := by
  revert h
  fun_cases Flag.ofName? s <;> intro h <;> cases h <;> assumption

theorem ofName_none {s : String} (h : Flag.ofName? s = none) :
    s ≠ "max_arity" ∧ s ≠ "bounded" ∧ s ≠ "integer_rounding_function" ∧ s ≠ "double_quotes" ∧
    s ≠ "unknown" ∧ s ≠ "max_integer" ∧ s ≠ "min_integer" ∧ s ≠ "occurs_check" ∧
    s ≠ "answer_write_options" :=
  have ne (k : Flag) : s ≠ k.name := fun e => by rw [e, ofName_name] at h; cases h
  ⟨ne .maxArity, ne .bounded, ne .irf, ne .doubleQuotes, ne .unknown, ne .maxInteger,
    ne .minInteger, ne .occursCheck, ne .awo⟩

theorem name_injective {k k' : Flag} (h : k.name = k'.name) : k = k' := by
  have := ofName_name k
  rw [h, ofName_name] at this
  cases this; rfl

@[simp] theorem isVar_var (n : Nat) : (Term.var n).isVar = true := rfl
@[simp] theorem isVar_atom (s : String) : (Term.atom s).isVar = false := rfl
@[simp] theorem isVar_int (i : Int) : (Term.int i).isVar = false := rfl
@[simp] theorem isVar_flt (b : String) : (Term.flt b).isVar = false := rfl
@[simp] theorem isVar_c1 (g : String) (a : Term) : (Term.c1 g a).isVar = false := rfl
@[simp] theorem isVar_c2 (g : String) (a b : Term) : (Term.c2 g a b).isVar = false := rfl
@[simp] theorem isInt_int (i : Int) : (Term.int i).isInt = true := rfl

theorem ne_atom {f : Term} (ha : f.isAtom = false) (s : String) : f ≠ .atom s :=
  fun e => by rw [e] at ha; cases ha

@[simp] theorem unifyArg_var (n : Nat) (t : Term) : unifyArg (.var n) t = some t := rfl

theorem unifyArg_bound {x : Term} (hx : x.isVar = false) (t : Term) :
    unifyArg x t = if x = t then some x else none := by
  cases x <;> first | rfl | cases hx

theorem unifyArg_self (v : Term) : unifyArg v v = some v := by
  cases v <;> simp [unifyArg]

theorem unifyArg_nonvar (v t : Term) (hv : v.isVar = false) :
    (unifyArg v t).isSome = decide (v = t) := by
  rw [unifyArg_bound hv]; by_cases h : v = t <;> simp [h]

/-! ### clause resolution, clause by clause

The first clause of a list is stepped through with the tail a variable: a pattern in the head
is a test on a bound argument, a test goal selects between the rest of the body and the next
clause, `!` drops the tail, `throw` ends the search. -/

theorem solve_head_flag {f : Term} (hf : f.isVar = false) (t hv body cs v st) :
    solve (⟨some t, hv, body⟩ :: cs) ⟨f, v⟩ st =
      if f = t then solve (⟨none, hv, body⟩ :: cs) ⟨f, v⟩ st else solve cs ⟨f, v⟩ st := by
  by_cases h : f = t
  · subst h; simp only [solve, headUnify, unifyArg_self, if_true]
  · simp only [solve, headUnify, unifyArg_bound hf, if_neg h]

theorem solve_head_value {v : Term} (hv : v.isVar = false) (t body cs f st) :
    solve (⟨none, some t, body⟩ :: cs) ⟨f, v⟩ st =
      if v = t then solve (⟨none, none, body⟩ :: cs) ⟨f, v⟩ st else solve cs ⟨f, v⟩ st := by
  by_cases h : v = t
  · subst h; simp only [solve, headUnify, unifyArg_self, if_true, Option.map]
  · simp only [solve, headUnify, unifyArg_bound hv, if_neg h, Option.map]

theorem solve_eqeq (x t gs cs a st) :
    solve (⟨none, none, .eqeq x t :: gs⟩ :: cs) a st =
      if a.get x = t then solve (⟨none, none, gs⟩ :: cs) a st else solve cs a st := by
  by_cases h : a.get x = t <;> simp only [solve, headUnify, runBody, h, ↓reduceIte]

theorem solve_nonvar (x gs cs a st) :
    solve (⟨none, none, .nonvar x :: gs⟩ :: cs) a st =
      if (a.get x).isVar then solve cs a st else solve (⟨none, none, gs⟩ :: cs) a st := by
  by_cases h : (a.get x).isVar = true <;> simp only [solve, headUnify, runBody, h, Bool.false_eq_true, ↓reduceIte]

theorem solve_isAtom (x gs cs a st) :
    solve (⟨none, none, .isAtom x :: gs⟩ :: cs) a st =
      if (a.get x).isAtom then solve (⟨none, none, gs⟩ :: cs) a st else solve cs a st := by
  by_cases h : (a.get x).isAtom = true <;> simp only [solve, headUnify, runBody, h, Bool.false_eq_true, ↓reduceIte]

theorem solve_isInt (x gs cs a st) :
    solve (⟨none, none, .isInt x :: gs⟩ :: cs) a st =
      if (a.get x).isInt then solve (⟨none, none, gs⟩ :: cs) a st else solve cs a st := by
  by_cases h : (a.get x).isInt = true <;> simp only [solve, headUnify, runBody, h, Bool.false_eq_true, ↓reduceIte]

theorem solve_anyVar (gs cs a st) :
    solve (⟨none, none, .anyVar :: gs⟩ :: cs) a st =
      if a.f.isVar || a.v.isVar then solve (⟨none, none, gs⟩ :: cs) a st else solve cs a st := by
  by_cases h : (a.f.isVar || a.v.isVar) = true <;> simp only [solve, headUnify, runBody, h, Bool.false_eq_true, ↓reduceIte]

theorem solve_nil (a st) : solve [] a st = ⟨[], none, st⟩ := rfl

theorem solve_throw (e gs cs a st) :
    solve (⟨none, none, .throw e :: gs⟩ :: cs) a st = ⟨[], some (e.term a), st⟩ := rfl

/-- the outcome of a clause whose body has executed `!`: later clauses are not tried. -/
def commit : BodyRes → Outcome
  | .fail _ st => ⟨[], none, st⟩
  | .succ _ a st => ⟨[a], none, st⟩
  | .throw e st => ⟨[], some e, st⟩

def BodyRes.cut : BodyRes → Bool
  | .fail c _ => c
  | .succ c _ _ => c
  | .throw _ _ => true

theorem runBody_cut (gs : List Goal) (a : Args) (st : St) : (runBody gs true a st).cut = true := by
  induction gs generalizing a st with
  | nil => rfl
  | cons g gs ih =>
    cases g <;> simp only [runBody] <;> (try split) <;> first | exact ih _ _ | rfl

theorem solve_cut (gs cs a st) :
    solve (⟨none, none, .cut :: gs⟩ :: cs) a st = commit (runBody gs true a st) := by
  have h := runBody_cut gs a st
  simp only [solve, headUnify, runBody]
  generalize runBody gs true a st = r at h ⊢
  cases r <;> cases h <;> rfl

/-! ### enumeration (Flag unbound): the head binds `Flag` -/

/-- `o` with an optional extra first answer. -/
def Outcome.addOpt (o : Outcome) (x : Option Args) : Outcome :=
  ⟨x.toList ++ o.answers, o.err, o.st⟩

/-- a fact `p(nm, t).` contributes the answer `Flag = nm, Value = t` when `Value` unifies. -/
theorem solve_fact_var (nm : String) (t : Term) (cs n v st) :
    solve (⟨some (A nm), some t, []⟩ :: cs) ⟨.var n, v⟩ st =
      (solve cs ⟨.var n, v⟩ st).addOpt ((unifyArg v t).map fun v' => ⟨A nm, v'⟩) := by
  cases h : unifyArg v t <;> simp [solve, headUnify, runBody, h, Outcome.addOpt, Outcome.addAnswer]

/-- a clause `p(nm, Value) :- '$get_…'(Value).` behaves as the fact `p(nm, t).`, `t` the value
    the system call unifies `Value` with. -/
theorem solve_getter_var (nm : String) (g : Sys) (t : Term) (cs n v st)
    (hg : runSys g ⟨A nm, v⟩ st = unifyValue ⟨A nm, v⟩ t st) :
    solve (⟨some (A nm), none, [.sys g]⟩ :: cs) ⟨.var n, v⟩ st =
      (solve cs ⟨.var n, v⟩ st).addOpt ((unifyArg v t).map fun v' => ⟨A nm, v'⟩) := by
  cases h : unifyArg v t <;>
    simp [solve, headUnify, runBody, hg, unifyValue, h, Outcome.addOpt, Outcome.addAnswer]

theorem filterMap_cons_toList {α β} (f : α → Option β) (k : α) (ks : List α) :
    (k :: ks).filterMap f = (f k).toList ++ ks.filterMap f := by
  cases h : f k <;> simp [h]

theorem get_var (n : Nat) (v : Term) (st : St) :
    solve cpfFixed ⟨.var n, v⟩ st = specGet (.var n) v st := by
  simp only [cpfFixed, solve_eqeq, solve_isAtom, solve_nonvar, solve_fact_var, Args.get,
    reduceCtorEq, ↓reduceIte, Term.isAtom, isVar_var, Bool.false_eq_true, solve_nil,
    solve_getter_var _ .getDoubleQuotes _ _ _ _ _ rfl,
    solve_getter_var _ .getUnknown _ _ _ _ _ rfl,
    solve_getter_var _ .isStoEnabled _ _ _ _ _ rfl,
    solve_getter_var _ .getAnswerWriteOptions _ _ _ _ _ rfl,
    Outcome.addOpt]
  simp [specGet, Flag.enumOrder, filterMap_cons_toList, Flag.value, Flag.name]

/-! ### Flag given: clauses for other flags are passed over, the flag's own clauses decide -/

/-- the answer flag `k` contributes to `current_prolog_flag(_, v)`: its value, if `v` unifies. -/
def Flag.answer (k : Flag) (v : Term) (st : St) : Option Args :=
  match k.value st with
  | some t => (unifyArg v t).map fun v' => ⟨A k.name, v'⟩
  | none => none

theorem specGet_var (n : Nat) (v : Term) (st : St) :
    specGet (.var n) v st = ⟨Flag.enumOrder.filterMap (·.answer v st), none, st⟩ := rfl

theorem specGet_known (k : Flag) (v : Term) (st : St) :
    specGet (A k.name) v st = ⟨(k.answer v st).toList, none, st⟩ := by
  simp only [specGet, ofName_name, Flag.answer]
  cases k.value st with
  | none => rfl
  | some t => dsimp only; cases unifyArg v t <;> rfl

theorem get_known (k : Flag) (v : Term) (st : St) :
    solve cpfFixed ⟨A k.name, v⟩ st = specGet (A k.name) v st := by
  rw [specGet_known]
  -- `Flag` is the atom `k.name`: the `==` tests and heads of the other flags' clauses fail (`String.reduceEq`),
  -- the flag's own `==` clause cuts, and its body either is `fail` (`max_integer`, `min_integer`: `rfl`) or
  -- unifies `Value` with the flag's value (the other seven: both sides are the same match on `unifyArg v _`)
  cases k <;>
    simp only [cpfFixed, Flag.name, solve_eqeq, solve_head_flag (isVar_atom _), solve_cut, Args.get,
      Term.atom.injEq, String.reduceEq, ↓reduceIte, runBody, runSys, unifyValue, Args.set,
      Flag.answer, Flag.value] <;>
    first | rfl | (generalize unifyArg v _ = u; cases u <;> rfl)

theorem get_nonatom (f v : Term) (st : St) (hv : f.isVar = false) (ha : f.isAtom = false) :
    solve cpfFixed ⟨f, v⟩ st = specGet f v st := by
  simp only [cpfFixed, solve_eqeq, solve_isAtom, solve_nonvar, solve_head_flag hv, solve_throw,
    Args.get, ne_atom ha, ↓reduceIte, ha, hv, Bool.false_eq_true]
  cases f with
  | var _ => cases hv
  | atom _ => cases ha
  | _ => rfl

/-- clause resolution over the corrected `current_prolog_flag/2` clauses = the table. -/
theorem get_eq_spec (f v : Term) (st : St) : get f v st = specGet f v st := by
  unfold get
  cases f with
  | var n => exact get_var n v st
  | atom s =>
    cases h : Flag.ofName? s with
    | none =>
      -- not a flag: every clause but the last two is for another name
      simp only [cpfFixed, solve_eqeq, solve_isAtom, solve_head_flag (isVar_atom s), solve_throw,
        Args.get, Term.atom.injEq, ofName_none h, ↓reduceIte, Term.isAtom, specGet, h]
    | some k => rw [ofName_some h]; exact get_known k v st
  | _ => exact get_nonatom _ v st rfl rfl

theorem specSet_known (k : Flag) (v : Term) (st : St) (hv : v.isVar = false) :
    specSet (A k.name) v st =
      match k.vclass v with
      | .inst => ⟨[], some (Err.inst.term ⟨A k.name, v⟩), st⟩
      | .bad => ⟨[], some (Err.domValue.term ⟨A k.name, v⟩), st⟩
      | .ok =>
        if k.writable then ⟨[⟨A k.name, v⟩], none, k.store v st⟩
        else if k.value st = some v then ⟨[⟨A k.name, v⟩], none, st⟩
        else ⟨[], none, st⟩ := by
  cases hc : k.vclass v <;> simp [specSet, hv, ofName_name, hc]

theorem specSet_unknown_atom (s : String) (v : Term) (st : St) (hv : v.isVar = false)
    (h : Flag.ofName? s = none) :
    specSet (.atom s) v st = ⟨[], some (Err.domFlag.term ⟨.atom s, v⟩), st⟩ := by
  simp [specSet, hv, h]

theorem specSet_nonatom (f v : Term) (st : St) (hf : f.isVar = false) (ha : f.isAtom = false)
    (hv : v.isVar = false) :
    specSet f v st = ⟨[], some (Err.typeAtom.term ⟨f, v⟩), st⟩ := by
  cases f <;> simp [Term.isAtom] at hf ha <;> simp [specSet, hv]

theorem specSet_anyvar (f v : Term) (st : St) (h : (f.isVar || v.isVar) = true) :
    specSet f v st = ⟨[], some (A "instantiation_error"), st⟩ := by
  simp [specSet, h, Err.term]

theorem ite_eq {α} {c : Prop} [Decidable c] {a b r : α} (ht : c → a = r) (he : ¬c → b = r) :
    (if c then a else b) = r := by
  split
  · exact ht ‹_›
  · exact he ‹_›

theorem set_known (k : Flag) (v : Term) (st : St) (hv : v.isVar = false) :
    solve spfFixed ⟨A k.name, v⟩ st = specSet (A k.name) v st := by
  rw [specSet_known k v st hv]
  -- both arguments are bound: the clauses of the other flags are passed over by their heads, the flag's own
  -- clauses test `Value` against one constant each (or by `integer/1`), cut, and succeed, fail or call the
  -- setter; its last clause throws the domain error
  cases k <;>
    simp only [spfFixed, Flag.name, solve_anyVar, solve_isInt, solve_head_flag (isVar_atom _),
      solve_head_value hv, solve_cut, solve_throw, Args.get, Term.atom.injEq, String.reduceEq,
      ↓reduceIte, hv, isVar_atom, Bool.or_self, Bool.false_eq_true, commit, runBody, runSys,
      sysSetDoubleQuotes, sysSetUnknown, Flag.vclass, Flag.writable, Flag.store, Flag.value]
  -- the one flag whose single clause neither matches nor tests `Value`: the system call classifies it
  case awo => cases checkWriteOptions v <;> rfl
  -- what is left is a chain of tests on `v` on the left, the flag's table entry on the right
  all_goals repeat' refine ite_eq (fun h => ?_) (fun h => ?_)
  all_goals simp [*, eq_comm (b := v)]

theorem set_nonatom (f v : Term) (st : St) (hf : f.isVar = false) (ha : f.isAtom = false)
    (hv : v.isVar = false) :
    solve spfFixed ⟨f, v⟩ st = specSet f v st := by
  simp only [spfFixed, solve_anyVar, solve_isAtom, solve_head_flag hf, solve_throw, Args.get,
    ne_atom ha, ↓reduceIte, ha, hf, hv, Bool.or_self, Bool.false_eq_true, specSet]
  cases f with
  | var _ => cases hf
  | atom _ => cases ha
  | _ => rfl

/-- clause resolution over the corrected `set_prolog_flag/2` clauses = the table. -/
theorem set_eq_spec (f v : Term) (st : St) : set f v st = specSet f v st := by
  unfold set
  cases hfv : (f.isVar || v.isVar) with
  | true => simp only [spfFixed, solve_anyVar, solve_throw, specSet, hfv, ↓reduceIte]
  | false =>
    obtain ⟨hf, hv⟩ := Bool.or_eq_false_iff.1 hfv
    cases f with
    | var n => simp [Term.isVar] at hf
    | atom s =>
      cases h : Flag.ofName? s with
      | none =>
        simp only [spfFixed, solve_anyVar, solve_isAtom, solve_head_flag (isVar_atom s), solve_throw,
          Args.get, Term.atom.injEq, ofName_none h, ↓reduceIte, Term.isAtom, isVar_atom, hv,
          Bool.or_self, Bool.false_eq_true, specSet, h]
      | some k => rw [ofName_some h]; exact set_known k v st hv
    | _ => exact set_nonatom _ v st rfl rfl hv

/-! ### the table: what a call does to the state, the invariant -/

@[simp] theorem specGet_st (f v : Term) (st : St) : (specGet f v st).st = st := by
  fun_cases specGet f v st <;> rfl

theorem get_st (f v : Term) (st : St) : (get f v st).st = st := by
  rw [get_eq_spec]; exact specGet_st f v st

theorem value_store (k : Flag) (v : Term) (st : St) (hw : k.writable = true)
    (hv : k.vclass v = .ok) : k.value (k.store v st) = some v := by
  cases k <;> simp [Flag.writable] at hw <;> simp only [Flag.vclass] at hv
  case awo => simp [Flag.value, Flag.store, answerWriteOptions]
  -- `double_quotes`, `unknown`, `occurs_check`: `.ok` means `v` is one of the flag's three atoms
  all_goals
    split at hv
    · rename_i h
      rcases h with h | h | h <;> subst h <;>
        simp [Flag.value, Flag.store, DQ.toAtom, Unk.toAtom, OC.flagValue]
    · cases hv

theorem value_store_other (k k' : Flag) (v : Term) (st : St) (hne : k' ≠ k) :
    k'.value (k.store v st) = k'.value st := by
  cases k <;> first | rfl | (cases k' <;> first | rfl | exact absurd rfl hne)

theorem wf_store (k : Flag) (v : Term) (st : St) (hv : k.vclass v = .ok) (h : st.wf) :
    (k.store v st).wf := by
  -- `St.wf` reads the field `awo` only, and only `answer_write_options` stores into it (`hv` is then `wf`)
  cases k <;> simp [Flag.store] <;> (try (repeat' split)) <;>
    first | exact h | (simpa [St.wf, Flag.vclass] using hv)

theorem specSet_st_cases (f v : Term) (st : St) :
    (specSet f v st).st = st ∨
      ∃ k : Flag, f = A k.name ∧ k.writable = true ∧ k.vclass v = .ok ∧ v.isVar = false ∧
        (specSet f v st).st = k.store v st ∧ (specSet f v st).answers = [⟨f, v⟩] ∧
        (specSet f v st).err = none := by
  fun_cases specSet f v st
  case case5 s k hk hc hw hfv =>
    exact .inr ⟨k, by rw [ofName_some hk], hw, hc, by simpa using hfv, rfl, rfl, rfl⟩
  -- every other branch keeps `st`: the five refusals with an error, and the two for a read-only
  -- flag (its current value accepted, another appropriate one refused silently)
  all_goals exact .inl rfl

theorem set_st_cases (k : Flag) (v : Term) (st : St) :
    (set (A k.name) v st).st = st ∨ (set (A k.name) v st).st = k.store v st := by
  rw [set_eq_spec]
  rcases specSet_st_cases (A k.name) v st with e | ⟨k', hf, _, _, _, e, _, _⟩
  · exact .inl e
  · cases name_injective (Term.atom.inj hf); exact .inr e

theorem set_store {k : Flag} {v : Term} (hw : k.writable = true) (hv : v.isVar = false)
    (hc : k.vclass v = .ok) (st : St) : (set (A k.name) v st).st = k.store v st := by
  rw [set_eq_spec, specSet_known k v st hv, hc, if_pos hw]

theorem wf_init : St.init.wf := by simp [St.wf, St.init]

theorem step_st_get (f v : Term) (st : St) : (fixed.step (.get f v) st) = get f v st := rfl
theorem step_st_set (f v : Term) (st : St) : (fixed.step (.set f v) st) = set f v st := rfl

theorem wf_step (o : Op) (st : St) (h : st.wf) : (fixed.step o st).st.wf := by
  cases o with
  | get f v => rw [step_st_get, get_st]; exact h
  | set f v =>
    rw [step_st_set, set_eq_spec]
    rcases specSet_st_cases f v st with e | ⟨k, _, _, hc, _, e, _, _⟩
    · rw [e]; exact h
    · rw [e]; exact wf_store k v st hc h

theorem wf_run (ops : List Op) (st : St) (h : st.wf) : (run ops st).wf := by
  induction ops generalizing st with
  | nil => exact h
  | cons o os ih => exact ih _ (wf_step o st h)

/-! ### a given flag answers as the enumeration filtered; a set succeeds iff it reads back -/

theorem beq_term (a b : Term) : (a == b) = decide (a = b) := rfl

theorem head?_filter_eq_lookup (l : List Args) (f : Term) :
    ((l.filter fun a => decide (a.f = f)).head?.map fun a => a.v) =
      (l.map fun a => (a.f, a.v)).lookup f := by
  induction l with
  | nil => rfl
  | cons a l ih =>
    by_cases h : a.f = f
    · simp [h]
    · simpa [h, Ne.symm h, List.lookup_cons, beq_term] using ih

theorem filter_answer (k : Flag) (v : Term) (st : St) (q : Term) :
    ((k.answer v st).toList.filter fun a => decide (a.f = q)) =
      if A k.name = q then (k.answer v st).toList else [] := by
  unfold Flag.answer
  cases k.value st with
  | none => simp
  | some t => cases unifyArg v t <;> by_cases h : A k.name = q <;> simp [h]

theorem specGet_var_answers (n : Nat) (v : Term) (st : St) :
    (specGet (.var n) v st).answers =
      ([.maxArity, .bounded, .irf, .doubleQuotes, .unknown, .occursCheck, .awo] : List Flag).filterMap
        (·.answer v st) :=
  congrArg Outcome.answers (specGet_var n v st)

theorem given_eq_enumerated_spec (f v : Term) (n : Nat) (st : St) (hf : f.isVar = false) :
    (specGet f v st).answers = (specGet (.var n) v st).answers.filter fun a => decide (a.f = f) := by
  simp only [specGet_var_answers, filterMap_cons_toList, List.filterMap_nil, List.filter_append,
    filter_answer]
  cases f with
  | var m => cases hf
  | atom s =>
    cases h : Flag.ofName? s with
    | none => simp [specGet, h, Flag.name, ofName_none h, eq_comm (b := s)]
    | some k =>
      rw [ofName_some h, specGet_known]
      cases k <;> simp [Flag.name] <;> rfl
  | _ => simp [specGet]

theorem checkWriteOptions_nil : checkWriteOptions nil = .ok := by
  simp [checkWriteOptions, listView, nil, checkOptionsSeq]

theorem vclass_value (k : Flag) (st : St) (t : Term) (h : st.wf) (hv : k.value st = some t) :
    k.vclass t = .ok := by
  cases k <;> simp [Flag.value] at hv <;> subst hv
  case awo =>
    simp only [Flag.vclass, answerWriteOptions]
    unfold St.wf at h
    split <;> simp_all [checkWriteOptions_nil]
  case doubleQuotes => cases hd : st.dq <;> simp [Flag.vclass, DQ.toAtom]
  case unknown => cases hd : st.unk <;> simp [Flag.vclass, Unk.toAtom]
  case occursCheck => cases hd : st.oc <;> simp [Flag.vclass, OC.flagValue]
  all_goals simp [Flag.vclass, Term.isInt]

theorem specGet_known_succeeded (k : Flag) (v : Term) (st : St) (hv : v.isVar = false) :
    (specGet (A k.name) v st).succeeded = decide (k.value st = some v) := by
  rw [specGet_known, Flag.answer]
  cases k.value st with
  | none => rfl
  | some t =>
    by_cases h : v = t
    · subst h; simp [unifyArg_self, Outcome.succeeded]
    · simp [unifyArg_bound hv, h, Outcome.succeeded, Ne.symm h]

theorem set_iff_reads_back_spec (f v : Term) (st : St) (hwf : st.wf)
    (hf : f.isVar = false) (hv : v.isVar = false) :
    (specSet f v st).succeeded = (specGet f v (specSet f v st).st).succeeded := by
  cases f with
  | var m => simp at hf
  | atom s =>
    cases h : Flag.ofName? s with
    | none => simp [specSet_unknown_atom s v st hv h, specGet, h, Outcome.succeeded]
    | some k =>
      have hs := ofName_some h
      subst hs
      rw [specGet_known_succeeded k v _ hv, specSet_known k v st hv]
      cases hc : k.vclass v with
      | ok =>
        cases hw : k.writable with
        | true => simp [Outcome.succeeded, value_store k v st hw hc]
        | false =>
          by_cases hval : k.value st = some v <;> simp [hval, Outcome.succeeded]
      | _ =>
        -- a current value is appropriate, so an inappropriate `v` is not the current value
        have : k.value st ≠ some v := fun e => by
          have := vclass_value k st v hwf e; rw [hc] at this; cases this
        simp [Outcome.succeeded, this]
  | _ => simp [specSet, hv, specGet, Outcome.succeeded]

/-! ### the value of a flag after a history; read-only flags; a state field from its flag value -/

/-- the value a write operation stores into flag `k`, if it is an effective write to `k`. -/
def Op.writes (k : Flag) : Op → Option Term
  | .set f v => if f = A k.name ∧ v.isVar = false ∧ k.vclass v = .ok then some v else none
  | .get _ _ => none

/-- value of `k` after a history, computed from the history alone: the last effective write,
    or the starting value. -/
def expectedValue (k : Flag) : List Op → Option Term → Option Term
  | [], cur => cur
  | o :: os, cur => expectedValue k os (match o.writes k with | some v => some v | none => cur)

theorem value_step (k : Flag) (hw : k.writable = true) (o : Op) (st : St) :
    k.value (fixed.step o st).st = match o.writes k with | some v => some v | none => k.value st := by
  cases o with
  | get f v => simp [step_st_get, get_st, Op.writes]
  | set f v =>
    rw [step_st_set]
    by_cases h : f = A k.name ∧ v.isVar = false ∧ k.vclass v = .ok
    · obtain ⟨rfl, hv, hc⟩ := h
      simp [Op.writes, hv, hc, set_store hw hv hc, value_store k v st hw hc]
    · rw [set_eq_spec]
      rcases specSet_st_cases f v st with e | ⟨k', hf, _, hc, hv, e, _, _⟩
      · simp [Op.writes, h, e]
      · -- the write went to another flag
        have : k ≠ k' := fun hk => h ⟨hk ▸ hf, hv, hk ▸ hc⟩
        simp [Op.writes, h, e, value_store_other k' k v st this]

theorem value_run (k : Flag) (hw : k.writable = true) (ops : List Op) (st : St) :
    k.value (run ops st) = expectedValue k ops (k.value st) := by
  induction ops generalizing st with
  | nil => rfl
  | cons o os ih =>
    show k.value (fixed.run os (fixed.step o st).st) = _
    rw [show fixed.run os (fixed.step o st).st = run os (fixed.step o st).st from rfl, ih,
      value_step k hw o st]
    rfl

theorem value_readonly (k : Flag) (hw : k.writable = false) (st st' : St) :
    k.value st = k.value st' := by
  cases k <;> simp [Flag.writable] at hw <;> rfl

theorem specSet_readonly_st (k : Flag) (hw : k.writable = false) (v : Term) (st : St) :
    (specSet (A k.name) v st).st = st := by
  rcases specSet_st_cases (A k.name) v st with e | ⟨k', hf, hw', _⟩
  · exact e
  · injection hf with hf
    rw [← name_injective hf] at hw'; rw [hw] at hw'; cases hw'

theorem dq_of_value (st st' : St) (h : Flag.doubleQuotes.value st = Flag.doubleQuotes.value st') :
    st.dq = st'.dq := by
  simp [Flag.value] at h
  cases h1 : st.dq <;> cases h2 : st'.dq <;> simp [h1, h2, DQ.toAtom] at h ⊢
theorem unk_of_value (st st' : St) (h : Flag.unknown.value st = Flag.unknown.value st') :
    st.unk = st'.unk := by
  simp [Flag.value] at h
  cases h1 : st.unk <;> cases h2 : st'.unk <;> simp [h1, h2, Unk.toAtom] at h ⊢
theorem oc_of_value (st st' : St) (h : Flag.occursCheck.value st = Flag.occursCheck.value st') :
    st.oc = st'.oc := by
  simp [Flag.value] at h
  cases h1 : st.oc <;> cases h2 : st'.oc <;> simp [h1, h2, OC.flagValue] at h ⊢

end Scryer.Flags
