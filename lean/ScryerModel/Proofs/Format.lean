import ScryerModel.Model.Format
import ScryerModel.Proofs.Positional
import Mathlib.Algebra.GroupWithZero.Nat
import Mathlib.Algebra.Group.Int.Defs
/-! Lemmas for C36 (format_//2) about the text the directives produce: digit strings and their
positional value, the decimal point, groups of three, glue and columns. -/
namespace Scryer.Format

/-! ## reading digit strings back (specification side) -/

/-- value of a digit character (`0-9`, `a-z`, `A-Z`). -/
def digitVal (c : Char) : Nat :=
  if '0' ≤ c ∧ c ≤ '9' then c.toNat - 48
  else if 'a' ≤ c ∧ c ≤ 'z' then c.toNat - 87
  else if 'A' ≤ c ∧ c ≤ 'Z' then c.toNat - 55
  else 0

/-- positional value of a digit string, most significant digit first (Horner). It unfolds to
`Positional.horner r digitVal 0`, so the lemmas of that file apply to it as they stand. -/
def horner (r : Nat) (cs : List Char) : Nat := cs.foldl (fun acc c => acc * r + digitVal c) 0

def isDec (c : Char) : Prop := isDigit c = true

/-- reads an optionally signed decimal string. -/
def readInt : List Char → Int
  | '-' :: cs => -(horner 10 cs : Int)
  | cs => (horner 10 cs : Int)

theorem horner_nil (r : Nat) : horner r [] = 0 := rfl

theorem horner_append (r : Nat) (as bs : List Char) :
    horner r (as ++ bs) = horner r as * r ^ bs.length + horner r bs :=
  Positional.horner_append ..

theorem horner_singleton (r : Nat) (c : Char) : horner r [c] = digitVal c := by
  simp [horner]

theorem horner_snoc (r : Nat) (cs : List Char) (c : Char) :
    horner r (cs ++ [c]) = horner r cs * r + digitVal c :=
  Positional.horner_snoc ..

theorem horner_cons (r : Nat) (c : Char) (cs : List Char) :
    horner r (c :: cs) = digitVal c * r ^ cs.length + horner r cs := by
  rw [← List.singleton_append, horner_append, horner_singleton]

theorem horner_replicate_zero (r k : Nat) : horner r (List.replicate k '0') = 0 := by
  induction k with
  | zero => rfl
  | succ k ih => rw [List.replicate_succ, horner_cons, ih]; exact Nat.zero_mul _

/-! ## the digit table

`digitChar` is a table of 2 × 36 entries: what is said about single entries is checked entry by
entry; `digitVal` being a left inverse tells the entries apart. -/

theorem digitVal_digitChar (up : Bool) : ∀ d, d < 36 → digitVal (digitChar up d) = d := by
  cases up <;> decide +kernel

theorem digitChar_upper : ∀ d, d < 36 → digitChar true d = (digitChar false d).toUpper := by
  decide +kernel

theorem digitChar_isDigit : ∀ d, d < 10 → isDigit (digitChar false d) = true := by decide +kernel

theorem digitChar_zero_iff (up : Bool) {d : Nat} (h : d < 36) : digitChar up d = '0' ↔ d = 0 := by
  constructor
  · intro e
    rw [← digitVal_digitChar up d h, e]
    decide
  · rintro rfl
    cases up <;> rfl

/-! ## `digitsLE` -/

theorem digitsLE_zero (r : Nat) : digitsLE r 0 = [] := by
  rw [digitsLE, dif_pos (Or.inl rfl)]

theorem digitsLE_pos {r n : Nat} (hr : 2 ≤ r) (hn : n ≠ 0) :
    digitsLE r n = n % r :: digitsLE r (n / r) := by
  rw [digitsLE, dif_neg (by omega)]

theorem digitsLE_lt (r n : Nat) : ∀ d ∈ digitsLE r n, d < r := by
  fun_induction digitsLE r n with
  | case1 n h => exact fun d hd => nomatch hd
  | case2 n h ih =>
    intro d hd
    rcases List.mem_cons.mp hd with rfl | hd
    · exact Nat.mod_lt _ (by omega)
    · exact ih d hd

theorem drop_digitsLE {r : Nat} (hr : 2 ≤ r) (k : Nat) :
    ∀ m, (digitsLE r m).drop k = digitsLE r (m / r ^ k) := by
  induction k with
  | zero => intro m; simp
  | succ k ih =>
    intro m
    by_cases hm : m = 0
    · subst hm; simp [digitsLE_zero]
    · rw [digitsLE_pos hr hm, List.drop_succ_cons, ih, Nat.div_div_eq_div_mul, Nat.pow_succ']

/-! ## big-endian digit strings -/

/-- big-endian characters of a little-endian digit list. -/
def beChars (up : Bool) (ds : List Nat) : List Char := (ds.map (digitChar up)).reverse

theorem beChars_cons (up : Bool) (d : Nat) (ds : List Nat) :
    beChars up (d :: ds) = beChars up ds ++ [digitChar up d] := by
  simp [beChars]

theorem beChars_numeral (up : Bool) {r : Nat} (h2 : 2 ≤ r) {n : Nat} (hn : n ≠ 0) :
    Positional.Numeral r (digitChar up) n (beChars up (digitsLE r n)) := by
  induction n using Nat.strongRecOn with
  | _ n ih =>
    rw [digitsLE_pos h2 hn, beChars_cons]
    by_cases hlt : n < r
    · rw [Nat.div_eq_of_lt hlt, digitsLE_zero, Nat.mod_eq_of_lt hlt]
      exact .small hlt
    · have hle := Nat.le_of_not_lt hlt
      exact .step hle (ih _ (Nat.div_lt_self (by omega) (by omega)) (Nat.ne_of_gt (Nat.div_pos hle (by omega))))

theorem beChars_upper {ds : List Nat} (h : ∀ d ∈ ds, d < 36) :
    beChars true ds = (beChars false ds).map Char.toUpper := by
  simp only [beChars, List.map_reverse, List.map_map]
  exact congrArg _ (List.map_congr_left fun d hd => digitChar_upper d (h d hd))

/-! ## `natChars` / `intChars` -/

theorem natChars_numeral (n : Nat) : Positional.Numeral 10 (digitChar false) n (natChars n) := by
  by_cases hn : n = 0
  · subst hn
    exact .small (by decide)
  · rw [natChars, if_neg hn]
    exact beChars_numeral false (by decide) hn

theorem natChars_spec (n : Nat) : (∀ c ∈ natChars n, isDec c) ∧
    horner 10 (natChars n) = n ∧ natChars n ≠ [] :=
  (natChars_numeral n).spec (by decide) fun d hd => ⟨digitChar_isDigit d hd, digitVal_digitChar false d (by omega)⟩

theorem natChars_ne_nil (n : Nat) : natChars n ≠ [] := (natChars_spec n).2.2

theorem horner_natChars (n : Nat) : horner 10 (natChars n) = n := (natChars_spec n).2.1

theorem natChars_isDec (n : Nat) : ∀ c ∈ natChars n, isDec c := (natChars_spec n).1

theorem natChars_lt_pow (m : Nat) : m < 10 ^ (natChars m).length :=
  (natChars_numeral m).lt_pow (by decide)

theorem intChars_natCast (m : Nat) : intChars (m : Int) = natChars m := by
  rw [intChars, if_neg (by omega), Int.natAbs_natCast]

theorem natChars_split {m k : Nat} (hk : k < (natChars m).length) :
    ∃ lo, natChars m = natChars (m / 10 ^ k) ++ lo ∧ lo.length = k ∧ horner 10 lo = m % 10 ^ k := by
  obtain ⟨hi, lo, e, hhi, h⟩ := Positional.Numeral.split (v := digitVal) (by decide)
    (fun d hd => digitVal_digitChar false d (by omega)) k (natChars_numeral m) hk
  exact ⟨lo, by rw [e, hhi.unique (natChars_numeral _)], h⟩

/-- how `~Nf` gets its `n` fraction digits, zero padded: it prints `10^n + g`. -/
theorem natChars_pow_add {n g : Nat} (hg : g < 10 ^ n) :
    ∃ ds, natChars (10 ^ n + g) = '1' :: ds ∧ ds.length = n ∧ horner 10 ds = g := by
  obtain ⟨lo, e, hl, hv⟩ := natChars_split <| (Nat.pow_lt_pow_iff_right (a := 10) (by decide)).1 <|
    Nat.lt_of_le_of_lt (Nat.le_add_right _ g) (natChars_lt_pow _)
  rw [Nat.add_mod_left, Nat.mod_eq_of_lt hg] at hv
  rw [Nat.div_eq_of_lt_le (k := 1) (by omega) (by omega), show natChars 1 = ['1'] by decide +kernel] at e
  exact ⟨lo, e, hl, hv⟩

theorem readInt_natChars (n : Nat) : readInt (natChars n) = n := by
  unfold readInt
  split
  · rename_i cs e
    exact absurd (natChars_isDec n '-' (e ▸ List.mem_cons_self)) (Bool.noConfusion ·)
  · rw [horner_natChars]

/-! ## the decimal point -/

theorem insertPoint_zero (cs : List Char) : insertPoint 0 cs = cs := if_pos rfl

theorem insertPoint_append {n : Nat} (hn : 0 < n) {hi lo : List Char} (hhi : hi ≠ [])
    (hlo : lo.length = n) : insertPoint n (hi ++ lo) = hi ++ '.' :: lo := by
  subst hlo
  rw [insertPoint, if_neg (Nat.ne_of_gt hn), List.length_append,
    if_neg (Nat.not_le.2 (Nat.lt_add_of_pos_left (List.length_pos_iff.2 hhi))), Nat.add_sub_cancel,
    List.take_left, List.drop_left]

/-- the text of `~Nd`, N > 0, for a non-negative number. -/
theorem insertPoint_pos {n : Nat} (hn : 0 < n) (m : Nat) :
    ∃ fp, insertPoint n (natChars m) = natChars (m / 10 ^ n) ++ '.' :: fp ∧ fp.length = n ∧
      horner 10 fp = m % 10 ^ n ∧ ∀ c ∈ fp, isDec c := by
  by_cases hl : (natChars m).length ≤ n
  · have hlt : m < 10 ^ n :=
      Nat.lt_of_lt_of_le (natChars_lt_pow m) (Nat.pow_le_pow_right (by decide) hl)
    refine ⟨List.replicate (n - (natChars m).length) '0' ++ natChars m, ?_, ?_, ?_, ?_⟩
    · rw [insertPoint, if_neg (by omega), if_pos hl, Nat.div_eq_of_lt hlt]; rfl
    · rw [List.length_append, List.length_replicate]; omega
    · rw [horner_append, horner_replicate_zero, horner_natChars, Nat.mod_eq_of_lt hlt,
        Nat.zero_mul, Nat.zero_add]
    · intro c hc
      rcases List.mem_append.mp hc with h | h
      · rw [(List.mem_replicate.mp h).2]; exact (rfl : isDigit '0' = true)
      · exact natChars_isDec m c h
  · obtain ⟨lo, e, h2, h3⟩ := natChars_split (Nat.lt_of_not_le hl)
    exact ⟨lo, by rw [e, insertPoint_append hn (natChars_ne_nil _) h2], h2, h3,
      fun c hc => natChars_isDec m c (e ▸ List.mem_append_right _ hc)⟩

theorem sign_prefix (i : Int) (ds : List Char) :
    (if i < 0 then '-' :: ds else ds) = (if i < 0 then ['-'] else []) ++ ds := by
  split <;> rfl

theorem fmtD_sign (n : Nat) (i : Int) :
    fmtD false n i = (if i < 0 then ['-'] else []) ++ insertPoint n (natChars i.natAbs) :=
  sign_prefix i _

/-! ## groups of three -/

theorem sepBody_append (sep : Char) {l frac : List Char} (hl : '.' ∉ l)
    (hf : frac = [] ∨ ∃ fp, frac = '.' :: fp) :
    sepBody sep (l ++ frac) = (groups3 sep l.reverse).reverse ++ frac := by
  have hp : ∀ a ∈ l, decide (a ≠ '.') = true := fun a ha => decide_eq_true fun e => hl (e ▸ ha)
  rw [sepBody, List.takeWhile_append_of_pos hp, List.dropWhile_append_of_pos hp]
  rcases hf with rfl | ⟨fp, rfl⟩ <;> simp

/-- `~Nd` and `~ND` side by side: they differ in the grouping of the integer part only. -/
theorem fmtSep_eq (sep : Char) (n : Nat) (i : Int) :
    ∃ frac,
      fmtD false n i = (if i < 0 then ['-'] else []) ++ natChars (i.natAbs / 10 ^ n) ++ frac ∧
      fmtSep false sep n i = (if i < 0 then ['-'] else []) ++
        (groups3 sep (natChars (i.natAbs / 10 ^ n)).reverse).reverse ++ frac ∧
      (frac = [] ∨ ∃ fp, frac = '.' :: fp ∧ ∀ c ∈ fp, isDec c) := by
  obtain ⟨frac, h, hf⟩ : ∃ frac,
      insertPoint n (natChars i.natAbs) = natChars (i.natAbs / 10 ^ n) ++ frac ∧
      (frac = [] ∨ ∃ fp, frac = '.' :: fp ∧ ∀ c ∈ fp, isDec c) := by
    by_cases hn : n = 0
    · subst hn
      exact ⟨[], by rw [insertPoint_zero, Nat.pow_zero, Nat.div_one, List.append_nil], .inl rfl⟩
    · obtain ⟨fp, h, _, _, hdec⟩ := insertPoint_pos (Nat.pos_of_ne_zero hn) i.natAbs
      exact ⟨_, h, .inr ⟨fp, rfl, hdec⟩⟩
  have hdot : '.' ∉ natChars (i.natAbs / 10 ^ n) := fun h => Bool.noConfusion (natChars_isDec _ _ h)
  refine ⟨frac, by rw [fmtD_sign, h, List.append_assoc], ?_, hf⟩
  rw [List.append_assoc, ← sepBody_append sep hdot (hf.imp_right fun ⟨fp, e, _⟩ => ⟨fp, e⟩), ← h]
  exact sign_prefix i _

theorem sep_not_isDec {sep : Char} (hsep : sep = ',' ∨ sep = '_') : ¬ isDec sep := by
  rcases hsep with rfl | rfl <;> exact fun h => Bool.noConfusion h

theorem filter_ne_self {sep : Char} {l : List Char} (hs : sep ∉ l) : l.filter (· != sep) = l :=
  List.filter_eq_self.mpr fun _ ha => bne_iff_ne.mpr fun e => hs (e ▸ ha)

theorem groups3_filter (sep : Char) (l : List Char) :
    (groups3 sep l).filter (· != sep) = l.filter (· != sep) := by
  fun_induction groups3 sep l with
  | case1 a b c d t ih =>
    simp only [List.filter_cons, ih, bne_self_eq_false, Bool.false_eq_true, ↓reduceIte]
  | case2 ls h => rfl

/-- `l` is the integer part reversed, so positions count from its right end; `length % 4 ≠ 0`:
    the grouped text does not end with a separator. -/
theorem groups3_sep_positions (sep : Char) (l : List Char) (hs : sep ∉ l) :
    (∀ p (hp : p < (groups3 sep l).length), ((groups3 sep l)[p] = sep ↔ p % 4 = 3)) ∧
    (l ≠ [] → (groups3 sep l).length % 4 ≠ 0) := by
  fun_induction groups3 sep l with
  | case1 a b c d t ih =>
    simp only [List.mem_cons, not_or] at hs
    obtain ⟨ha, hb, hc, hd⟩ := hs
    obtain ⟨ih1, ih2⟩ := ih (by simpa only [List.mem_cons, not_or] using hd)
    refine ⟨fun p hp => ?_, fun _ => ?_⟩
    · match p, hp with
      | 0, _ => exact ⟨fun e => absurd e.symm ha, fun e => absurd e (by decide)⟩
      | 1, _ => exact ⟨fun e => absurd e.symm hb, fun e => absurd e (by decide)⟩
      | 2, _ => exact ⟨fun e => absurd e.symm hc, fun e => absurd e (by decide)⟩
      | 3, _ => exact ⟨fun _ => rfl, fun _ => rfl⟩
      | p + 4, hp =>
        rw [Nat.add_mod_right]
        exact ih1 p (Nat.lt_of_add_lt_add_right (n := 4) hp)
    · have := ih2 (List.cons_ne_nil _ _)
      show ((groups3 sep (d :: t)).length + 4) % 4 ≠ 0
      rwa [Nat.add_mod_right]
  | case2 ls h =>
    have hlen : ls.length < 4 := by
      match ls with
      | [] | [_] | [_, _] | [_, _, _] => exact Nat.le_of_ble_eq_true rfl
      | a :: b :: c :: d :: t => exact absurd rfl (h a b c d t)
    refine ⟨fun p hp => ⟨fun e => absurd (e ▸ List.getElem_mem hp) hs, fun e => ?_⟩, fun hne => ?_⟩
    · rw [Nat.mod_eq_of_lt (Nat.lt_trans hp hlen)] at e
      exact absurd (e ▸ hp) (Nat.not_lt.2 (Nat.le_of_lt_succ hlen))
    · rw [Nat.mod_eq_of_lt hlen]
      exact fun e => hne (List.eq_nil_of_length_eq_zero e)

/-! ## glue -/

/-- covers `space ≤ 0` too: `toNat` of a non-positive number is 0, so all glue gets 0. -/
theorem glueSizes_shape {k : Nat} (hk : k ≠ 0) (space : Int) :
    glueSizes k space =
      List.replicate (k - 1) (space.toNat / k) ++ [space.toNat / k + space.toNat % k] := by
  obtain ⟨j, rfl⟩ := Nat.exists_eq_succ_of_ne_zero hk
  rw [glueSizes, if_neg hk]
  split
  · rename_i hs
    rw [Int.toNat_of_nonpos hs, Nat.zero_div, Nat.zero_mod]
    exact List.replicate_succ'
  · simp only [← Nat.mod_eq_sub_div_mul]
    split
    · rename_i h0
      rw [h0, Nat.add_zero]
      exact List.replicate_succ'
    · rfl

theorem glueSizes_length (k : Nat) (space : Int) : (glueSizes k space).length = k := by
  by_cases hk : k = 0
  · subst hk; rfl
  · rw [glueSizes_shape hk, List.length_append, List.length_replicate]
    exact Nat.sub_add_cancel (Nat.pos_of_ne_zero hk)

theorem glueSizes_sum {k : Nat} (hk : k ≠ 0) (space : Int) :
    (glueSizes k space).sum = space.toNat := by
  rw [glueSizes_shape hk, List.sum_append, List.sum_replicate_nat, List.sum_singleton,
    ← Nat.add_assoc, ← Nat.succ_mul, Nat.succ_eq_add_one, Nat.sub_add_cancel (Nat.pos_of_ne_zero hk)]
  exact Nat.div_add_mod _ _

/-! ## columns -/

/-- all the text of a cell, in order. -/
def allText : List Seg → List Char
  | [] => []
  | .txt cs :: r => cs ++ allText r
  | .pad _ :: r => allText r

theorem allText_length (segs : List Seg) : (allText segs).length = textWidth segs := by
  fun_induction allText segs with
  | case1 => rfl
  | case2 cs r ih => rw [List.length_append, ih]; rfl
  | case3 c r ih => exact ih

theorem fill_length (segs : List Seg) (ns : List Nat) (h : ns.length = countPads segs) :
    (fill segs ns).length = textWidth segs + ns.sum := by
  -- the clauses of `fill`: no segment, text, glue with its size, glue when the sizes are used up
  fun_induction fill segs ns with
  | case1 ns => rw [List.eq_nil_of_length_eq_zero h]; rfl
  | case2 cs r ns ih => rw [List.length_append, ih h, textWidth, Nat.add_assoc]
  | case3 c r n ns ih =>
    rw [List.length_append, List.length_replicate, ih (Nat.succ.inj h), textWidth, List.sum_cons]
    omega
  | case4 c r ih => exact nomatch h

theorem fill_sublist (segs : List Seg) (ns : List Nat) : (allText segs).Sublist (fill segs ns) := by
  fun_induction fill segs ns with
  | case1 ns => exact List.Sublist.refl _
  | case2 cs r ns ih => exact List.Sublist.append (List.Sublist.refl _) ih
  | case3 c r n ns ih => exact ih.trans (List.sublist_append_right _ _)
  | case4 c r ih => exact ih

theorem fill_no_pads (segs : List Seg) (ns : List Nat) (h : countPads segs = 0) :
    fill segs ns = allText segs := by
  fun_induction fill segs ns with
  | case1 ns => rfl
  | case2 cs r ns ih => rw [allText, ih h]
  | case3 c r n ns ih => exact nomatch h
  | case4 c r ih => exact nomatch h

end Scryer.Format
