import ScryerModel.Model.Json
import ScryerModel.Proofs.ListFacts
import ScryerModel.Proofs.Positional
/-! Lemmas about the functions of the JSON model (C41), one layer at a time: characters and the
    escape table, decimal digits, scanning, normalised decimals, string escapes, and what one step
    of each of the three value parsers does. The grammar and the theorems about whole values are
    in `JsonGrammar.lean`. -/
namespace Scryer.Json

/-! ## characters and digits -/

theorem digitChar_spec : ∀ n, n < 10 → isDigit (digitChar n) = true ∧ digitVal (digitChar n) = n := by
  decide

theorem digitChar_ne_zero : ∀ n, n < 10 → 1 ≤ n → digitChar n ≠ '0' := by decide

theorem hexChar_spec : ∀ n, n < 16 → hexVal (hexChar n) = some n := by decide

theorem isWs_cases {c : Char} (h : isWs c = true) : c = ' ' ∨ c = '\n' ∨ c = '\r' ∨ c = '\t' := by
  simpa only [isWs, Bool.or_eq_true, beq_iff_eq, or_assoc] using h

/-! ## the escape table -/

/-- `escape_char/2` as a table: (character, the letter after the backslash) -/
def escapeTable : List (Char × Char) :=
  [('"', '"'), ('\\', '\\'), ('/', '/'), ('\x08', 'b'), ('\x0c', 'f'), ('\n', 'n'), ('\r', 'r'), ('\t', 't')]

theorem escapeTable_spec :
    ∀ x ∈ escapeTable, escapeOf x.1 = some x.2 ∧ unescapeOf x.2 = some x.1 ∧ x.2 ≠ 'u' := by decide

/-- One step of an `if`-chain over keys: it answers `some p` only for a pair of its table.
    (`split` on the whole chain is very slow to check.) -/
theorem mem_of_ite_eq_some {α β} [DecidableEq α] {c k : α} {v p : β} {o : Option β} {l : List (α × β)}
    (ih : o = some p → (c, p) ∈ l) (h : (if c = k then some v else o) = some p) :
    (c, p) ∈ (k, v) :: l := by
  by_cases hc : c = k
  · rw [if_pos hc] at h
    cases h
    rw [hc]
    exact List.mem_cons_self
  · rw [if_neg hc] at h
    exact List.mem_cons_of_mem _ (ih h)

theorem escapeOf_mem {c p : Char} : escapeOf c = some p → (c, p) ∈ escapeTable := by
  unfold escapeOf escapeTable
  repeat refine mem_of_ite_eq_some ?_
  exact nofun

theorem unescapeOf_mem {c p : Char} : unescapeOf p = some c → (p, c) ∈ escapeTable.map Prod.swap := by
  unfold unescapeOf escapeTable
  repeat refine mem_of_ite_eq_some ?_
  exact nofun

theorem escapeOf_some {c p : Char} (h : escapeOf c = some p) : unescapeOf p = some c ∧ p ≠ 'u' :=
  (escapeTable_spec _ (escapeOf_mem h)).2

theorem unescapeOf_some {p c : Char} (h : unescapeOf p = some c) : escapeOf c = some p := by
  obtain ⟨x, hx, he⟩ := List.mem_map.1 (unescapeOf_mem h)
  cases he
  exact (escapeTable_spec x hx).1

theorem escapeOf_none {c : Char} (h : escapeOf c = none) : c ≠ '"' ∧ c ≠ '\\' := by
  constructor <;> (rintro rfl; cases h)

/-! ## decimal digits of a natural number -/

/-- left fold used by `digitsVal`, with an explicit start value -/
def dv (a : Nat) (ds : List Char) : Nat := ds.foldl (fun a c => a * 10 + digitVal c) a


theorem dv_append (a : Nat) (xs ys : List Char) : dv a (xs ++ ys) = dv (dv a xs) ys :=
  Positional.horner_horner ..

theorem digitsVal_snoc (xs : List Char) (c : Char) : digitsVal (xs ++ [c]) = digitsVal xs * 10 + digitVal c :=
  Positional.horner_snoc 10 digitVal 0 xs c

def allDigits (ds : List Char) : Prop := ∀ c ∈ ds, isDigit c = true

theorem natDigitsF_numeral : ∀ f n, n < f → Positional.Numeral 10 digitChar n (natDigitsF f n)
  | 0, _, h => absurd h (Nat.not_lt_zero _)
  | f + 1, n, h => by
    rw [natDigitsF]
    split
    · exact .small ‹_›
    · exact .step (by omega) (natDigitsF_numeral f _ (by omega))

theorem natDigits_numeral (n : Nat) : Positional.Numeral 10 digitChar n (natDigits n) :=
  natDigitsF_numeral _ n (Nat.lt_succ_self n)

theorem natDigits_spec (n : Nat) : allDigits (natDigits n) ∧ digitsVal (natDigits n) = n ∧ natDigits n ≠ [] :=
  (natDigits_numeral n).spec (by decide) digitChar_spec

theorem natDigits_digits (n : Nat) : allDigits (natDigits n) := (natDigits_spec n).1
theorem natDigits_val (n : Nat) : digitsVal (natDigits n) = n := (natDigits_spec n).2.1

theorem natDigits_intOk (n : Nat) : intOk (natDigits n) = true := by
  obtain ⟨m, r, hc, hm, h1, h2⟩ := (natDigits_numeral n).head (by decide)
  rw [hc]
  cases r with
  | nil => rfl
  | cons d ds =>
    have : ¬ n < 10 := fun h => List.cons_ne_nil _ _ (h2 h)
    simp [intOk, digitChar_ne_zero m hm (h1 (by omega))]

/-! ## scanning -/

/-- the text does not continue a run of digits -/
def noDigitHead : List Char → Prop
  | [] => True
  | c :: _ => isDigit c = false

/-- what may follow a number token so that the token ends there -/
def numFollow : List Char → Prop
  | [] => True
  | c :: _ => isDigit c = false ∧ c ≠ '.' ∧ c ≠ 'e' ∧ c ≠ 'E'

theorem numFollow.noDigit {r : List Char} (h : numFollow r) : noDigitHead r := by
  cases r with
  | nil => trivial
  | cons c r => exact h.1

theorem spanDigits_append : ∀ (ds rest : List Char), allDigits ds → noDigitHead rest →
    spanDigits (ds ++ rest) = (ds, rest)
  | [], rest, _, hr => by
    cases rest with
    | nil => rfl
    | cons c r =>
      simp only [noDigitHead] at hr
      simp [spanDigits, hr]
  | d :: ds, rest, hd, hr => by
    have h1 : isDigit d = true := hd d (by simp)
    have h2 : allDigits ds := fun c hc => hd c (by simp [hc])
    simp [spanDigits, h1, spanDigits_append ds rest h2 hr]

theorem parseExp_follow {r : List Char} (h : numFollow r) : parseExp r = some (0, r) := by
  cases r with
  | nil => rfl
  | cons c r => simp [parseExp, h.2.2.1, h.2.2.2]

theorem optMinus_digits {c : Char} {cs : List Char} (h : isDigit c = true) :
    optMinus (c :: cs) = (false, c :: cs) := by
  simp [optMinus, ne_of_class h (x := '-') rfl]

theorem optSign_digits {c : Char} {cs : List Char} (h : isDigit c = true) :
    optSign (c :: cs) = (false, c :: cs) := by
  simp [optSign, ne_of_class h (x := '-') rfl, ne_of_class h (x := '+') rfl]

/-! ## normalised decimals -/

theorem normDec_zero (e : Int) : normDec 0 e = (0, 0) := by
  simp [normDec, normDecF]

theorem normDecF_canon {f m : Nat} {e : Int} (hf : 0 < f) (h0 : m ≠ 0) (h : m % 10 ≠ 0) :
    normDecF f m e = (m, e) := by
  cases f with
  | zero => omega
  | succ f => simp [normDecF, h0, h]

/-- the canonical spelling `m.0e<e>` has mantissa `10·m` and exponent `e-1` -/
theorem normDec_mul10 (m : Nat) (e : Int) (h0 : m ≠ 0) (h : m % 10 ≠ 0) :
    normDec (m * 10) (e - 1) = (m, e) := by
  unfold normDec
  rw [normDecF, if_neg (Nat.mul_ne_zero h0 (by decide)), if_pos (Nat.mul_mod_left m 10),
    Nat.mul_div_cancel m (by decide), Int.sub_add_cancel]
  exact normDecF_canon (by omega) h0 h

/-! ## `mkNum` only builds canonical numbers -/

theorem normDecF_wf (neg : Bool) : ∀ (f m : Nat) (e : Int), m < f →
    (Num.dec (neg && (normDecF f m e).1 != 0) (normDecF f m e).1 (normDecF f m e).2).wf
  | 0, m, e, h => absurd h (Nat.not_lt_zero _)
  | f + 1, m, e, h => by
    rw [normDecF]
    by_cases h0 : m = 0
    · rw [if_pos h0]
      exact ⟨fun _ => ⟨rfl, Bool.and_false _⟩, fun h => absurd rfl h⟩
    · rw [if_neg h0]
      by_cases h1 : m % 10 = 0
      · rw [if_pos h1]
        exact normDecF_wf neg f (m / 10) (e + 1) (by omega)
      · rw [if_neg h1]
        exact ⟨fun h => absurd h h0, fun _ => h1⟩

theorem dec_wf (neg : Bool) (m : Nat) (e : Int) :
    (Num.dec (neg && (normDec m e).1 != 0) (normDec m e).1 (normDec m e).2).wf :=
  normDecF_wf neg (m + 1) m e (Nat.lt_succ_self m)

theorem mkNum_wf (neg : Bool) (ids : List Char) (frac : Option (List Char)) (ex : Int) :
    (mkNum neg ids frac ex).wf := by
  unfold mkNum
  split
  · split
    · trivial
    · exact dec_wf _ _ _
  · exact dec_wf _ _ _

/-! ## strings -/

theorem hex4_low (n : Nat) (h : n < 256) :
    hex4 '0' '0' (hexChar (n / 16)) (hexChar (n % 16)) = some n := by
  have h1 := hexChar_spec (n / 16) (by omega)
  have h2 := hexChar_spec (n % 16) (by omega)
  have h0 : hexVal '0' = some 0 := by decide
  simp only [hex4, h0, h1, h2]
  congr 1
  omega

/-- prepend a character to a successful `parseChars` result -/
def consRes (c : Char) : Option (List Char × List Char) → Option (List Char × List Char)
  | some (cs, rest) => some (c :: cs, rest)
  | none => none

theorem parseChars_quote (r : List Char) : parseChars ('"' :: r) = some ([], r) := by
  rw [parseChars.eq_def]; simp

theorem parseChars_cons_raw {c : Char} {r : List Char} (h1 : c ≠ '"') (h2 : c ≠ '\\')
    (h3 : ¬ c.toNat < 32) :
    parseChars (c :: r) = consRes c (parseChars r) := by
  rw [parseChars.eq_def]
  simp only [h1, h2, h3, if_false]
  cases parseChars r <;> rfl

theorem parseChars_cons_esc {p e : Char} {r : List Char} (h1 : p ≠ 'u') (h2 : unescapeOf p = some e) :
    parseChars ('\\' :: p :: r) = consRes e (parseChars r) := by
  rw [parseChars.eq_def]
  simp only [h1, h2, if_false]
  cases parseChars r <;> rfl

theorem parseChars_cons_u {a b c d : Char} {r : List Char} {n : Nat} (h : hex4 a b c d = some n)
    (hl : isLowSurr n = false) (hh : isHighSurr n = false) :
    parseChars ('\\' :: 'u' :: a :: b :: c :: d :: r) = consRes (Char.ofNat n) (parseChars r) := by
  rw [parseChars.eq_def]
  simp only [h, hl, hh]
  cases parseChars r <;> rfl

/-! ### surrogates -/

theorem isLowSurr_of_high {n : Nat} (h : isHighSurr n = true) : isLowSurr n = false := by
  simp [isHighSurr, isLowSurr] at h ⊢; omega

theorem surrPair_range {hi lo : Nat} (h1 : isHighSurr hi = true) (h2 : isLowSurr lo = true) :
    0x10000 ≤ surrPair hi lo ∧ surrPair hi lo ≤ 0x10FFFF := by
  simp [isHighSurr, isLowSurr] at h1 h2
  unfold surrPair
  omega

theorem surrPair_toNat {hi lo : Nat} (h1 : isHighSurr hi = true) (h2 : isLowSurr lo = true) :
    (Char.ofNat (surrPair hi lo)).toNat = surrPair hi lo := by
  have := surrPair_range h1 h2
  apply toNat_ofNat_valid
  simp [Nat.isValidChar]
  omega

theorem parseChars_pair {a b c d a' b' c' d' : Char} {r : List Char} {hi lo : Nat}
    (h1 : hex4 a b c d = some hi) (hh : isHighSurr hi = true)
    (h2 : hex4 a' b' c' d' = some lo) (hl : isLowSurr lo = true) :
    parseChars ('\\' :: 'u' :: a :: b :: c :: d :: '\\' :: 'u' :: a' :: b' :: c' :: d' :: r)
      = consRes (Char.ofNat (surrPair hi lo)) (parseChars r) := by
  rw [parseChars.eq_def]
  simp only [h1, isLowSurr_of_high hh, hh, h2, hl]
  simp
  cases parseChars r <;> rfl

/-! ## values: one step of each of the three parsers

The two containers share their shape: after the opening bracket comes white space and then the
closing bracket or the items (`opened`); after an item comes white space and then a comma and
the further items, or the closing bracket (`afterItem`). -/

/-- wrap the first component of a successful sub-parse -/
def mapRes {α β : Type} (g : α → β) : Option (α × List Char) → Option (β × List Char)
  | some (a, rest) => some (g a, rest)
  | none => none

theorem mapRes_some {α β : Type} {g : α → β} {o : Option (α × List Char)} {b : β} {r : List Char}
    (h : mapRes g o = some (b, r)) : ∃ a, o = some (a, r) ∧ b = g a := by
  rcases o with _ | ⟨a, r'⟩ <;> cases h
  exact ⟨a, rfl, rfl⟩

theorem skipWs_nonws {c : Char} {t : List Char} (h : isWs c = false) : skipWs (c :: t) = c :: t := by
  simp [skipWs, h]

def opened {α : Type} (close : Char) (empty : α) (items : List Char → Option (α × List Char))
    (r : List Char) : Option (α × List Char) :=
  match skipWs r with
  | [] => none
  | d :: r1 => if d = close then some (empty, r1) else items (d :: r1)

def afterItem {α : Type} (close : Char) (last : α) (cons : α → α)
    (more : List Char → Option (α × List Char)) (r : List Char) : Option (α × List Char) :=
  match skipWs r with
  | [] => none
  | d :: r1 => if d = ',' then mapRes cons (more (skipWs r1)) else if d = close then some (last, r1) else none

theorem parseValue_obj (f : Nat) (r : List Char) :
    parseValue (f + 1) ('{' :: r) = mapRes J.obj (opened '}' .nil (parseMembers f) r) := by
  rw [parseValue, if_pos rfl, opened]
  cases skipWs r with
  | nil => rfl
  | cons d r1 =>
    by_cases hd : d = '}'
    · simp only [hd, if_true]; rfl
    · simp only [hd, if_false]
      cases parseMembers f (d :: r1) <;> rfl

theorem parseValue_arr (f : Nat) (r : List Char) :
    parseValue (f + 1) ('[' :: r) = mapRes J.arr (opened ']' .nil (parseElems f) r) := by
  rw [parseValue, if_neg (by decide), if_pos rfl, opened]
  cases skipWs r with
  | nil => rfl
  | cons d r1 =>
    by_cases hd : d = ']'
    · simp only [hd, if_true]; rfl
    · simp only [hd, if_false]
      cases parseElems f (d :: r1) <;> rfl

theorem parseValue_str (f : Nat) (r : List Char) :
    parseValue (f + 1) ('"' :: r) = mapRes J.str (parseChars r) := by
  rw [parseValue.eq_def]
  simp
  cases parseChars r <;> rfl

theorem parseValue_true (f : Nat) (r : List Char) :
    parseValue (f + 1) ('t' :: r) = (stripPrefix ['r', 'u', 'e'] r).map (Prod.mk (.bool true)) := by
  rw [parseValue.eq_def]
  simp
  cases stripPrefix ['r', 'u', 'e'] r <;> rfl

theorem parseValue_false (f : Nat) (r : List Char) :
    parseValue (f + 1) ('f' :: r) = (stripPrefix ['a', 'l', 's', 'e'] r).map (Prod.mk (.bool false)) := by
  rw [parseValue.eq_def]
  simp
  cases stripPrefix ['a', 'l', 's', 'e'] r <;> rfl

theorem parseValue_null (f : Nat) (r : List Char) :
    parseValue (f + 1) ('n' :: r) = (stripPrefix ['u', 'l', 'l'] r).map (Prod.mk .null) := by
  rw [parseValue.eq_def]
  simp
  cases stripPrefix ['u', 'l', 'l'] r <;> rfl

theorem parseValue_num (f : Nat) {c : Char} (r : List Char)
    (h : c ≠ '{' ∧ c ≠ '[' ∧ c ≠ '"' ∧ c ≠ 't' ∧ c ≠ 'f' ∧ c ≠ 'n') :
    parseValue (f + 1) (c :: r) = mapRes J.num (parseNumber (c :: r)) := by
  rw [parseValue]
  simp only [h, if_false]
  cases parseNumber (c :: r) <;> rfl

/-- a number token starts none of the other clauses -/
theorem parseValue_of_number {f : Nat} {s r : List Char} {n : Num} (h : parseNumber s = some (n, r)) :
    parseValue (f + 1) s = some (.num n, r) := by
  rcases s with _ | ⟨c, t⟩
  · cases h
  · rw [parseValue_num f t ⟨?_, ?_, ?_, ?_, ?_, ?_⟩, h]
    · rfl
    all_goals (rintro rfl; cases h)

theorem parseValue_head {f : Nat} {s : List Char} {x : J × List Char} (h : parseValue f s = some x) :
    ∃ c t, s = c :: t ∧ isWs c = false := by
  rcases s with _ | ⟨c, t⟩
  · cases f <;> cases h
  · refine ⟨c, t, rfl, ?_⟩
    cases hw : isWs c with
    | false => rfl
    | true => rcases isWs_cases hw with rfl | rfl | rfl | rfl <;> cases f <;> cases h

theorem parseElems_succ (f : Nat) (s : List Char) :
    parseElems (f + 1) s =
      match parseValue f s with
      | none => none
      | some (v, r) => afterItem ']' (.cons v .nil) (JL.cons v) (parseElems f) r := by
  rw [parseElems]
  rcases parseValue f s with _ | ⟨v, r⟩
  · rfl
  simp only [afterItem]
  cases skipWs r with
  | nil => rfl
  | cons d r1 =>
    by_cases hd : d = ','
    · simp only [hd, if_true]
      cases parseElems f (skipWs r1) <;> rfl
    · simp only [hd, if_false]

/-- `json_member//2`: key, colon, value, with the text after the value -/
def member (f : Nat) (s : List Char) : Option ((List Char × J) × List Char) :=
  match parseChars s with
  | none => none
  | some (k, r) =>
    match skipWs r with
    | [] => none
    | col :: r1 => if col = ':' then mapRes (Prod.mk k) (parseValue f (skipWs r1)) else none

theorem parseMembers_succ (f : Nat) (s : List Char) :
    parseMembers (f + 1) ('"' :: s) =
      match member f s with
      | none => none
      | some ((k, v), r) => afterItem '}' (.cons k v .nil) (JM.cons k v) (parseMembers f) r := by
  rw [parseMembers, if_pos rfl, member]
  rcases parseChars s with _ | ⟨k, r⟩
  · rfl
  simp only
  cases skipWs r with
  | nil => rfl
  | cons col r1 =>
    by_cases hc : col = ':'
    · simp only [hc, if_true]
      rcases parseValue f (skipWs r1) with _ | ⟨v, r2⟩
      · rfl
      simp only [mapRes, afterItem]
      cases skipWs r2 with
      | nil => rfl
      | cons d r3 =>
        by_cases hd : d = ','
        · simp only [hd, if_true]
          cases parseMembers f (skipWs r3) <;> rfl
        · simp only [hd, if_false]
    · simp only [hc, if_false]

/-! ## generated numbers are not empty; what follows an element -/

theorem genNum_ne_nil (n : Num) : genNum n ≠ [] := by
  cases n with
  | int n =>
    rw [genNum, genInt]
    split
    · exact List.cons_ne_nil _ _
    · exact (natDigits_spec _).2.2
  | dec neg m e => cases neg <;> simp [genNum, (natDigits_spec m).2.2]

/-- what follows an element inside `genL` / `genM`, or the end of the text -/
def closeFollow : List Char → Prop
  | [] => True
  | c :: _ => c = ',' ∨ c = ']' ∨ c = '}'

end Scryer.Json
