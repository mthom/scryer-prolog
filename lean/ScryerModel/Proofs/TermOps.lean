import ScryerModel.Model.TermOps
import ScryerModel.Proofs.Unify
/-
Lemmas for C23 (`Model/TermOps.lean`). functor/3, arg/3 and `univErrors` are taken one branch at a
time, for `Props/C23.lean` to read off. `InvOn ρ ρ' xs ys`, a renaming of `xs` into `ys` together
with its inverse, is what copy_term/2 (`copy_invOn`) and subsumes_term/2 (`invOn_of_map_eq`) rest
on.
-/
namespace Scryer
namespace TermOps
open Scryer.Term Scryer.Unify

/-! ### fresh names -/

theorem mkName_toList (k : Nat) : (mkName k).toList = List.replicate k '_' := by
  unfold mkName; exact String.toList_ofList

theorem mkName_inj {a b : Nat} (h : mkName a = mkName b) : a = b := by
  have := congrArg (fun s => s.toList.length) h
  simpa [mkName_toList] using this

theorem le_maxLen {a : String} : ∀ {l : List String}, a ∈ l → a.toList.length ≤ maxLen l
  | [], h => by cases h
  | b :: l, h => by
      simp only [maxLen]
      rcases List.mem_cons.mp h with rfl | h
      · exact Nat.le_max_left ..
      · exact Nat.le_trans (le_maxLen h) (Nat.le_max_right ..)

theorem freshFrom_eq_map : ∀ (n b : Nat), freshFrom b n = (List.range' b n).map mkName
  | 0, _ => rfl
  | n + 1, b => by rw [freshFrom, freshFrom_eq_map n, List.range'_succ, List.map_cons]

theorem freshNames_nodup (avoid : List String) (n : Nat) : (freshNames avoid n).Nodup := by
  rw [freshNames, freshFrom_eq_map]
  exact List.Pairwise.map mkName (fun _ _ h e => h (mkName_inj e)) (List.nodup_range' 1)

theorem freshNames_length (avoid : List String) (n : Nat) : (freshNames avoid n).length = n := by
  rw [freshNames, freshFrom_eq_map, List.length_map, List.length_range']

theorem freshNames_not_mem {avoid : List String} {n : Nat} {x : String}
    (h : x ∈ freshNames avoid n) : x ∉ avoid := by
  intro hx
  rw [freshNames, freshFrom_eq_map] at h
  obtain ⟨k, hk, rfl⟩ := List.mem_map.mp h
  -- the name is longer than every name to avoid
  have := le_maxLen hx
  rw [mkName_toList, List.length_replicate] at this
  have := (List.mem_range'_1.mp hk).1
  omega

/-! ### the variable set -/

theorem mem_insertNew {seen : List String} {x y : String} :
    y ∈ insertNew seen x ↔ y ∈ seen ∨ y = x := by
  rw [insertNew]
  split
  · rename_i h
    exact (or_iff_left_of_imp fun e => e ▸ h).symm
  · rw [List.mem_append, List.mem_singleton]

theorem nodup_insertNew {seen : List String} {x : String} (h : seen.Nodup) :
    (insertNew seen x).Nodup := by
  rw [insertNew]
  split
  · exact h
  · rename_i hx
    exact List.nodup_append.mpr ⟨h, List.pairwise_singleton _ x,
      fun a ha b hb e => hx (List.mem_singleton.mp hb ▸ e ▸ ha)⟩

/-- first-occurrence de-duplication of a list of names, continuing from `seen`. -/
def nubFrom (seen : List String) (l : List String) : List String := l.foldl insertNew seen

theorem mem_nubFrom {y : String} : ∀ {l seen : List String},
    y ∈ nubFrom seen l ↔ y ∈ seen ∨ y ∈ l
  | [], _ => (or_iff_left List.not_mem_nil).symm
  | a :: l, seen => by
      rw [nubFrom, List.foldl_cons, ← nubFrom, mem_nubFrom, mem_insertNew, List.mem_cons, or_assoc]

theorem nodup_nubFrom : ∀ {l seen : List String}, seen.Nodup → (nubFrom seen l).Nodup
  | [], _, h => h
  | a :: l, _, h => nodup_nubFrom (l := l) (nodup_insertNew (x := a) h)

theorem nubFrom_append (seen l1 l2 : List String) :
    nubFrom seen (l1 ++ l2) = nubFrom (nubFrom seen l1) l2 :=
  List.foldl_append

theorem nubFrom_of_nodup : ∀ {l seen : List String}, l.Nodup → (∀ a ∈ l, a ∉ seen) →
    nubFrom seen l = seen ++ l
  | [], seen, _, _ => (List.append_nil seen).symm
  | a :: l, seen, hn, hs => by
      have hn := List.nodup_cons.mp hn
      rw [nubFrom, List.foldl_cons, insertNew, if_neg (hs a (.head _)), ← nubFrom,
        nubFrom_of_nodup hn.2, List.append_assoc]
      · rfl
      · intro b hb hb'
        rcases List.mem_append.mp hb' with h | h
        · exact hs b (.tail _ hb) h
        · exact hn.1 (List.mem_singleton.mp h ▸ hb)

mutual
theorem varSet_eq (seen : List String) : ∀ t : Term, varSet seen t = nubFrom seen t.vars
  | .str _ args => varSetL_eq seen args
  | .var _ | .int _ | .rat _ _ | .flt _ | .atom _ => rfl

theorem varSetL_eq (seen : List String) : ∀ ts : List Term, varSetL seen ts = nubFrom seen (varsL ts)
  | [] => rfl
  | t :: ts => by
      rw [varSetL, Term.varsL, varSet_eq seen t, varSetL_eq _ ts, nubFrom_append]
end

theorem termVars_eq (t : Term) : termVars t = nubFrom [] t.vars := varSet_eq [] t

theorem mem_termVars {t : Term} {x : String} : x ∈ termVars t ↔ x ∈ t.vars := by
  rw [termVars_eq, mem_nubFrom]; simp

theorem termVars_nodup (t : Term) : (termVars t).Nodup := by
  rw [termVars_eq]; exact nodup_nubFrom List.nodup_nil

theorem varsL_map_var (ws : List String) : varsL (ws.map Term.var) = ws := by
  induction ws with
  | nil => rfl
  | cons w ws ih => simp [Term.varsL, Term.vars, ih]

/-! ### ground -/

mutual
theorem groundB_iff : ∀ t : Term, groundB t = true ↔ t.vars = []
  | .var _ => ⟨nofun, nofun⟩
  | .str _ args => groundL_iff args
  | .int _ | .rat _ _ | .flt _ | .atom _ => ⟨fun _ => rfl, fun _ => rfl⟩

theorem groundL_iff : ∀ ts : List Term, groundL ts = true ↔ varsL ts = []
  | [] => ⟨fun _ => rfl, fun _ => rfl⟩
  | t :: ts => by
      rw [groundL, Term.varsL, Bool.and_eq_true, List.append_eq_nil_iff, groundB_iff t,
        groundL_iff ts]
end

/-! ### `unifyAll`: on simple work lists, then on any -/

theorem unifyAll_bind {x : String} {t : Term} (h : x ∉ t.vars) :
    unifyAll [(.var x, t)] = .ok [(x, t)] := by
  rw [unifyAll, solve_bind h, substE, List.map_nil, solve, ofOutcome]

theorem unifyAll_bind_two {N A : String} {u w : Term} (hu : u.vars = []) (hw : w.vars = [])
    (hne : N ≠ A) : unifyAll [(.var N, u), (.var A, w)] = .ok [(A, w), (N, u)] := by
  have hA : subst1 N u (.var A) = .var A := single_ne u fun e => hne e.symm
  have hw' : subst1 N u w = w := subst1_of_not_mem (hw ▸ nofun)
  rw [unifyAll, solve_bind (hu ▸ nofun), substE, List.map_cons, List.map_nil, hA, hw',
    solve_bind (hw ▸ nofun), substE, List.map_nil, solve, ofOutcome]

theorem unifyAll_ne_err (eqs : Eqs) (e : Term) : unifyAll eqs ≠ .err e := by
  rw [unifyAll]
  cases solve eqs [] <;> nofun

theorem good_of_unifyAll {eqs : Eqs} {σ : Subst} (h : unifyAll eqs = .ok σ) : Good σ eqs := by
  rw [unifyAll] at h
  cases hs : solve eqs [] with
  | ok τ => rw [hs] at h; cases h; exact solve_nil_ok hs
  | _ => rw [hs] at h; cases h

/-! ### functor/3 with an unbound first argument -/

/-- construction mode once the arity has passed its checks: the name decides. -/
theorem functor3_arity_ok (avoid : List String) (x : String) (n : Term) {v : Int}
    (h0 : 0 ≤ v) (hmax : v ≤ (maxArity : Int)) :
    functor3 avoid (.var x) n (.int v) =
      match n with
      | .atom f => .ok [(x, mkStr f ((freshNames (x :: avoid) v.toNat).map Term.var))]
      | .str _ _ => .err (typeErr "atomic" n)
      | .var _ => .err instErr
      | _ => if v = 0 then .ok [(x, n)] else .err (typeErr "atom" n) := by
  have h1 : ¬ v > (maxArity : Int) := Int.not_lt.mpr hmax
  have h2 : ¬ v < 0 := Int.not_lt.mpr h0
  simp only [functor3, isVar, Bool.or_false, h1, h2, if_false]
  cases n <;> rfl

/-! ### arg/3 branch by branch -/

theorem arg3_var_n (y : String) (t x : Term) : arg3 (.var y) t x = .err instErr := rfl

theorem arg3_nonint {n : Term} (h1 : isVar n = false) (h2 : ∀ v, n ≠ .int v) (t x : Term) :
    arg3 n t x = .err (typeErr "integer" n) := by
  cases n with
  | var y => simp [isVar] at h1
  | int v => exact absurd rfl (h2 v)
  | _ => rfl

theorem arg3_neg {v : Int} (hv : v < 0) (t x : Term) :
    arg3 (.int v) t x = .err (domErr "not_less_than_zero" (.int v)) := by
  simp [arg3, hv]

theorem arg3_var_t {v : Int} (hv : ¬ v < 0) (y : String) (x : Term) :
    arg3 (.int v) (.var y) x = .err instErr := by
  simp [arg3, hv]

theorem arg3_noncompound {v : Int} (hv : ¬ v < 0) {t : Term} (h1 : isVar t = false)
    (h2 : isCompound t = false) (x : Term) :
    arg3 (.int v) t x = .err (typeErr "compound" t) := by
  cases t with
  | var y => simp [isVar] at h1
  | str f args => simp [isCompound] at h2
  | _ => simp [arg3, hv]

theorem arg3_str_some {v : Int} (hv : ¬ v < 0) {f : String} {args : List Term} {u : Term}
    (h : nth1? args v = some u) (x : Term) :
    arg3 (.int v) (.str f args) x = unifyAll [(x, u)] := by
  simp [arg3, hv, h]

theorem arg3_str_none {v : Int} (hv : ¬ v < 0) {f : String} {args : List Term}
    (h : nth1? args v = none) (x : Term) :
    arg3 (.int v) (.str f args) x = .fail := by
  simp [arg3, hv, h]

theorem isVar_eq_false {t : Term} (h : ∀ x, t ≠ .var x) : isVar t = false := by
  cases t with
  | var x => exact absurd rfl (h x)
  | _ => rfl

theorem isCompound_eq_false {t : Term} (h : ∀ f as, t ≠ .str f as) : isCompound t = false := by
  cases t with
  | str f as => exact absurd rfl (h f as)
  | _ => rfl

theorem nth1?_succ (args : List Term) (i : Nat) : nth1? args ((i : Int) + 1) = args[i]? := by
  rw [nth1?, if_neg (Int.not_le.mpr (Int.lt_add_one_iff.mpr (Int.natCast_nonneg i))),
    Int.toNat_natCast_add_one, Nat.add_sub_cancel]

theorem nth1?_eq_some_iff (args : List Term) (v : Int) (u : Term) :
    nth1? args v = some u ↔ ∃ i : Nat, v = (i : Int) + 1 ∧ ∃ h : i < args.length, args[i] = u := by
  constructor
  · intro h
    by_cases hv : v ≤ 0
    · rw [nth1?, if_pos hv] at h; cases h
    · obtain ⟨i, rfl⟩ := Int.eq_succ_of_zero_lt (Int.not_le.mp hv)
      rw [nth1?_succ] at h
      exact ⟨i, rfl, List.getElem?_eq_some_iff.mp h⟩
  · rintro ⟨i, rfl, h⟩
    rw [nth1?_succ]
    exact List.getElem?_eq_some_iff.mpr h

theorem nth1?_eq_none_iff (args : List Term) (v : Int) :
    nth1? args v = none ↔ v ≤ 0 ∨ (args.length : Int) < v := by
  rw [nth1?]
  split
  · exact iff_of_true rfl (Or.inl ‹_›)
  · rw [List.getElem?_eq_none_iff]
    omega

/-! ### renamings -/

theorem renameFn_cons_self (a b : String) (xs ys : List String) :
    renameFn (a :: xs) (b :: ys) a = .var b := by
  simp [renameFn]

theorem renameFn_cons_ne {x a : String} (h : x ≠ a) (b : String) (xs ys : List String) :
    renameFn (a :: xs) (b :: ys) x = renameFn xs ys x := by
  simp [renameFn, List.lookup_cons, beq_false_of_ne h]

theorem renameFn_of_not_mem {xs ys : List String} {x : String} (h : x ∉ xs) :
    renameFn xs ys x = .var x := by
  induction xs generalizing ys with
  | nil => rfl
  | cons a xs ih =>
      cases ys with
      | nil => rfl
      | cons b ys =>
          rw [renameFn_cons_ne fun (e : x = a) => h (e ▸ .head _)]
          exact ih fun h' => h (.tail _ h')

theorem renameFn_isVar (xs ys : List String) (x : String) : ∃ y, renameFn xs ys x = .var y := by
  unfold renameFn
  split <;> exact ⟨_, rfl⟩

/-! ### `InvOn`: a renaming with its inverse -/

/-- `ρ` sends every name of `xs` to a variable of `ys` that `ρ'` sends back. -/
def InvOn (ρ ρ' : String → Term) (xs ys : List String) : Prop :=
  ∀ x ∈ xs, ∃ y ∈ ys, ρ x = .var y ∧ ρ' y = .var x

theorem invOn_of_map_eq {f : String → Term} : ∀ {sv ws : List String}, ws.Nodup →
    sv.map f = ws.map Term.var → InvOn f (renameFn ws sv) sv ws
  | [], _, _, _ => nofun
  | a :: sv, w :: ws, hn, e => by
      have hn := List.nodup_cons.mp hn
      have e := List.cons.inj e
      intro x hx
      rcases List.mem_cons.mp hx with rfl | hx
      · exact ⟨w, .head _, e.1, renameFn_cons_self ..⟩
      · obtain ⟨y, hy, h1, h2⟩ := invOn_of_map_eq hn.2 e.2 x hx
        exact ⟨y, .tail _ hy, h1,
          (renameFn_cons_ne (fun (e : y = w) => hn.1 (e ▸ hy)) ..).trans h2⟩

theorem subst_eq_var {θ : String → Term} {t : Term} {v : String} (h : t.subst θ = .var v) :
    ∃ w, t = .var w := by
  cases t <;> simp [Term.subst] at h ⊢

theorem map_var_of_leftInv {f θ : String → Term} : ∀ {sv : List String}, sv.Nodup →
    (∀ v ∈ sv, (f v).subst θ = .var v) → ∃ ws : List String, ws.Nodup ∧ sv.map f = ws.map Term.var
  | [], _, _ => ⟨[], List.nodup_nil, rfl⟩
  | a :: sv, hn, h => by
      have hn := List.nodup_cons.mp hn
      obtain ⟨ws, hws, e⟩ := map_var_of_leftInv hn.2 fun v hv => h v (.tail _ hv)
      obtain ⟨w, hw⟩ := subst_eq_var (h a (.head _))
      refine ⟨w :: ws, List.nodup_cons.mpr ⟨fun hm => ?_, hws⟩,
        by rw [List.map_cons, List.map_cons, hw, e]⟩
      -- `var w` is also the image of some `v` in `sv`; undoing both gives `v = a`
      obtain ⟨v, hv, hfv⟩ := List.mem_map.mp (e ▸ List.mem_map_of_mem (f := Term.var) hm)
      have := h v (.tail _ hv)
      rw [hfv, ← hw, h a (.head _)] at this
      exact hn.1 (Term.var.inj this ▸ hv)

theorem map_renameFn : ∀ {xs ys : List String}, xs.Nodup → xs.length = ys.length →
    xs.map (renameFn xs ys) = ys.map Term.var
  | [], [], _, _ => rfl
  | a :: xs, b :: ys, hn, hl => by
      have hn := List.nodup_cons.mp hn
      rw [List.map_cons, List.map_cons, renameFn_cons_self, ← map_renameFn hn.2 (Nat.succ.inj hl)]
      exact congrArg _ (List.map_congr_left fun x hx =>
        renameFn_cons_ne (fun (e : x = a) => hn.1 (e ▸ hx)) ..)

theorem renameFn_invOn {xs ys : List String} (hx : xs.Nodup) (hy : ys.Nodup)
    (hl : xs.length = ys.length) : InvOn (renameFn xs ys) (renameFn ys xs) xs ys :=
  invOn_of_map_eq hy (map_renameFn hx hl)

theorem InvOn.leftInv {ρ ρ' : String → Term} {xs ys : List String} (h : InvOn ρ ρ' xs ys)
    {x : String} (hx : x ∈ xs) : (ρ x).subst ρ' = .var x := by
  obtain ⟨y, _, h1, h2⟩ := h x hx
  rw [h1]; exact h2

theorem InvOn.inj {ρ ρ' : String → Term} {xs ys : List String} (h : InvOn ρ ρ' xs ys)
    {x1 x2 : String} (h1 : x1 ∈ xs) (h2 : x2 ∈ xs) (e : ρ x1 = ρ x2) : x1 = x2 :=
  Term.var.inj (by rw [← h.leftInv h1, e, h.leftInv h2])

section
variable {ρ ρ' : String → Term} {t : Term} {ys : List String} (h : InvOn ρ ρ' t.vars ys)
include h

theorem InvOn.subst_inv : (t.subst ρ).subst ρ' = t := by
  rw [Term.subst_subst]
  exact Term.subst_eq_self fun _ => h.leftInv

theorem InvOn.vars_subst {y : String} (hy : y ∈ (t.subst ρ).vars) : y ∈ ys := by
  obtain ⟨z, hz, hyz⟩ := mem_vars_subst _ t y hy
  obtain ⟨y', hy', h1, _⟩ := h z hz
  rw [h1] at hyz
  exact List.mem_singleton.mp hyz ▸ hy'
end

/-! ### list splitting, `univ_errors/3` -/

theorem splitList_cons (h t : Term) :
    splitList (Term.cons h t) = (h :: (splitList t).1, (splitList t).2) := by
  simp [Term.cons, splitList]

theorem splitList_nil : splitList Term.nil = ([], Term.nil) := by
  simp [Term.nil, splitList]

theorem splitList_var (x : String) : splitList (.var x) = ([], .var x) := by
  simp [splitList]

theorem splitList_ofList (xs : List Term) (tl : Term) :
    splitList (Term.ofList xs tl) = (xs ++ (splitList tl).1, (splitList tl).2) := by
  induction xs with
  | nil => simp [Term.ofList]
  | cons x xs ih =>
      have : Term.ofList (x :: xs) tl = Term.cons x (Term.ofList xs tl) := rfl
      rw [this, splitList_cons, ih]; simp

theorem vars_ofList (xs : List Term) (tl : Term) :
    (Term.ofList xs tl).vars = varsL xs ++ tl.vars := by
  induction xs with
  | nil => simp [Term.ofList, Term.varsL]
  | cons x xs ih =>
      have : Term.ofList (x :: xs) tl = Term.cons x (Term.ofList xs tl) := rfl
      rw [this]
      simp only [Term.cons, Term.vars, Term.varsL, ih]
      simp

theorem splitList_proper (xs : List Term) : splitList (Term.ofList xs) = (xs, Term.nil) := by
  rw [splitList_ofList, splitList_nil]; simp

@[simp] theorem isVar_var (x : String) : isVar (.var x) = true := rfl
@[simp] theorem isVar_nil : isVar Term.nil = false := rfl
@[simp] theorem isNil_nil : isNil Term.nil = true := rfl

theorem univErrors_partial (t l : Term) (h : isVar (splitList l).2 = true) :
    univErrors t l = if isVar t then some instErr else none := by
  simp only [univErrors, h, if_true]

theorem univErrors_not_list (t l : Term) (h1 : isVar (splitList l).2 = false)
    (h2 : isNil (splitList l).2 = false) : univErrors t l = some (typeErr "list" l) := by
  simp [univErrors, h1, h2]

theorem univErrors_proper (t : Term) (xs : List Term) :
    univErrors t (Term.ofList xs) =
      match xs with
      | [] => if isVar t then some (domErr "non_empty_list" (Term.ofList xs)) else none
      | h :: tl =>
          if isVar h && isVar t then some instErr
          else if !tl.isEmpty && !isVar h && !isAtom h then some (typeErr "atom" h)
          else if isCompound h && tl.isEmpty then some (typeErr "atomic" h)
          else if isVar t && tl.length > maxArity then some (repErr "max_arity")
          else none := by
  unfold univErrors
  rw [splitList_proper]
  simp only [isVar_nil, isNil_nil]
  cases xs <;> simp

/-! ### atomic terms -/

theorem vars_of_isAtomic {c : Term} (h : isAtomic c = true) : c.vars = [] := by
  cases c with
  | var x => cases h
  | str f as => cases h
  | _ => rfl

theorem isVar_of_isAtomic {c : Term} (h : isAtomic c = true) : isVar c = false := by
  cases c with
  | var x => cases h
  | _ => rfl

theorem isCompound_of_isAtomic {c : Term} (h : isAtomic c = true) : isCompound c = false := by
  cases c with
  | str f as => cases h
  | _ => rfl

theorem univ_atomic {c l : Term} (hc : isAtomic c = true) (he : univErrors c l = none) :
    univ c l = unifyAll [(l, Term.ofList [c])] := by
  cases c with
  | var x => cases hc
  | str f as => cases hc
  | _ => simp only [univ, he]

/-! ### subsumes_term/2 -/

theorem eqVars_iff : ∀ {ts : List Term} {ws : List String},
    eqVars ts ws = true ↔ ts = ws.map Term.var
  | [], [] => by simp [eqVars]
  | [], _ :: _ => by simp [eqVars]
  | t :: ts, [] => by cases t <;> simp [eqVars]
  | t :: ts, w :: ws => by
      cases t with
      | var x =>
          simp only [eqVars, Bool.and_eq_true, beq_iff_eq, List.map_cons, List.cons.injEq,
            Term.var.injEq]
          rw [eqVars_iff (ts := ts) (ws := ws)]
      | _ => simp [eqVars]

/-- `term_variables(L, Vs), L == Vs` holds iff `L` is a list of pairwise distinct variables. -/
theorem eqVars_varSetL_iff (img : List Term) :
    eqVars img (varSetL [] img) = true ↔ ∃ ws : List String, ws.Nodup ∧ img = ws.map Term.var := by
  rw [eqVars_iff]
  constructor
  · intro h
    exact ⟨varSetL [] img, by rw [varSetL_eq]; exact nodup_nubFrom List.nodup_nil, h⟩
  · rintro ⟨ws, hn, rfl⟩
    rw [varSetL_eq, varsL_map_var, nubFrom_of_nodup hn (by simp)]
    simp

/-- the specification of `subsumes_term/2` (ISO 8.2.4): some substitution that leaves the
    variables of `s` alone makes `g` identical to `s`. -/
def Subsumes (g s : Term) : Prop :=
  ∃ θ : String → Term, (∀ x ∈ s.vars, θ x = .var x) ∧ g.subst θ = s

/-! ### variants, copies -/

/-- equal up to renaming: each is obtained from the other by a variable-for-variable substitution. -/
def Variant (a b : Term) : Prop :=
  ∃ ρ ρ' : String → Term, (∀ x, ∃ y, ρ x = .var y) ∧ (∀ x, ∃ y, ρ' x = .var y) ∧
    a.subst ρ = b ∧ b.subst ρ' = a

theorem Variant.symm {a b : Term} : Variant a b → Variant b a
  | ⟨ρ, ρ', h1, h2, h3, h4⟩ => ⟨ρ', ρ, h2, h1, h4, h3⟩

theorem Variant.trans {a b c : Term} : Variant a b → Variant b c → Variant a c
  | ⟨ρ, ρ', h1, h2, h3, h4⟩, ⟨τ, τ', k1, k2, k3, k4⟩ => by
      refine ⟨fun x => (ρ x).subst τ, fun x => (τ' x).subst ρ', ?_, ?_, ?_, ?_⟩
      · intro x; obtain ⟨y, hy⟩ := h1 x; obtain ⟨z, hz⟩ := k1 y
        exact ⟨z, by simp [hy, hz]⟩
      · intro x; obtain ⟨y, hy⟩ := k2 x; obtain ⟨z, hz⟩ := h2 y
        exact ⟨z, by simp [hy, hz]⟩
      · rw [← Term.subst_subst, h3, k3]
      · rw [← Term.subst_subst, k4, h4]

/-- the renaming behind `copyOf` and its inverse. -/
theorem copy_invOn (avoid : List String) (t : Term) :
    InvOn (renameFn (termVars t) (freshNames (avoid ++ termVars t) (termVars t).length))
      (renameFn (freshNames (avoid ++ termVars t) (termVars t).length) (termVars t))
      t.vars (freshNames (avoid ++ termVars t) (termVars t).length) := fun x hx =>
  renameFn_invOn (termVars_nodup t) (freshNames_nodup _ _) (freshNames_length _ _).symm x
    (mem_termVars.mpr hx)

end TermOps
end Scryer
