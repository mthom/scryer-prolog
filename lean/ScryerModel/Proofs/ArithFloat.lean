import Mathlib.Tactic.Linarith
import Mathlib.Tactic.Ring
import ScryerModel.Model.ArithFloat
import ScryerModel.Proofs.Binary64
/-! Lemmas about the exact binary64 model (`Model/ArithFloat.lean`): `roundHalfEven` (nearest
multiple, ties), decoding of sign / magnitude / significand (`scaled` is `Binary64.val` of the
magnitude), `unitExp`, and what `rne` returns when it does not overflow: the chosen multiple of the
grid unit. `Props/C02` draws the rounding theorems (nearest, half ulp, exactness) from these. -/
namespace Scryer.ArithFloat

/-! ### `roundHalfEven`: nearest multiple, ties to even -/

theorem rhe_cases (N D : Nat) :
    (roundHalfEven N D = N / D ∧ 2 * (N % D) ≤ D) ∨
    (roundHalfEven N D = N / D + 1 ∧ D ≤ 2 * (N % D)) := by
  simp only [roundHalfEven]
  -- in order: remainder below half, above half, a tie with even quotient, a tie with odd quotient
  split
  · exact .inl ⟨rfl, by omega⟩
  · split
    · exact .inr ⟨rfl, by omega⟩
    · split
      · exact .inl ⟨rfl, by omega⟩
      · exact .inr ⟨rfl, by omega⟩

theorem rhe_even_of_tie (N D : Nat) (h : 2 * (N % D) = D) : roundHalfEven N D % 2 = 0 := by
  simp only [roundHalfEven]
  rw [if_neg (by omega), if_neg (by omega)]
  split <;> omega

theorem rhe_err (N D : Nat) (hD : 0 < D) :
    2 * |((roundHalfEven N D * D : Nat) : Int) - N| ≤ (D : Nat) := by
  have hdm : N / D * D + N % D = N := Nat.div_add_mod' N D
  have hlt := Nat.mod_lt N hD
  rw [Int.abs_eq_natAbs]
  rcases rhe_cases N D with ⟨hm, h⟩ | ⟨hm, h⟩ <;> rw [hm]
  · omega
  · rw [Nat.add_mul, Nat.one_mul]; omega

theorem rhe_exact (k D : Nat) (hD : 0 < D) : roundHalfEven (k * D) D = k := by
  simp [roundHalfEven, Nat.mul_mod_left, Nat.mul_div_cancel _ hD, hD]

theorem rhe_bounds (N D : Nat) :
    N / D ≤ roundHalfEven N D ∧ roundHalfEven N D ≤ N / D + 1 := by
  rcases rhe_cases N D with ⟨hm, _⟩ | ⟨hm, _⟩ <;> omega

theorem rhe_nearest_outside (N D : Nat) (hD : 0 < D) (c : Nat)
    (hc : c ≤ N / D * D ∨ (N / D + 1) * D ≤ c) :
    |((roundHalfEven N D * D : Nat) : Int) - N| ≤ |((c : Nat) : Int) - N| := by
  have hdm : N / D * D + N % D = N := Nat.div_add_mod' N D
  have hlt := Nat.mod_lt N hD
  rw [Nat.add_mul, Nat.one_mul] at hc
  rcases rhe_cases N D with ⟨hm, h⟩ | ⟨hm, h⟩ <;> rw [hm]
  · generalize N / D * D = a at *
    rw [Int.abs_eq_natAbs, Int.abs_eq_natAbs]; omega
  · rw [Nat.add_mul, Nat.one_mul]
    generalize N / D * D = a at *
    rw [Int.abs_eq_natAbs, Int.abs_eq_natAbs]; omega

/-! ### sign, magnitude, significand; `scaled` on the grid -/

theorem INF_MAG_lt : INF_MAG < 2 ^ 63 := by unfold INF_MAG; norm_num

theorem mag_lt (x : F64) : x.mag < 2 ^ 63 := by
  unfold F64.mag SIGN_BIT; exact Nat.mod_lt _ (by norm_num)

theorem mk_mag (neg : Bool) (mag : Nat) (h : mag < 2 ^ 63) : (mk neg mag).mag = mag := by
  unfold mk F64.mag SIGN_BIT
  cases neg <;> simp <;> omega

theorem mk_sign (neg : Bool) (mag : Nat) (h : mag < 2 ^ 63) : (mk neg mag).sign = neg := by
  unfold mk F64.sign SIGN_BIT
  cases neg <;> simp
  omega

theorem mk_sign_mag (x : F64) (h : x.wf) : mk x.sign x.mag = x := by
  cases x with | mk b =>
  unfold F64.wf at h
  unfold mk F64.sign F64.mag SIGN_BIT
  dsimp only at h ⊢
  congr 1
  by_cases hb : 2 ^ 63 ≤ b
  · rw [decide_eq_true hb, if_pos rfl]; omega
  · rw [decide_eq_false hb, if_neg Bool.false_ne_true]; omega

theorem scaled_congr {x y : F64} (h : x.mag = y.mag) : x.scaled = y.scaled := by
  unfold F64.scaled F64.sig F64.ulpExp F64.expo F64.mant; rw [h]

theorem scaledInt_negF (f : F64) : (negF f).scaledInt = - f.scaledInt := by
  unfold F64.scaledInt negF
  rw [mk_sign _ _ (mag_lt f), scaled_congr (mk_mag _ _ (mag_lt f))]
  cases f.sign <;> simp

/-- the pattern by exponent step and significand: for a normal number the hidden bit `2^52` inside `sig`
is the one unit of the exponent field that `ulpExp = expo - 1` leaves out. -/
theorem mag_eq (x : F64) :
    x.mag = x.ulpExp * 2 ^ 52 + x.sig ∧ x.sig < 2 ^ 53 ∧ (1 ≤ x.ulpExp → 2 ^ 52 ≤ x.sig) := by
  unfold F64.sig F64.ulpExp F64.expo F64.mant HIDDEN
  split <;> omega

theorem scaled_pos {y : F64} (h : y.isZero = false) : 0 < y.scaled := by
  obtain ⟨hmag, _, hlo⟩ := mag_eq y
  have hm : y.mag ≠ 0 := of_decide_eq_false h
  exact Nat.mul_pos (by omega) (Nat.two_pow_pos _)

theorem sig_ulp_of_mag {x : F64} {u m : Nat} (h : x.mag = u * 2 ^ 52 + m) (hm : m < 2 ^ 53)
    (hlo : 1 ≤ u → 2 ^ 52 ≤ m) : x.sig = m ∧ x.ulpExp = u := by
  unfold F64.sig F64.ulpExp F64.expo F64.mant HIDDEN
  split <;> omega

theorem scaled_eq_val (x : F64) : x.scaled = Binary64.val HIDDEN x.mag := by
  unfold F64.scaled F64.sig F64.ulpExp F64.expo F64.mant Binary64.val
  split
  · rw [Nat.pow_zero, Nat.mul_one]
  · rfl

theorem HIDDEN_pos : 0 < HIDDEN := Nat.two_pow_pos 52

/-- the value encoded by exponent step `u` and significand `m` (including the carry `m = 2^53`). -/
theorem scaled_of_um (neg : Bool) (u m : Nat) (hm : m ≤ 2 ^ 53) (hlo : 1 ≤ u → 2 ^ 52 ≤ m)
    (hfin : u * 2 ^ 52 + m < INF_MAG) : (mk neg (u * 2 ^ 52 + m)).scaled = m * 2 ^ u := by
  rw [scaled_eq_val, mk_mag neg _ (Nat.lt_trans hfin INF_MAG_lt)]
  exact Binary64.val_um HIDDEN_pos hm hlo

theorem sig_ge_of_normal (x : F64) (h : HIDDEN ≤ x.mag) : 2 ^ 52 ≤ x.sig := by
  unfold F64.sig; unfold HIDDEN at *
  split <;> omega

/-- `q·2^u` and `(q+1)·2^u` are the values of successive patterns, so no double lies strictly between. -/
theorem scaled_outside (y : F64) (u q : Nat) (hq : q < 2 ^ 53) (hlo : 1 ≤ u → 2 ^ 52 ≤ q) :
    y.scaled ≤ q * 2 ^ u ∨ (q + 1) * 2 ^ u ≤ y.scaled := by
  rw [scaled_eq_val, ← Binary64.val_um HIDDEN_pos (u := u) (m := q) (by unfold HIDDEN; omega) hlo,
    ← Binary64.val_um HIDDEN_pos (u := u) (m := q + 1) (by unfold HIDDEN; omega)
      (fun h => Nat.le_succ_of_le (hlo h)), ← Nat.add_assoc]
  exact (Nat.lt_or_ge (u * HIDDEN + q) y.mag).symm.imp (Binary64.val_mono HIDDEN_pos)
    (Binary64.val_mono HIDDEN_pos)

/-! ### `unitExp` -/

/-- `unitExp t` and the quotient meet the hypotheses of `Binary64.val_um` (at `H = 2^52`). -/
theorem unitExp_div (t : Nat) :
    t / 2 ^ unitExp t < 2 ^ 53 ∧ (1 ≤ unitExp t → 2 ^ 52 ≤ t / 2 ^ unitExp t) := by
  unfold unitExp
  by_cases h : t < 2 ^ 53
  · rw [if_pos h, Nat.pow_zero, Nat.div_one]; exact ⟨h, fun h0 => absurd h0 (by decide)⟩
  · have ht0 : t ≠ 0 := by intro h0; subst h0; norm_num at h
    have h53 : 53 ≤ Nat.log2 t := (Nat.le_log2 ht0).2 (by omega)
    rw [if_neg h, Nat.div_lt_iff_lt_mul (Nat.two_pow_pos _), Nat.le_div_iff_mul_le (Nat.two_pow_pos _),
      ← Nat.pow_add, ← Nat.pow_add, show 53 + (t.log2 - 52) = t.log2 + 1 by omega,
      show 52 + (t.log2 - 52) = t.log2 by omega]
    exact ⟨Nat.lt_log2_self, fun _ => Nat.log2_self_le ht0⟩

theorem unitExp_grid (s u : Nat) (hs : s < 2 ^ 53) (hlo : 1 ≤ u → 2 ^ 52 ≤ s) :
    unitExp (s * 2 ^ u) = u := by
  rcases Nat.eq_zero_or_pos u with rfl | hu
  · rw [Nat.pow_zero, Nat.mul_one]; exact if_pos hs
  · have h1 : 2 ^ (52 + u) ≤ s * 2 ^ u := by
      rw [Nat.pow_add]; exact Nat.mul_le_mul_right _ (hlo hu)
    have h2 : s * 2 ^ u < 2 ^ (52 + u + 1) := by
      rw [show 52 + u + 1 = 53 + u by omega, Nat.pow_add]
      exact Nat.mul_lt_mul_of_pos_right hs (Nat.two_pow_pos u)
    have h53 : 2 ^ 53 ≤ 2 ^ (52 + u) := Nat.pow_le_pow_right (by decide) (by omega)
    unfold unitExp
    rw [if_neg (by omega), (Nat.log2_eq_iff (by omega)).2 ⟨h1, h2⟩]; omega

/-! ### what `rne` returns when it does not overflow -/

theorem rneMag_spec (n d : Nat) :
    let u := unitExp (n * P / d)
    let m := roundHalfEven (n * P) (d * 2 ^ u)
    m ≤ 2 ^ 53 ∧ (1 ≤ u → 2 ^ 52 ≤ m) ∧ (rneMag n d < INF_MAG → rneMag n d = u * 2 ^ 52 + m) := by
  intro u m
  -- `⌊N/d⌋ / 2^u = ⌊N/(d·2^u)⌋`, and `m` is that quotient or the next integer
  obtain ⟨hq, hlo⟩ : n * P / (d * 2 ^ u) < 2 ^ 53 ∧ (1 ≤ u → 2 ^ 52 ≤ n * P / (d * 2 ^ u)) := by
    rw [← Nat.div_div_eq_div_mul]; exact unitExp_div _
  have hb := rhe_bounds (n * P) (d * 2 ^ u)
  refine ⟨by omega, fun hu => by have := hlo hu; omega, ?_⟩
  show rneMag n d < INF_MAG → rneMag n d = _
  unfold rneMag
  simp only []
  split
  · exact fun h => absurd h (Nat.lt_irrefl _)
  · exact fun _ => rfl

theorem P_pos : 0 < P := by unfold P; positivity

theorem rneMag_le_inf (n d : Nat) : rneMag n d ≤ INF_MAG := by
  unfold rneMag; simp only []; split <;> omega

theorem rne_mag (neg : Bool) (n d : Nat) : (rne neg n d).mag = rneMag n d := by
  unfold rne; exact mk_mag _ _ (by have := rneMag_le_inf n d; have := INF_MAG_lt; omega)

theorem rne_value (neg : Bool) (n d : Nat) (hfin : (rne neg n d).isFinite = true) :
    (rne neg n d).scaled =
      roundHalfEven (n * P) (d * 2 ^ unitExp (n * P / d)) * 2 ^ unitExp (n * P / d) := by
  obtain ⟨hm, hlo, hmag⟩ := rneMag_spec n d
  have hlt : rneMag n d < INF_MAG := rne_mag neg n d ▸ of_decide_eq_true hfin
  have h1 := hmag hlt
  unfold rne
  rw [h1]
  exact scaled_of_um neg _ _ hm hlo (h1 ▸ hlt)

theorem rne_scaled_mul (neg : Bool) (n d : Nat) (hfin : (rne neg n d).isFinite = true) :
    (rne neg n d).scaled * d =
      roundHalfEven (n * P) (d * 2 ^ unitExp (n * P / d)) * (d * 2 ^ unitExp (n * P / d)) := by
  rw [rne_value neg n d hfin, Nat.mul_assoc, Nat.mul_comm (2 ^ _) d]

theorem rne_sign (neg : Bool) (n d : Nat) : (rne neg n d).sign = neg := by
  unfold rne; exact mk_sign _ _ (by have := rneMag_le_inf n d; have := INF_MAG_lt; omega)

theorem rne_not_nan (neg : Bool) (n d : Nat) : (rne neg n d).isNaN = false := by
  unfold F64.isNaN; rw [rne_mag]
  have := rneMag_le_inf n d
  exact decide_eq_false (by omega)

end Scryer.ArithFloat
