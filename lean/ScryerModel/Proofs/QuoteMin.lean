import ScryerModel.Proofs.QuoteRead
/-! C55: minimality — a text that reads back as the atom with that very text is written unquoted. -/
namespace Scryer.Quote
open Scryer.CharClass

variable {u : UC}

theorem scanLayout_suffix (st : LState) (ins : Bool) (s : List Char) (lay : Bool) (s1 : List Char)
    (h : scanLayout u st ins s = some (lay, s1)) : s1 <:+ s := by
  fun_induction scanLayout u st ins s
  -- a recursive call has dropped one character (two at `/*`); a branch that returns gives back its whole input
  all_goals first
    | exact List.IsSuffix.trans (‹_ → _› h) (List.suffix_cons _ _)
    | exact List.IsSuffix.trans (‹_ → _› h) ((List.suffix_cons _ _).trans (List.suffix_cons _ _))
    | cases h <;> exact List.suffix_refl _

theorem spanP_spec (p : Char → Bool) (r : List Char) :
    (spanP p r).1 ++ (spanP p r).2 = r ∧ ∀ d ∈ (spanP p r).1, p d = true := by
  induction r with
  | nil => simp [spanP]
  | cons c r ih =>
    by_cases h : p c = true
    · simp [spanP, h, ih.1]; exact ih.2
    · simp [spanP, h]

theorem quotedItems_length (q : Char) (st : QState) (acc r t rest : List Char)
    (h : quotedItems u q st acc r = some (t, rest)) : t.length + rest.length ≤ acc.length + r.length := by
  fun_induction quotedItems u q st acc r
  -- a recursive call has taken one character and put at most one on `acc`; the two returns (`q1`) give `acc.reverse`
  all_goals first
    | exact Nat.le_trans (‹_ → _› h) (by simp only [List.length_cons]; omega)
    | cases h <;> simp

theorem numberToken_not_name (cs : List Char) (t rest : List Char) : numberToken cs ≠ .tok (.name t) rest := by
  fun_cases numberToken cs <;> nofun

theorem nextTokAt_name_inv {lay : Bool} {cs t rest : List Char} :
    nextTokAt u lay cs = .tok (.name t) rest →
    ∃ c r, cs = c :: r ∧ nameToken u c r = .tok (.name t) rest ∧ cs ≠ ['.'] := by
  fun_cases nextTokAt u lay cs
  -- cases numbered in the order of the branches of `nextTokAt`; two of the twenty hand over to `name_token`:
  -- `.` followed by a character that is neither layout nor `%`
  case case10 => exact fun h => ⟨_, _, rfl, h, nofun⟩
  -- a digit: `number_token` gives no name
  case case11 => exact fun h => absurd h (numberToken_not_name _ _ _)
  -- and the last `else`
  case case20 => exact fun h => ⟨_, _, rfl, h, fun e => ‹¬(_ == '.') = true› (by simp [(List.cons.inj e).1])⟩
  -- every other branch returns a token that is not a name
  all_goals nofun

theorem name_full {p : Char → Bool} {c : Char} {r pre s : List Char} (hs : pre ++ c :: r = s)
    (ht : c :: (spanP p r).1 = s) : s = c :: r ∧ ∀ d ∈ r, p d = true := by
  obtain ⟨h1, h2⟩ := spanP_spec p r
  have l := congrArg List.length (hs.trans ht.symm)
  have l1 := congrArg List.length h1
  simp at l l1
  obtain rfl : pre = [] := List.eq_nil_of_length_eq_zero (by omega)
  rw [List.eq_nil_of_length_eq_zero (by omega : (spanP p r).2.length = 0), List.append_nil] at h1
  exact ⟨hs.symm, h1 ▸ h2⟩

theorem nonQuoted_of_nextTok (hu : UCWF u) {s rest : List Char} (h : nextTok u s = .tok (.name s) rest) :
    nonQuotedToken u s = true := by
  unfold nextTok at h
  split at h
  · cases h
  next lay s1 hs =>
  obtain ⟨pre, hpre⟩ := scanLayout_suffix _ _ _ _ _ hs
  obtain ⟨c, r, rfl, hn, hdot⟩ := nextTokAt_name_inv h
  unfold nameToken at hn
  by_cases k1 : small_letter_char u c = true
  · -- whatever it is cut from, the token text has the letter-digit form
    simp [k1] at hn
    obtain rfl := hn.1
    exact (nonQuoted_small _ k1).2 (spanP_spec _ r).2
  by_cases k2 : graphic_token_char u c = true
  · simp [k1, k2] at hn
    obtain ⟨rfl, hall⟩ := name_full hpre hn.1
    rw [nonQuoted_graphic hu r k2, nonQuotedGraphic_iff]
    refine ⟨hall, ?_, hdot⟩
    -- `scan_for_layout` would have skipped a comment, and then returned less than the whole text
    rintro ⟨r', e⟩
    obtain ⟨rfl, rfl⟩ := List.cons.inj e
    simp [scanLayout, layout_char, end_line_comment_char, comment_1_char, comment_2_char] at hs
    have := (scanLayout_suffix _ _ _ _ _ hs).length_le
    simp at this; omega
  by_cases k3 : (cut_char u c || semicolon_char u c) = true
  · simp [k1, k2, k3] at hn
    obtain rfl := hn.1
    refine (nonQuoted_other [] (by simpa using k1) (by simpa using k2)).2 ?_
    simp [cut_char, semicolon_char] at k3
    rcases k3 with rfl | rfl
    · exact .inr (.inr (.inl rfl))
    · exact .inr (.inr (.inr rfl))
  by_cases k4 : single_quote_char u c = true
  · -- a quoted token is longer than the text it denotes
    simp [k1, k2, k3, k4] at hn
    split at hn
    · next t rest' hq =>
      have := quotedItems_length _ _ _ _ _ _ hq
      have l := congrArg List.length (hpre.trans (Tok.name.inj (Res.tok.inj hn).1).symm)
      simp at l this; omega
    · cases hn
  · simp [k1, k2, k3, k4] at hn

theorem tokens_head {s : List Char} {t : Tok} {ts : List Tok} (h : tokens u s = some (t :: ts)) :
    ∃ rest, nextTok u s = .tok t rest := by
  simp only [tokens, tokensFuel] at h
  -- on `nextTok u s`: `eof` gives no token, `err` no result
  split at h
  · simp at h
  · simp at h
  · rename_i t' rest hn
    simp at h
    obtain ⟨_, rfl⟩ := h
    exact ⟨rest, hn⟩

theorem nonQuoted_brackets (hu : UCWF u) : nonQuotedToken u ['[', ']'] = true ∧ nonQuotedToken u ['{', '}'] = true :=
  ⟨(nonQuoted_cases hu).2 (.inr (.inr (.inl rfl))), (nonQuoted_cases hu).2 (.inr (.inr (.inr (.inl rfl))))⟩

theorem nonQuoted_of_readAtom (hu : UCWF u) {s : List Char} (h : readAtom u s = some s) :
    nonQuotedToken u s = true := by
  unfold readAtom at h
  cases ht : tokens u s with
  | none => simp [ht] at h
  | some ts =>
    simp only [ht] at h
    unfold atomOfTokens at h
    -- the clauses of `atomOfTokens`: one name, `[` `]`, `{` `}`, anything else
    split at h
    · simp at h; subst h
      obtain ⟨rest, hn⟩ := tokens_head ht
      exact nonQuoted_of_nextTok hu hn
    · simp at h; subst h; exact (nonQuoted_brackets hu).1
    · simp at h; subst h; exact (nonQuoted_brackets hu).2
    · simp at h

end Scryer.Quote
