import ScryerModel.Model.AtomProto
/-!
  Invariant of the interning protocol (C32), for every schedule by induction over steps, rely/guarantee style.
  `GInv sh`: the shared state alone (bounds, I1, I2, the index covers the block while the lock is free, and I3 as
  a fact of one state: the pairs of every block version are pairs of the current one). `LInv cfg sh t l`: thread
  `t` against the shared state (an assertion per program counter, mutual exclusion I4, its results). `Ext sh sh'`:
  what every step guarantees (I3 as a fact of two states: stored pairs kept, old index versions immutable,
  published index only gains entries). `own`: a step
  of `t` re-establishes `GInv` and `LInv … t` and guarantees `Ext` and the frame condition (nothing shared changes
  while another thread owns the lock), by the cases of `stepT.fun_cases` (every branch of `stepT` with its tests as
  hypotheses and its outcome as the goal). The cases that leave the shared state alone (`idle` to `lookup`, a
  blocked `lock`, a successful `recheck`) go through `own_same`, those that change only the lock (`lock`, a failed
  `recheck`, `unlock`) through `own_setLock`; from `alloc` to `publish` the owner changes the shared state in four ways only
  (`Shared.modCur`, `Shared.pushTable`, `Shared.pushInner`, a new `cur`), each `Keeps` `GInv` and `Ext`
  (`keeps_*`), and the actions are compositions of them. `other`: `LInv … u` is stable under `Ext` + frame (from a
  `GInv` state: a cell that is new to an old index version's entry would contradict I1 + I3).
-/
namespace Scryer.AtomProto

@[simp] theorem upd_same {α : Type} (f : Nat → α) (k : Nat) (v : α) : upd f k v k = v := by
  simp [upd]

theorem upd_ne {α : Type} (f : Nat → α) {k i : Nat} (v : α) (h : i ≠ k) : upd f k v i = f i := by
  simp [upd, h]

theorem upd_ind {α : Type} {P : Nat → α → Prop} {f : Nat → α} {k : Nat} {v : α} (i : Nat) (hv : P k v)
    (h : i ≠ k → P i (f i)) : P i (upd f k v i) := by
  unfold upd
  split
  · rename_i e; exact e ▸ hv
  · exact h ‹_›

theorem forall_upd {α : Type} {P : Nat → α → Prop} {f : Nat → α} {n k : Nat} {v : α}
    (h : ∀ i, i < n → P i (f i)) (hv : P k v) : ∀ i, i < n → P i (upd f k v i) :=
  fun i hi => upd_ind i hv fun _ => h i hi

theorem forall_upd_succ {α : Type} {P : Nat → α → Prop} {f : Nat → α} {n : Nat} {v : α}
    (h : ∀ i, i < n → P i (f i)) (hv : P n v) : ∀ i, i < n + 1 → P i (upd f n v i) :=
  fun i hi => upd_ind i hv fun hne => h i (Nat.lt_of_le_of_ne (Nat.le_of_lt_succ hi) hne)

theorem upd_apply {α : Type} (f : Nat → α) (k i : Nat) (v : α) :
    upd f k v i = if i = k then v else f i := rfl

@[simp] theorem lookupOff_nil (o : Nat) : lookupOff o [] = none := rfl
@[simp] theorem lookupOff_cons (o k : Nat) (x : Text) (r : List (Nat × Text)) :
    lookupOff o ((k, x) :: r) = if o = k then some x else lookupOff o r := rfl

theorem tableLookup_some {b : Block} {tbl : List Nat} {x : Text} {o : Nat}
    (h : tableLookup b tbl x = some o) : b.textAt o = some x ∧ o ∈ tbl := by
  unfold tableLookup at h
  have h1 := List.find?_some h
  have h2 := List.mem_of_find?_eq_some h
  exact ⟨by simpa using h1, h2⟩

theorem tableLookup_none {b : Block} {tbl : List Nat} {x : Text}
    (h : tableLookup b tbl x = none) : ∀ o, o ∈ tbl → b.textAt o ≠ some x := by
  unfold tableLookup at h
  intro o ho
  have := List.find?_eq_none.mp h o ho
  simpa using this

theorem mem_insertSet {tbl : List Nat} {o p : Nat} : p ∈ insertSet tbl o ↔ p ∈ tbl ∨ p = o := by
  unfold insertSet
  split
  · exact ⟨Or.inl, fun h => h.elim id fun e => e ▸ ‹o ∈ tbl›⟩
  · simp

theorem nodup_insertSet {tbl : List Nat} {o : Nat} (h : tbl.Nodup) : (insertSet tbl o).Nodup := by
  unfold insertSet
  split
  · exact h
  · rename_i hn
    refine List.nodup_append.2 ⟨h, List.pairwise_singleton _ o, fun a ha b hb e => hn ?_⟩
    rw [← List.mem_singleton.1 hb, ← e]
    exact ha

theorem allocSize_pos (x : Text) : 0 < allocSize x := by unfold allocSize; omega

/-- every cell of the current block is an entry of the current index -/
def AllIndexed (sh : Shared) : Prop := ∀ o x, sh.blk.textAt o = some x → o ∈ sh.tbl
/-- the text is stored nowhere in the current block -/
def Absent (sh : Shared) (x : Text) : Prop := ∀ o, sh.blk.textAt o ≠ some x
/-- index version `ti` has no entry for the text -/
def Miss (sh : Shared) (ti : Nat) (x : Text) : Prop :=
  ∀ o, o ∈ sh.tables ti → sh.blk.textAt o ≠ some x

structure GInv (sh : Shared) : Prop where
  cur_lt : sh.cur < sh.ninners
  tcur_lt : ∀ i, i < sh.ninners → (sh.inners i).tcur < sh.ntables
  /-- allocated cells lie below the bump pointer -/
  cells_lt : ∀ o x, sh.blk.textAt o = some x → o < sh.blk.used
  /-- (I1) every entry of every index version is a cell of the current block -/
  tbl_cells : ∀ k, k < sh.ntables → ∀ o, o ∈ sh.tables k → ∃ x, sh.blk.textAt o = some x
  /-- (I2) no text is stored at two offsets -/
  inj : ∀ o1 o2 x, sh.blk.textAt o1 = some x → sh.blk.textAt o2 = some x → o1 = o2
  nodup : ∀ k, k < sh.ntables → (sh.tables k).Nodup
  /-- while nobody owns the lock, the index covers the block -/
  unlocked : sh.lock = none → AllIndexed sh
  /-- (I3) every pair of every version ever created (superseded ones, and a grown copy not yet
      published) is a pair of the published version: an outstanding reference into an old block
      shows the same text -/
  vers : ∀ i, i < sh.ninners → ∀ o x, (sh.inners i).block.textAt o = some x →
      sh.blk.textAt o = some x

/-- a completed call `(x, a)` is correct with respect to the shared state: the atom reads back as the text
    and is of the kind that the text calls for -/
def ResOK (cfg : Cfg) (sh : Shared) (x : Text) (a : Atom) : Prop :=
  atomText sh a = some x ∧
  match a with
  | .inl _ => inlinable x = true
  | .stat _ => inlinable x = false ∧ cfg.isStatic x = true
  | .dyn _ => inlinable x = false ∧ cfg.isStatic x = false

/-- the critical section: the protocol points between `lock` and `unlock` -/
def inCS : PC → Bool
  | .recheck | .alloc | .publishInner | .write | .publish | .unlock => true
  | _ => false

/-- thread `t` owns the lock on behalf of a text that needs a cell of the block -/
def Held (cfg : Cfg) (sh : Shared) (t : Tid) (l : Local) : Prop :=
  sh.lock = some t ∧ inlinable l.text = false ∧ cfg.isStatic l.text = false

/-- the assertion attached to each protocol point; a function of the point, so that it reduces once the pc is known -/
def PcAt (cfg : Cfg) (sh : Shared) (l : Local) : PC → Prop
  | .idle => True
  | .readInner => inlinable l.text = false
  | .readTable => inlinable l.text = false
  | .lookup => inlinable l.text = false ∧
      ∀ o, o ∈ sh.tables l.ti → o ∈ sh.tables (sh.inners l.bi).tcur
  | .lock => inlinable l.text = false ∧ cfg.isStatic l.text = false ∧ Miss sh l.ti l.text
  | .recheck => Miss sh l.ti l.text ∧ AllIndexed sh
  | .alloc => l.bi = sh.cur ∧ l.ti = (sh.inners sh.cur).tcur ∧ AllIndexed sh ∧ Absent sh l.text
  | .publishInner =>
      AllIndexed sh ∧ Absent sh l.text ∧
      l.nb < sh.ninners ∧ (∀ o, (sh.inners l.nb).block.textAt o = sh.blk.textAt o) ∧
      (sh.inners l.nb).block.used = sh.blk.used ∧ sh.tables (sh.inners l.nb).tcur = sh.tbl
  | .write => l.bi = sh.cur ∧ l.ti = (sh.inners sh.cur).tcur ∧ AllIndexed sh ∧ Absent sh l.text ∧
      (∀ o x, sh.blk.textAt o = some x → o < l.off) ∧ l.off < sh.blk.used
  | .publish => l.bi = sh.cur ∧ l.ti = (sh.inners sh.cur).tcur ∧
      sh.blk.textAt l.off = some l.text ∧
      (∀ o x, sh.blk.textAt o = some x → o ∈ sh.tbl ∨ o = l.off)
  | .unlock => AllIndexed sh ∧ sh.blk.textAt l.off = some l.text

/-- what holds throughout the critical section, and the assertion of the current protocol point -/
def PcInv (cfg : Cfg) (sh : Shared) (t : Tid) (l : Local) : Prop :=
  (inCS l.pc = true → Held cfg sh t l) ∧ PcAt cfg sh l l.pc

structure LInv (cfg : Cfg) (sh : Shared) (t : Tid) (l : Local) : Prop where
  bi_lt : l.bi < sh.ninners
  ti_lt : l.ti < sh.ntables
  res : ∀ r ∈ l.results, ResOK cfg sh r.1 r.2
  pcinv : PcInv cfg sh t l

/-- (I4) a thread inside the critical section owns the lock -/
theorem LInv.mutex {cfg sh t l} (h : LInv cfg sh t l) (hcs : inCS l.pc = true) :
    sh.lock = some t :=
  (h.pcinv.1 hcs).1

/-- guarantee of every step about the shared state -/
structure Ext (sh sh' : Shared) : Prop where
  ninners_le : sh.ninners ≤ sh'.ninners
  ntables_le : sh.ntables ≤ sh'.ntables
  /-- index versions are immutable -/
  tables_eq : ∀ k, k < sh.ntables → sh'.tables k = sh.tables k
  /-- the index published in an inner table only gains entries -/
  tcur_mono : ∀ i, i < sh.ninners → ∀ o, o ∈ sh.tables (sh.inners i).tcur →
      o ∈ sh'.tables (sh'.inners i).tcur
  /-- (I3) stored pairs are preserved (in place and across growth) -/
  pairs : ∀ o x, sh.blk.textAt o = some x → sh'.blk.textAt o = some x
  /-- (I3) the published index only gains entries (in place and across growth) -/
  tbl_mono : ∀ o, o ∈ sh.tbl → o ∈ sh'.tbl

theorem Ext.refl (sh : Shared) : Ext sh sh :=
  ⟨Nat.le_refl _, Nat.le_refl _, fun _ _ => rfl, fun _ _ _ h => h, fun _ _ h => h, fun _ h => h⟩

theorem Ext.trans {a b c : Shared} (h1 : Ext a b) (h2 : Ext b c) : Ext a c := by
  refine ⟨Nat.le_trans h1.ninners_le h2.ninners_le, Nat.le_trans h1.ntables_le h2.ntables_le,
    ?_, ?_, ?_, ?_⟩
  · intro k hk
    rw [h2.tables_eq k (Nat.lt_of_lt_of_le hk h1.ntables_le), h1.tables_eq k hk]
  · intro i hi o ho
    exact h2.tcur_mono i (Nat.lt_of_lt_of_le hi h1.ninners_le) o (h1.tcur_mono i hi o ho)
  · intro o x h; exact h2.pairs o x (h1.pairs o x h)
  · intro o h; exact h2.tbl_mono o (h1.tbl_mono o h)

theorem atomText_ext {sh sh' x a} (he : Ext sh sh') (h : atomText sh a = some x) :
    atomText sh' a = some x := by
  cases a
  · exact h
  · exact h
  · exact he.pairs _ _ h

theorem ResOK.ext {cfg sh sh' x a} (he : Ext sh sh') (h : ResOK cfg sh x a) : ResOK cfg sh' x a :=
  ⟨atomText_ext he h.1, h.2⟩

theorem other {cfg : Cfg} {sh sh' : Shared} {u : Tid} {l : Local}
    (hg : GInv sh) (hl : LInv cfg sh u l) (he : Ext sh sh') {t : Tid} (hu : u ≠ t)
    (hframe : sh' = sh ∨ sh.lock = none ∨ sh.lock = some t) : LInv cfg sh' u l := by
  by_cases hcs : inCS l.pc = true
  · have hlk := hl.mutex hcs
    rcases hframe with rfl | h | h
    · exact hl
    · exact nomatch h.symm.trans hlk
    · exact absurd (Option.some.inj (hlk.symm.trans h)) hu
  · refine ⟨Nat.lt_of_lt_of_le hl.bi_lt he.ninners_le, Nat.lt_of_lt_of_le hl.ti_lt he.ntables_le,
      fun r h => (hl.res r h).ext he, ?_⟩
    refine ⟨fun h => absurd h hcs, ?_⟩
    have hp := hl.pcinv.2
    cases hpc : l.pc <;> simp only [hpc, inCS] at hp hcs ⊢ <;> try exact hp
    · -- lookup
      refine ⟨hp.1, fun o ho => ?_⟩
      rw [he.tables_eq _ hl.ti_lt] at ho
      exact he.tcur_mono _ hl.bi_lt _ (hp.2 o ho)
    · -- lock
      refine ⟨hp.1, hp.2.1, fun o ho hx => ?_⟩
      rw [he.tables_eq _ hl.ti_lt] at ho
      -- an entry of an old index version is a cell (I1) and cells keep their text (I3): `o` held the text before
      obtain ⟨y, hy⟩ := hg.tbl_cells _ hl.ti_lt o ho
      exact hp.2.2 o ho (hy.trans ((he.pairs o y hy).symm.trans hx))
    -- the six points of the critical section: against `hcs`
    all_goals simp at hcs

/-- what a step of thread `t` from the shared state `sh` establishes about its outcome -/
structure Own (cfg : Cfg) (sh : Shared) (t : Tid) (r : Shared × Local) : Prop where
  g : GInv r.1
  l : LInv cfg r.1 t r.2
  e : Ext sh r.1
  /-- only the lock's owner, or whoever takes the free lock, changes the shared state -/
  frame : r.1 = sh ∨ sh.lock = none ∨ sh.lock = some t

theorem own_same {cfg sh t l'} (hg : GInv sh) (hl : LInv cfg sh t l') : Own cfg sh t (sh, l') :=
  ⟨hg, hl, Ext.refl sh, .inl rfl⟩

/-- taking or releasing the lock changes nothing else: the invariant needs `AllIndexed` when the
    lock becomes free -/
theorem own_setLock {cfg sh t l'} (x : Option Tid) (hg : GInv sh)
    (hx : x = none → AllIndexed sh) (hfr : sh.lock = none ∨ sh.lock = some t)
    (hl : LInv cfg { sh with lock := x } t l') : Own cfg sh t ({ sh with lock := x }, l') :=
  ⟨{ hg with unlocked := hx }, hl,
   ⟨Nat.le_refl _, Nat.le_refl _, fun _ _ => rfl, fun _ _ _ h => h, fun _ _ h => h, fun _ h => h⟩,
   .inr hfr⟩

/-- the published inner table is replaced by `J`: the bump of `alloc`, `write_to_ptr`, `table.replace` -/
abbrev Shared.modCur (sh : Shared) (J : Inner) : Shared := { sh with inners := upd sh.inners sh.cur J }
/-- a new index version `T`: the `clone()` of `table_epoch`, with or without the `insert` -/
abbrev Shared.pushTable (sh : Shared) (T : List Nat) : Shared :=
  { sh with tables := upd sh.tables sh.ntables T, ntables := sh.ntables + 1 }
/-- a new inner-table version `J`, not yet published: the result of `grow_new` -/
abbrev Shared.pushInner (sh : Shared) (J : Inner) : Shared :=
  { sh with inners := upd sh.inners sh.ninners J, ninners := sh.ninners + 1 }

theorem blk_modCur (sh : Shared) (J : Inner) : (sh.modCur J).blk = J.block :=
  congrArg Inner.block (upd_same _ _ _)
theorem tbl_modCur (sh : Shared) (J : Inner) : (sh.modCur J).tbl = sh.tables J.tcur :=
  congrArg (fun I : Inner => sh.tables I.tcur) (upd_same _ _ _)
theorem tbl_pushTable {sh : Shared} (T : List Nat) (h : (sh.inners sh.cur).tcur < sh.ntables) :
    (sh.pushTable T).tbl = sh.tbl :=
  upd_ne _ _ (Nat.ne_of_lt h)
theorem inners_pushInner {sh : Shared} (J : Inner) {i : Nat} (h : i < sh.ninners) :
    (sh.pushInner J).inners i = sh.inners i :=
  upd_ne _ _ (Nat.ne_of_lt h)
theorem blk_pushInner {sh : Shared} (J : Inner) (h : sh.cur < sh.ninners) : (sh.pushInner J).blk = sh.blk :=
  congrArg Inner.block (inners_pushInner J h)
theorem tbl_pushInner {sh : Shared} (J : Inner) (h : sh.cur < sh.ninners) : (sh.pushInner J).tbl = sh.tbl :=
  congrArg (fun I : Inner => sh.tables I.tcur) (inners_pushInner J h)

/-- what a change of the shared state by the lock's owner has to establish -/
structure Keeps (sh sh' : Shared) : Prop where
  g : GInv sh'
  e : Ext sh sh'

theorem Keeps.trans {a b c : Shared} (h1 : Keeps a b) (h2 : Keeps b c) : Keeps a c :=
  ⟨h2.g, h1.e.trans h2.e⟩

theorem Keeps.own {cfg : Cfg} {sh sh' : Shared} {t : Tid} {l l' : Local} (k : Keeps sh sh')
    (hl : LInv cfg sh t l) (hlk : sh.lock = some t)
    (hbi : l'.bi < sh'.ninners) (hti : l'.ti < sh'.ntables) (hres : l'.results = l.results)
    (hpc : PcInv cfg sh' t l') : Own cfg sh t (sh', l') :=
  ⟨k.g, ⟨hbi, hti, fun r h => (hl.res r (hres ▸ h)).ext k.e, hpc⟩, k.e, .inr (.inr hlk)⟩

section prim
variable {sh : Shared} {t : Tid} (hg : GInv sh) (hlk : sh.lock = some t)
include hg hlk

theorem keeps_pushTable {T : List Nat} (hn : T.Nodup)
    (hc : ∀ o, o ∈ T → ∃ x, sh.blk.textAt o = some x) : Keeps sh (sh.pushTable T) := by
  have hold : ∀ k, k < sh.ntables → upd sh.tables sh.ntables T k = sh.tables k :=
    fun k hk => upd_ne _ _ (Nat.ne_of_lt hk)
  have htc : ∀ i, i < sh.ninners → ∀ o, o ∈ sh.tables (sh.inners i).tcur →
      o ∈ upd sh.tables sh.ntables T (sh.inners i).tcur :=
    fun i hi o ho => (congrArg (o ∈ ·) (hold _ (hg.tcur_lt i hi))).mpr ho
  exact ⟨⟨hg.cur_lt, fun i hi => Nat.lt_succ_of_lt (hg.tcur_lt i hi), hg.cells_lt,
      forall_upd_succ (P := fun _ T => ∀ o, o ∈ T → ∃ x, sh.blk.textAt o = some x) hg.tbl_cells hc,
      hg.inj, forall_upd_succ (P := fun _ T => List.Nodup T) hg.nodup hn,
      fun h => (nomatch hlk.symm.trans h), hg.vers⟩,
    ⟨Nat.le_refl _, Nat.le_succ _, hold, htc, fun _ _ h => h, htc _ hg.cur_lt⟩⟩

theorem keeps_pushInner {J : Inner} (htc : J.tcur < sh.ntables)
    (hv : ∀ o x, J.block.textAt o = some x → sh.blk.textAt o = some x) : Keeps sh (sh.pushInner J) := by
  have hb := blk_pushInner J hg.cur_lt
  refine ⟨⟨Nat.lt_succ_of_lt hg.cur_lt,
      forall_upd_succ (P := fun _ (I : Inner) => I.tcur < sh.ntables) hg.tcur_lt htc, ?_, ?_, ?_,
      hg.nodup, fun h => (nomatch hlk.symm.trans h), ?_⟩,
    ⟨Nat.le_succ _, Nat.le_refl _, fun _ _ => rfl, ?_, ?_, ?_⟩⟩
  · rw [hb]; exact hg.cells_lt
  · rw [hb]; exact hg.tbl_cells
  · rw [hb]; exact hg.inj
  · rw [hb]
    exact forall_upd_succ
      (P := fun _ (I : Inner) => ∀ o x, I.block.textAt o = some x → sh.blk.textAt o = some x) hg.vers hv
  · intro i hi o ho
    show o ∈ sh.tables ((sh.pushInner J).inners i).tcur
    rw [inners_pushInner J hi]
    exact ho
  · rw [hb]; exact fun _ _ h => h
  · rw [tbl_pushInner J hg.cur_lt]; exact fun _ h => h

/-- `inner.replace`: another version with the same cells, pointer and index is published -/
theorem keeps_setCur {c : Nat} (hc : c < sh.ninners)
    (htext : ∀ o, (sh.inners c).block.textAt o = sh.blk.textAt o) (hused : (sh.inners c).block.used = sh.blk.used) (htbl : sh.tables (sh.inners c).tcur = sh.tbl) :
    Keeps sh { sh with cur := c } := by
  have hx : Block.textAt (Shared.blk { sh with cur := c }) = sh.blk.textAt := funext htext
  have hu : (Shared.blk { sh with cur := c }).used = sh.blk.used := hused
  refine ⟨⟨hc, hg.tcur_lt, ?_, ?_, ?_, hg.nodup, fun h => (nomatch hlk.symm.trans h), ?_⟩,
    ⟨Nat.le_refl _, Nat.le_refl _, fun _ _ => rfl, fun _ _ _ h => h, ?_,
      fun o ho => (congrArg (o ∈ ·) htbl).mpr ho⟩⟩
  · rw [hx, hu]; exact hg.cells_lt
  · rw [hx]; exact hg.tbl_cells
  · rw [hx]; exact hg.inj
  · rw [hx]; exact hg.vers
  · rw [hx]; exact fun _ _ h => h

/-- the published inner table is replaced by one that keeps every cell, may bump the pointer, may publish a
    bigger index version, and may hold one more cell `(off, x)` beyond every written cell for a text stored nowhere -/
theorem keeps_modCur {J : Inner} (off : Nat) (x : Text)
    (htc : J.tcur < sh.ntables) (htb : ∀ o, o ∈ sh.tbl → o ∈ sh.tables J.tcur)
    (hus : sh.blk.used ≤ J.block.used)
    (htx : ∀ o, J.block.textAt o = sh.blk.textAt o ∨
      (o = off ∧ J.block.textAt o = some x ∧ off < J.block.used ∧ Absent sh x ∧
        ∀ o' y, sh.blk.textAt o' = some y → o' < off)) :
    Keeps sh (sh.modCur J) := by
  have hb := blk_modCur sh J
  have hpairs : ∀ o y, sh.blk.textAt o = some y → J.block.textAt o = some y := by
    intro o y h
    rcases htx o with e | ⟨rfl, _, _, _, hlt⟩
    · exact e.trans h
    · exact absurd (hlt _ y h) (Nat.lt_irrefl _)
  have hcell : ∀ o y, J.block.textAt o = some y → sh.blk.textAt o = some y ∨
      (o = off ∧ y = x ∧ off < J.block.used ∧ Absent sh x) := by
    intro o y h
    rcases htx o with e | ⟨ho, e, hu, ha, _⟩
    · exact .inl (e.symm.trans h)
    · exact .inr ⟨ho, Option.some.inj (h.symm.trans e), hu, ha⟩
  refine ⟨⟨hg.cur_lt, forall_upd (P := fun _ (I : Inner) => I.tcur < sh.ntables) hg.tcur_lt htc, ?_, ?_, ?_,
      hg.nodup, fun h => (nomatch hlk.symm.trans h), ?_⟩,
    ⟨Nat.le_refl _, Nat.le_refl _, fun _ _ => rfl,
      forall_upd (P := fun i (I : Inner) => ∀ o, o ∈ sh.tables (sh.inners i).tcur → o ∈ sh.tables I.tcur)
        (fun _ _ _ h => h) htb, ?_, ?_⟩⟩
  · rw [hb]
    intro o y h
    rcases hcell o y h with h | ⟨rfl, _, hu, _⟩
    · exact Nat.lt_of_lt_of_le (hg.cells_lt o y h) hus
    · exact hu
  · rw [hb]
    intro k hk o ho
    obtain ⟨y, hy⟩ := hg.tbl_cells k hk o ho
    exact ⟨y, hpairs o y hy⟩
  · rw [hb]
    intro o1 o2 y h1 h2
    rcases hcell o1 y h1 with a | ⟨a1, a2, _, ha⟩ <;>
      rcases hcell o2 y h2 with b | ⟨b1, b2, _, hb⟩
    · exact hg.inj o1 o2 y a b
    · exact absurd (b2 ▸ a) (hb o1)
    · exact absurd (a2 ▸ b) (ha o2)
    · exact a1.trans b1.symm
  · rw [hb]
    exact forall_upd (P := fun _ (I : Inner) => ∀ o y, I.block.textAt o = some y → J.block.textAt o = some y)
      (fun i hi o y h => hpairs o y (hg.vers i hi o y h)) (fun _ _ h => h)
  · rw [hb]; exact hpairs
  · rw [tbl_modCur]; exact htb

/-- the same when no cell is written -/
theorem keeps_modCur_same {J : Inner} (htc : J.tcur < sh.ntables)
    (htb : ∀ o, o ∈ sh.tbl → o ∈ sh.tables J.tcur) (hus : sh.blk.used ≤ J.block.used)
    (hcells : J.block.cells = sh.blk.cells) : Keeps sh (sh.modCur J) :=
  keeps_modCur hg hlk 0 [] htc htb hus fun o => .inl (congrArg (lookupOff o) hcells)

end prim

/-- a step of `t` keeps the invariant: one case for each branch of `stepT`, in the order of its definition -/
theorem own {cfg : Cfg} {sh : Shared} {t : Tid} {l : Local} (hg : GInv sh) (hl : LInv cfg sh t l)
    (hr : cfg.recheck = true) : Own cfg sh t (stepT cfg sh t l) := by
  have hp : _ ∧ PcAt cfg sh l l.pc := hl.pcinv
  have htc := hg.tcur_lt _ hg.cur_lt
  fun_cases stepT cfg sh t l
  -- idle, script exhausted: a stutter
  case case1 => exact own_same hg hl
  -- idle, next text inlinable: the call completes without touching the table
  case case2 hpc x rest _ hi =>
    exact own_same hg ⟨hl.bi_lt, hl.ti_lt, List.forall_mem_cons.2 ⟨⟨rfl, hi⟩, hl.res⟩, hpc ▸ ⟨nofun, trivial⟩⟩
  -- idle, next text not inlinable: the call starts
  case case3 hpc x rest _ hi =>
    exact own_same hg ⟨hl.bi_lt, hl.ti_lt, hl.res, nofun, eq_false_of_ne_true hi⟩
  -- readInner
  case case4 hpc =>
    rw [hpc] at hp
    exact own_same hg ⟨hg.cur_lt, hl.ti_lt, hl.res, nofun, hp.2⟩
  -- readTable
  case case5 hpc =>
    rw [hpc] at hp
    exact own_same hg ⟨hl.bi_lt, hg.tcur_lt _ hl.bi_lt, hl.res, nofun, hp.2, fun _ h => h⟩
  -- lookup, text in the static map
  case case6 hpc hs =>
    rw [hpc] at hp
    exact own_same hg ⟨hl.bi_lt, hl.ti_lt, List.forall_mem_cons.2 ⟨⟨rfl, hp.2.1, hs⟩, hl.res⟩, nofun, trivial⟩
  -- lookup, not static, found in the index
  case case7 hpc hs o ho =>
    rw [hpc] at hp
    exact own_same hg ⟨hl.bi_lt, hl.ti_lt,
      List.forall_mem_cons.2 ⟨⟨(tableLookup_some ho).1, hp.2.1, eq_false_of_ne_true hs⟩, hl.res⟩, nofun, trivial⟩
  -- lookup, not static, missed
  case case8 hpc hs ho =>
    rw [hpc] at hp
    exact own_same hg ⟨hl.bi_lt, hl.ti_lt, hl.res, nofun, hp.2.1, eq_false_of_ne_true hs,
      fun o h => tableLookup_none ho o (hp.2.2 o h)⟩
  -- lock, free
  case case9 hpc hk =>
    rw [hpc] at hp
    exact own_setLock _ hg (fun h => nomatch h) (.inl hk)
      ⟨hl.bi_lt, hl.ti_lt, hl.res, fun _ => ⟨rfl, hp.2.1, hp.2.2.1⟩, hp.2.2.2, hg.unlocked hk⟩
  -- lock, owned by some thread: a stutter
  case case10 => exact own_same hg hl
  -- recheck, both snapshots are the published versions
  case case11 hpc hc =>
    rw [hpc] at hp
    obtain ⟨hh, hmiss, hall⟩ := hp
    simp only [hr, Bool.true_eq_false, false_or] at hc
    refine own_same hg ⟨hl.bi_lt, hl.ti_lt, hl.res, fun _ => hh rfl, hc.1, by rw [hc.2, hc.1], hall, ?_⟩
    intro o ho
    have := hall o _ ho
    unfold Shared.tbl at this
    rw [← hc.1, ← hc.2] at this
    exact hmiss o this ho
  -- recheck, a snapshot is stale: release the lock and start over
  case case12 hpc _ =>
    rw [hpc] at hp
    obtain ⟨hh, hmiss, hall⟩ := hp
    have hh := hh rfl
    exact own_setLock _ hg (fun _ => hall) (.inr hh.1) ⟨hl.bi_lt, hl.ti_lt, hl.res, nofun, hh.2.1⟩
  -- alloc, the allocation fits: bump the pointer
  case case13 hpc I _ =>
    rw [hpc] at hp
    obtain ⟨hh, hbi, hti, hall, habs⟩ := hp
    have hh := hh rfl
    subst I
    rw [hbi]
    show Own cfg sh t (sh.modCur _, _)
    refine Keeps.own (keeps_modCur_same hg hh.1 htc (fun _ h => h)
      (Nat.le_add_right _ (allocSize l.text)) rfl) hl hh.1 hg.cur_lt hl.ti_lt rfl ?_
    refine ⟨fun _ => hh, rfl, ?_, ?_, ?_, ?_, ?_⟩
    · show _ = (upd sh.inners sh.cur _ sh.cur).tcur
      rw [upd_same]
      exact hti
    · unfold AllIndexed
      rw [blk_modCur, tbl_modCur]
      exact hall
    · unfold Absent
      rw [blk_modCur]
      exact habs
    · rw [blk_modCur]
      exact hg.cells_lt
    · rw [blk_modCur]
      exact Nat.lt_add_of_pos_right (allocSize_pos l.text)
  -- alloc, block exhausted: build the grown copy (not yet published)
  case case14 hpc I _ =>
    rw [hpc] at hp
    obtain ⟨hh, hbi, hti, hall, habs⟩ := hp
    have hh := hh rfl
    subst I
    rw [hbi, hti]
    show Own cfg sh t ((sh.pushTable sh.tbl).pushInner _, _)
    have k1 := keeps_pushTable hg hh.1 (hg.nodup _ htc) (hg.tbl_cells _ htc)
    generalize hJ : Inner.mk _ _ = J
    have hb := blk_pushInner (sh := sh.pushTable sh.tbl) J hg.cur_lt
    have ht := (tbl_pushInner (sh := sh.pushTable sh.tbl) J hg.cur_lt).trans (tbl_pushTable sh.tbl htc)
    refine Keeps.own (k1.trans (keeps_pushInner k1.g hh.1 (hJ ▸ Nat.lt_succ_self _) (hJ ▸ fun _ _ h => h)))
      hl hh.1 (Nat.lt_succ_of_lt hg.cur_lt) (Nat.lt_succ_of_lt htc) rfl ?_
    refine ⟨fun _ => hh, ?_, ?_, Nat.lt_succ_self _, ?_, ?_, ?_⟩
    · unfold AllIndexed
      rw [hb, ht]
      exact hall
    · unfold Absent
      rw [hb]
      exact habs
    · dsimp only; rw [hb, upd_same, ← hJ]; exact fun _ => rfl
    · dsimp only; rw [hb, upd_same, ← hJ]; rfl
    · dsimp only; rw [ht, upd_same, ← hJ]
      exact upd_same _ _ _
  -- publishInner
  case case15 hpc =>
    rw [hpc] at hp
    obtain ⟨hh, hall, habs, hnb, htx, hused, htbl⟩ := hp
    have hh := hh rfl
    exact (keeps_setCur hg hh.1 hnb htx hused htbl).own hl hh.1 hnb (hg.tcur_lt _ hnb) rfl
      ⟨fun _ => hh, rfl, rfl,
        fun o x h => (congrArg (o ∈ ·) htbl).mpr (hall o x ((htx o).symm.trans h)),
        fun o h => habs o ((htx o).symm.trans h)⟩
  -- write
  case case16 hpc I =>
    rw [hpc] at hp
    obtain ⟨hh, hbi, hti, hall, habs, hlt, hoff⟩ := hp
    have hh := hh rfl
    subst I
    rw [hbi]
    show Own cfg sh t (sh.modCur _, _)
    refine Keeps.own (keeps_modCur hg hh.1 l.off l.text htc (fun _ h => h)
      (Nat.le_refl _) fun o => ?_) hl hh.1 hg.cur_lt hl.ti_lt rfl ?_
    · by_cases ho : o = l.off
      · exact .inr ⟨ho, if_pos ho, hoff, habs, hlt⟩
      · exact .inl (if_neg ho)
    · refine ⟨fun _ => hh, rfl, ?_, ?_⟩
      · show l.ti = (upd sh.inners sh.cur _ sh.cur).tcur
        rw [upd_same]
        exact hti
      rw [blk_modCur, tbl_modCur]
      refine ⟨if_pos rfl, fun o x h => ?_⟩
      by_cases ho : o = l.off
      · exact .inr ho
      · exact .inl (hall o x ((if_neg ho).symm.trans h))
  -- publish: a new index version, then the published inner table pointing to it
  case case17 hpc I =>
    rw [hpc] at hp
    obtain ⟨hh, hbi, hti, hoff, hcov⟩ := hp
    have hh := hh rfl
    subst I
    rw [hbi, hti]
    show Own cfg sh t ((sh.pushTable (insertSet sh.tbl l.off)).modCur _, _)
    have k1 := keeps_pushTable hg hh.1 (nodup_insertSet (hg.nodup _ htc))
      fun o ho => (mem_insertSet.mp ho).elim (hg.tbl_cells _ htc o) fun e => e ▸ ⟨_, hoff⟩
    have hnew : ∀ o, o ∈ insertSet sh.tbl l.off →
        o ∈ upd sh.tables sh.ntables (insertSet sh.tbl l.off) sh.ntables :=
      fun o ho => (congrArg (o ∈ ·) (upd_same _ _ _)).mpr ho
    refine Keeps.own (k1.trans (keeps_modCur_same k1.g hh.1 (Nat.lt_succ_self _) ?_ (Nat.le_refl _) rfl))
      hl hh.1 hg.cur_lt (Nat.lt_succ_of_lt htc) rfl ⟨fun _ => hh, ?_, ?_⟩
    · rw [tbl_pushTable _ htc]
      exact fun o ho => hnew o (mem_insertSet.mpr (.inl ho))
    · unfold AllIndexed
      rw [blk_modCur, tbl_modCur]
      exact fun o x h => hnew o (mem_insertSet.mpr (hcov o x h))
    · rw [blk_modCur]
      exact hoff
  -- unlock
  case case18 hpc =>
    rw [hpc] at hp
    obtain ⟨hh, hall, hoff⟩ := hp
    have hh := hh rfl
    exact own_setLock _ hg (fun _ => hall) (.inr hh.1)
      ⟨hl.bi_lt, hl.ti_lt, List.forall_mem_cons.2 ⟨⟨hoff, hh.2.1, hh.2.2⟩, hl.res⟩, nofun, trivial⟩

structure Inv (cfg : Cfg) (s : State) : Prop where
  g : GInv s.sh
  l : ∀ u, LInv cfg s.sh u (s.locals u)

/-- the fresh table has no cell, no index entry and no result: every clause is a bound `0 < 1`
    or holds vacuously -/
theorem inv_init (cfg : Cfg) (scripts : Tid → List Text) : Inv cfg (init cfg scripts) :=
  ⟨⟨Nat.zero_lt_one, fun _ _ => Nat.zero_lt_one, nofun, nofun, nofun, fun _ _ => List.nodup_nil,
      nofun, nofun⟩,
    fun _ => ⟨Nat.zero_lt_one, Nat.zero_lt_one, nofun, nofun, trivial⟩⟩

theorem inv_step {cfg : Cfg} (hr : cfg.recheck = true) {s : State} (h : Inv cfg s) (t : Tid) :
    Inv cfg (step cfg s t) ∧ Ext s.sh (step cfg s t).sh :=
  have ho := own h.g (h.l t) hr
  ⟨⟨ho.g, fun u => upd_ind (P := fun u l => LInv cfg (step cfg s t).sh u l) u ho.l
    fun hu => other h.g (h.l u) ho.e hu ho.frame⟩, ho.e⟩

theorem inv_run {cfg : Cfg} (hr : cfg.recheck = true) {s : State} (h : Inv cfg s)
    (sched : List Tid) : Inv cfg (run cfg s sched) ∧ Ext s.sh (run cfg s sched).sh := by
  induction sched generalizing s with
  | nil => exact ⟨h, Ext.refl _⟩
  | cons t rest ih =>
    have h1 := inv_step hr h t
    have h2 := ih h1.1
    exact ⟨h2.1, h1.2.trans h2.2⟩

theorem run_append (cfg : Cfg) (s : State) (a b : List Tid) :
    run cfg s (a ++ b) = run cfg (run cfg s a) b := by
  simp [run, List.foldl_append]

end Scryer.AtomProto
