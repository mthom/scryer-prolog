import ScryerModel.Model.Atoms
/-!
The atom table (C21): `Inv` (no text stored twice, none of them inlineable, offsets fresh) is kept
by `intern`; `Rep t s i` — interning `s` in `t` finds index `i` and `i` reads back as `s` — holds of
the index `intern` returns and survives every later insertion.
-/
namespace Scryer.Atoms

/-- a text is a list of bytes. -/
def BytesOk (s : Bytes) : Prop := ∀ b ∈ s, b < 256

/-- the table invariant: no text is stored twice and no inlineable text is stored in a table;
    offsets are distinct and below the bump pointer. -/
structure Inv (t : Table) : Prop where
  st_nodup : t.statics.Nodup
  st_ninl : ∀ s ∈ t.statics, inlineable s = false
  dy_ninl : ∀ p ∈ t.dyn, inlineable p.2 = false
  dy_nst : ∀ p ∈ t.dyn, p.2 ∉ t.statics
  dy_txt : (t.dyn.map (·.2)).Nodup
  dy_off : ∀ p ∈ t.dyn, p.1 < t.next
  dy_offnd : (t.dyn.map (·.1)).Nodup

theorem bytesLE_zero (k : Nat) : bytesLE k 0 = List.replicate k 0 := by
  induction k with
  | zero => rfl
  | succ k ih => simp [bytesLE, ih, List.replicate_succ]

theorem bytesLE_pack (s : Bytes) (k : Nat) (h : BytesOk s) :
    bytesLE (s.length + k) (packLE s) = s ++ List.replicate k 0 := by
  induction s with
  | nil => simp [packLE, bytesLE_zero]
  | cons b r ih =>
    have hb : b < 256 := h b (by simp)
    have hr : BytesOk r := fun x hx => h x (by simp [hx])
    have h1 : (b + 256 * packLE r) % 256 = b := by
      rw [Nat.add_mul_mod_self_left, Nat.mod_eq_of_lt hb]
    have h2 : (b + 256 * packLE r) / 256 = packLE r := by
      rw [Nat.add_mul_div_left _ _ (by decide), Nat.div_eq_of_lt hb, Nat.zero_add]
    rw [List.length_cons, Nat.add_right_comm, packLE, bytesLE, h1, h2, ih hr]
    rfl

theorem findIdx_zero (s : Bytes) (k : Nat) (h0 : 0 ∉ s) :
    (s ++ List.replicate (k + 1) 0).findIdx? (· == 0) = some s.length := by
  induction s with
  | nil => simp [List.replicate_succ, List.findIdx?_cons]
  | cons b r ih =>
    have hb : b ≠ 0 := fun e => h0 (by simp [e])
    have hr : 0 ∉ r := fun e => h0 (by simp [e])
    simp [List.findIdx?_cons, hb, ih hr]

theorem inlineable_iff (s : Bytes) :
    inlineable s = true ↔ s ≠ [] ∧ s.length ≤ 6 ∧ 0 ∉ s := by
  cases s with
  | nil => simp [inlineable]
  | cons b r => simp [inlineable, maxInline]

theorem inlinedToStr_pack (s : Bytes) (hs : BytesOk s) (hi : inlineable s = true) :
    inlinedToStr (packLE s) = s := by
  obtain ⟨_, hl, h0⟩ := (inlineable_iff s).1 hi
  -- the 8 bytes of the word are `s` and at least two zeros (`s.length ≤ 6`): the first zero ends it
  have e : 8 = s.length + ((7 - s.length) + 1) := by omega
  unfold inlinedToStr
  simp only []
  rw [e, bytesLE_pack s _ hs, findIdx_zero s _ h0]
  simp

theorem findStatic_some (l : List Bytes) (s : Bytes) (i j : Nat) (h : findStatic l s i = some j) :
    i ≤ j ∧ l[j - i]? = some s := by
  induction l generalizing i with
  | nil => cases h
  | cons x r ih =>
    unfold findStatic at h
    split at h
    · rename_i hx
      cases h
      rw [Nat.sub_self, hx]
      exact ⟨Nat.le_refl _, rfl⟩
    · obtain ⟨h1, h2⟩ := ih (i + 1) h
      rw [show j - i = (j - (i + 1)) + 1 by omega]
      exact ⟨Nat.le_of_succ_le h1, h2⟩

theorem findStatic_none (l : List Bytes) (s : Bytes) (i : Nat) :
    findStatic l s i = none ↔ s ∉ l := by
  induction l generalizing i with
  | nil => simp [findStatic]
  | cons x r ih =>
    simp only [findStatic]
    split
    · rename_i hx; simp [hx]
    · rename_i hx
      rw [ih]
      simp only [List.mem_cons, not_or]
      exact ⟨fun h => ⟨fun e => hx e.symm, h⟩, fun h => h.2⟩

theorem findStatic_mem (l : List Bytes) (s : Bytes) (i j : Nat) (h : findStatic l s i = some j) :
    s ∈ l :=
  List.mem_of_getElem? (findStatic_some l s i j h).2

theorem findDyn_some (d : List (Nat × Bytes)) (s : Bytes) (o : Nat) (h : findDyn d s = some o) :
    (o, s) ∈ d := by
  induction d with
  | nil => simp [findDyn] at h
  | cons p r ih =>
    simp only [findDyn] at h
    split at h
    · rename_i hp
      simp only [Option.some.injEq] at h
      subst h; subst hp; simp
    · simp [ih h]

theorem findDyn_none (d : List (Nat × Bytes)) (s : Bytes) :
    findDyn d s = none ↔ ∀ p ∈ d, p.2 ≠ s := by
  induction d with
  | nil => simp [findDyn]
  | cons p r ih =>
    unfold findDyn
    rw [List.forall_mem_cons]
    split
    · rename_i hp; exact ⟨fun h => (nomatch h), fun h => absurd hp h.1⟩
    · rename_i hp; exact ih.trans ⟨fun h => ⟨hp, h⟩, fun h => h.2⟩

theorem findDyn_append (d e : List (Nat × Bytes)) (s : Bytes) :
    findDyn (d ++ e) s = (findDyn d s).or (findDyn e s) := by
  induction d with
  | nil => rfl
  | cons p r ih =>
    simp only [findDyn, List.cons_append]
    split
    · rfl
    · exact ih

theorem findOff_mem (d : List (Nat × Bytes)) (o : Nat) (s : Bytes)
    (hn : (d.map (·.1)).Nodup) (h : (o, s) ∈ d) : findOff d o = some s := by
  induction d with
  | nil => simp at h
  | cons p r ih =>
    simp only [List.map_cons, List.nodup_cons] at hn
    simp only [findOff]
    rcases List.mem_cons.1 h with rfl | h'
    · simp
    · have : p.1 ≠ o := by
        intro e
        exact hn.1 (by rw [e]; exact List.mem_map.2 ⟨(o, s), h', rfl⟩)
      simp [this, ih hn.2 h']

theorem findOff_append (d e : List (Nat × Bytes)) (o : Nat) :
    findOff (d ++ e) o = (findOff d o).or (findOff e o) := by
  induction d with
  | nil => rfl
  | cons p r ih =>
    simp only [findOff, List.cons_append]
    split
    · rfl
    · exact ih

theorem allocSize_pos (s : Bytes) : 0 < allocSize s := by unfold allocSize; omega

theorem nodup_map_concat {α β : Type} {f : α → β} {l : List α} {x : α} (hn : (l.map f).Nodup)
    (hx : ∀ p ∈ l, f p ≠ f x) : ((l ++ [x]).map f).Nodup := by
  rw [List.map_append, List.nodup_append]
  refine ⟨hn, List.pairwise_singleton _ _, fun a ha b hb => ?_⟩
  obtain ⟨p, hp, rfl⟩ := List.mem_map.1 ha
  rw [List.mem_singleton.1 hb]
  exact hx p hp

theorem intern_inv (t : Table) (s : Bytes) (h : Inv t) : Inv (intern t s).1 := by
  unfold intern
  -- inlineable, static or already in `dyn`: the table is unchanged
  split
  · exact h
  · rename_i hi
    split
    · exact h
    · rename_i hst
      split
      · exact h
      · rename_i hdy
        -- a new entry: not inlineable, not static, its text not stored yet, at the bump pointer
        exact ⟨h.st_nodup, h.st_ninl,
          List.forall_mem_append.2 ⟨h.dy_ninl, List.forall_mem_singleton.2 (eq_false_of_ne_true hi)⟩,
          List.forall_mem_append.2
            ⟨h.dy_nst, List.forall_mem_singleton.2 ((findStatic_none _ _ _).1 hst)⟩,
          nodup_map_concat h.dy_txt ((findDyn_none _ _).1 hdy),
          List.forall_mem_append.2 ⟨fun p hp => Nat.lt_add_right _ (h.dy_off p hp),
            List.forall_mem_singleton.2 (Nat.lt_add_of_pos_right (allocSize_pos s))⟩,
          nodup_map_concat h.dy_offnd fun p hp => Nat.ne_of_lt (h.dy_off p hp)⟩

/-! ## the four outcomes of `intern`, the two shapes of an index -/

theorem intern_inline {t : Table} {s : Bytes} (hi : inlineable s = true) :
    intern t s = (t, inlineIndex s) := by
  unfold intern; rw [if_pos hi]

theorem intern_static {t : Table} {s : Bytes} {i : Nat} (hi : inlineable s = false)
    (hst : findStatic t.statics s 0 = some i) : intern t s = (t, 2 * i) := by
  unfold intern; rw [hi, hst]; rfl

theorem intern_dyn {t : Table} {s : Bytes} {off : Nat} (hi : inlineable s = false)
    (hst : findStatic t.statics s 0 = none) (hdy : findDyn t.dyn s = some off) :
    intern t s = (t, 2 * (t.statics.length + off)) := by
  unfold intern; rw [hi, hst, hdy]; rfl

theorem intern_new {t : Table} {s : Bytes} (hi : inlineable s = false)
    (hst : findStatic t.statics s 0 = none) (hdy : findDyn t.dyn s = none) :
    intern t s = ({ t with dyn := t.dyn ++ [(t.next, s)], next := t.next + allocSize s },
      2 * (t.statics.length + t.next)) := by
  unfold intern; rw [hi, hst, hdy]; rfl

theorem inlineIndex_mod (s : Bytes) : inlineIndex s % 2 = 1 := by
  unfold inlineIndex; rw [Nat.mul_add_mod_self_right]

theorem inlineIndex_div (s : Bytes) : inlineIndex s / 2 = packLE s := by
  unfold inlineIndex; rw [Nat.mul_comm, Nat.mul_add_div (by decide)]; rfl

theorem text_inline (t : Table) (s : Bytes) :
    text t (inlineIndex s) = some (inlinedToStr (packLE s)) := by
  unfold text; rw [if_pos (inlineIndex_mod s), inlineIndex_div]

theorem text_even (t : Table) (i : Nat) :
    text t (2 * i) = if i < t.statics.length then t.statics[i]?
      else findOff t.dyn (i - t.statics.length) := by
  unfold text; rw [Nat.mul_mod_right, Nat.mul_div_cancel_left i (by decide)]; rfl

theorem text_dyn (t : Table) (off : Nat) :
    text t (2 * (t.statics.length + off)) = findOff t.dyn off := by
  rw [text_even, if_neg (Nat.not_lt.2 (Nat.le_add_right _ _)), Nat.add_sub_cancel_left]

/-! ## `Rep` holds of what `intern` returns and survives later insertions -/

/-- `s` is already represented in `t` by index `i` (interning finds it and changes nothing) and
    `i` decodes to `s`. -/
def Rep (t : Table) (s : Bytes) (i : Nat) : Prop := intern t s = (t, i) ∧ text t i = some s

theorem intern_rep (t : Table) (s : Bytes) :
    intern (intern t s).1 s = intern t s ∧
    (Inv t → BytesOk s → text (intern t s).1 (intern t s).2 = some s) := by
  cases hi : inlineable s with
  | true =>
    have e : intern t s = (t, inlineIndex s) := intern_inline hi
    rw [e]
    exact ⟨e, fun _ hs => (text_inline t s).trans (congrArg some (inlinedToStr_pack s hs hi))⟩
  | false =>
    cases hst : findStatic t.statics s 0 with
    | some i =>
      have e : intern t s = (t, 2 * i) := intern_static hi hst
      have hget : t.statics[i]? = some s := (findStatic_some _ _ _ _ hst).2
      rw [e]
      exact ⟨e, fun _ _ => by rw [text_even, if_pos (List.getElem?_eq_some_iff.1 hget).1, hget]⟩
    | none =>
      cases hdy : findDyn t.dyn s with
      | some off =>
        have e : intern t s = (t, 2 * (t.statics.length + off)) := intern_dyn hi hst hdy
        rw [e]
        exact ⟨e, fun h _ =>
          (text_dyn t off).trans (findOff_mem _ _ _ h.dy_offnd (findDyn_some _ _ _ hdy))⟩
      | none =>
        have h' := intern_inv t s
        rw [intern_new hi hst hdy] at h' ⊢
        exact ⟨intern_dyn (t := { t with dyn := _, next := _ }) hi hst
            ((findDyn_append _ _ _).trans (by rw [hdy]; exact if_pos rfl)),
          fun h _ => (text_dyn { t with dyn := _, next := _ } t.next).trans (findOff_mem _ _ _
            (h' h).dy_offnd (List.mem_append_right _ (List.mem_singleton_self _)))⟩

theorem rep_grow (t : Table) (x : Nat × Bytes) (n : Nat) (s : Bytes) (i : Nat) (hr : Rep t s i) :
    Rep { t with dyn := t.dyn ++ [x], next := n } s i := by
  obtain ⟨h1, h2⟩ := hr
  refine ⟨?_, ?_⟩
  · -- the lookup that found `s` in `t` finds it again
    cases hi : inlineable s with
    | true =>
      rw [intern_inline hi] at h1
      exact (intern_inline hi).trans (congrArg _ (Prod.mk.inj h1).2)
    | false =>
      cases hst : findStatic t.statics s 0 with
      | some j =>
        rw [intern_static hi hst] at h1
        exact (intern_static (t := { t with dyn := t.dyn ++ [x], next := n }) hi hst).trans
          (congrArg _ (Prod.mk.inj h1).2)
      | none =>
        cases hdy : findDyn t.dyn s with
        | some off =>
          rw [intern_dyn hi hst hdy] at h1
          exact (intern_dyn (t := { t with dyn := t.dyn ++ [x], next := n }) hi hst
            ((findDyn_append _ _ _).trans (by rw [hdy]; rfl))).trans (congrArg _ (Prod.mk.inj h1).2)
        | none =>
          rw [intern_new hi hst hdy] at h1
          have := congrArg (fun p => p.1.dyn.length) h1
          simp at this
  -- of the arms of `text` (inlined, static, dynamic) only the last looks at `dyn`
  · unfold text at h2 ⊢
    split
    · rwa [if_pos ‹_›] at h2
    · rw [if_neg ‹_›] at h2
      split
      · rwa [if_pos ‹_›] at h2
      · rw [if_neg ‹_›] at h2
        rw [findOff_append, h2]; rfl

theorem rep_mono (t : Table) (s s' : Bytes) (i : Nat) (hr : Rep t s i) :
    Rep (intern t s').1 s i := by
  unfold intern
  -- the table changes only in the last arm (a new entry)
  split
  · exact hr
  · split
    · exact hr
    · split
      · exact hr
      · exact rep_grow t _ _ s i hr

theorem rep_mono_all (t : Table) (l : List Bytes) (s : Bytes) (i : Nat) (hr : Rep t s i) :
    Rep (internAll t l).1 s i := by
  induction l generalizing t with
  | nil => exact hr
  | cons s' r ih =>
    simp only [internAll]
    exact ih _ (rep_mono t s s' i hr)

theorem internAll_length (t : Table) (l : List Bytes) : (internAll t l).2.length = l.length := by
  induction l generalizing t with
  | nil => rfl
  | cons s r ih => exact congrArg Nat.succ (ih _)

theorem internAll_rep (t : Table) (l : List Bytes) (h : Inv t) (hl : ∀ s ∈ l, BytesOk s) :
    ∀ p ∈ l.zip (internAll t l).2, Rep (internAll t l).1 p.1 p.2 := by
  induction l generalizing t with
  | nil => exact fun _ hp => nomatch hp
  | cons s r ih =>
    have hs : BytesOk s := hl s (by simp)
    have hr : ∀ x ∈ r, BytesOk x := fun x hx => hl x (by simp [hx])
    simp only [internAll, List.zip_cons_cons, List.mem_cons]
    rintro p (rfl | hp)
    · exact rep_mono_all _ r s _ ⟨(intern_rep t s).1, (intern_rep t s).2 h hs⟩
    · exact ih (intern t s).1 (intern_inv t s h) hr p hp

end Scryer.Atoms
