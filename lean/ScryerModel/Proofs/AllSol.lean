import ScryerModel.Model.AllSolRun
import ScryerModel.Proofs.Sort
/-
Lemmas for C25: the grouping machinery of `bagof/3` / `setof/3`, generic in the comparison
(`TotalCmp`, whose consequences are those of `Sort.IsPreorder`). On a key-sorted list
`split_by_variant/4` is a filter (`splitPrefix_sorted`), so `split_by_variant/3` yields the
classes of the keys in ascending order: `Grouped`, proved once (`splitGroups_grouped`) and handed
on through `keysort/2` (stable) and `sort/2` to `bagof_grouped` / `setof_grouped`. At the end,
`dedup` and the witness candidates `witnesses0` of the free-variable analysis.
-/
namespace Scryer.AllSol

/-- a total preorder presented as a three-way comparison (what C13 proves of the standard order):
    the hypothesis on `cmp` of the `C25_bagof_*` and `C25_setof_*` theorems. Field for field it is
    `Sort.IsPreorder` (`pre`). -/
structure TotalCmp {κ : Type} (cmp : κ → κ → Ordering) : Prop where
  refl : ∀ a, cmp a a = .eq
  swap : ∀ a b, cmp b a = (cmp a b).swap
  le_trans : ∀ a b c, cmp a b ≠ .gt → cmp b c ≠ .gt → cmp a c ≠ .gt

namespace TotalCmp
variable {κ : Type} {cmp : κ → κ → Ordering}

/-- the same three laws as `Sort.IsPreorder` (C14), whose consequences are used through this. -/
theorem pre (h : TotalCmp cmp) : Sort.IsPreorder cmp := ⟨h.refl, h.swap, h.le_trans⟩

theorem lt_of_lt_of_eq (h : TotalCmp cmp) {a b c : κ} (e1 : cmp a b = .lt) (e2 : cmp b c = .eq) :
    cmp a c = .lt := h.pre.lt_of_lt_of_le e1 (by simp [e2])

theorem not_eq_of_lt (_h : TotalCmp cmp) {a b : κ} (e : cmp a b = .lt) : cmp a b ≠ .eq := by
  simp [e]

theorem comap {β : Type} (h : TotalCmp cmp) (f : β → κ) : TotalCmp fun a b => cmp (f a) (f b) :=
  ⟨fun _ => h.refl _, fun _ _ => h.swap _ _, fun _ _ _ => h.le_trans _ _ _⟩

/-! `≤` as the Boolean relation `List.mergeSort` sorts by. -/

theorem ble_trans (h : TotalCmp cmp) (a b c : κ) :
    (cmp a b != .gt) = true → (cmp b c != .gt) = true → (cmp a c != .gt) = true := by
  simp only [bne_iff_ne, ne_eq]
  exact h.le_trans a b c

theorem ble_total (h : TotalCmp cmp) (a b : κ) : (cmp a b != .gt || cmp b a != .gt) = true := by
  rw [h.swap a b]
  cases cmp a b <;> rfl

end TotalCmp

theorem mergeSort_sorted {β : Type} {c : β → β → Ordering} (h : TotalCmp c) (l : List β) :
    (l.mergeSort fun a b => c a b != .gt).Pairwise fun a b => c a b ≠ .gt :=
  (List.pairwise_mergeSort h.ble_trans h.ble_total l).imp fun {_ _} hab => by simpa using hab

section generic
variable {κ α : Type} {cmp : κ → κ → Ordering}

/-! ### split_by_variant/4 -/

theorem splitPrefix_eq (v : κ) (l : List (κ × α)) :
    splitPrefix cmp v l =
      ((l.takeWhile (fun p => cmp v p.1 == .eq)).map (·.2),
       l.dropWhile (fun p => cmp v p.1 == .eq)) := by
  induction l with
  | nil => simp [splitPrefix]
  | cons p ps ih =>
    obtain ⟨v2, s2⟩ := p
    simp only [splitPrefix, List.takeWhile_cons, List.dropWhile_cons]
    by_cases hc : (cmp v v2 == .eq) = true
    · simp [hc, ih]
    · simp [hc]

/-! ### split_by_variant/3: facts that need no order -/

theorem splitGroups_nil : splitGroups cmp ([] : List (κ × α)) = [] := by
  simp [splitGroups]

theorem splitGroups_cons (v : κ) (s : α) (ps : List (κ × α)) :
    splitGroups cmp ((v, s) :: ps) =
      (v, s :: (splitPrefix cmp v ps).1) :: splitGroups cmp (splitPrefix cmp v ps).2 := by
  rw [splitGroups]

theorem splitGroups_eq_nil_iff (l : List (κ × α)) : splitGroups cmp l = [] ↔ l = [] := by
  cases l with
  | nil => simp [splitGroups_nil]
  | cons p ps => obtain ⟨v, s⟩ := p; simp [splitGroups_cons]

theorem splitGroups_flatten (l : List (κ × α)) :
    (splitGroups cmp l).flatMap (·.2) = l.map (·.2) := by
  fun_induction splitGroups cmp l with
  | case1 => rfl
  | case2 v s ps ih =>
    rw [List.flatMap_cons, ih, splitPrefix_eq]
    simp only [List.map_cons, List.cons_append, List.cons.injEq, true_and]
    rw [← List.map_append, List.takeWhile_append_dropWhile]

theorem splitGroups_nonempty (l : List (κ × α)) : ∀ g ∈ splitGroups cmp l, g.2 ≠ [] := by
  fun_induction splitGroups cmp l with
  | case1 => nofun
  | case2 v s ps ih => exact List.forall_mem_cons.mpr ⟨nofun, ih⟩

/-! ### split_by_variant/3 on a key-sorted list -/

/-- sorted by key (what `keysort/2` and `sort/2` establish). -/
def KSorted (cmp : κ → κ → Ordering) (l : List (κ × α)) : Prop :=
  l.Pairwise (fun p q => cmp p.1 q.1 ≠ .gt)

/-- `List.filter_eq_nil_iff` rests on `Classical.choice`; `C25_bagof_cover` needs none
    (`#print axioms`: `propext`, `Quot.sound`), and this keeps it so. -/
theorem filter_eq_nil_of {β : Type} {p : β → Bool} :
    ∀ {l : List β}, (∀ a ∈ l, p a = false) → l.filter p = []
  | [], _ => rfl
  | a :: l, h => by
    rw [List.filter_cons_of_neg (by rw [h a (.head _)]; nofun),
      filter_eq_nil_of fun b hb => h b (.tail _ hb)]

theorem splitPrefix_sorted (h : TotalCmp cmp) (v : κ) (ps : List (κ × α)) (hs : KSorted cmp ps)
    (hv : ∀ p ∈ ps, cmp v p.1 ≠ .gt) :
    splitPrefix cmp v ps =
      ((ps.filter (fun p => cmp v p.1 == .eq)).map (·.2),
        ps.filter (fun p => cmp v p.1 == .lt)) := by
  induction ps with
  | nil => rfl
  | cons q qs ih =>
    obtain ⟨hq, hs'⟩ := List.pairwise_cons.mp hs
    obtain ⟨hvq, hv'⟩ := List.forall_mem_cons.mp hv
    obtain ⟨k, s⟩ := q
    rw [splitPrefix]
    cases hc : cmp v k with
    | gt => exact absurd hc hvq
    | eq => simp [hc, ih hs' hv']
    | lt =>
      -- `k` is already above `v`, and so is everything after it
      have hall : ∀ p ∈ (k, s) :: qs, cmp v p.1 = .lt :=
        List.forall_mem_cons.mpr ⟨hc, fun p hp => h.pre.lt_of_lt_of_le hc (hq p hp)⟩
      rw [filter_eq_nil_of fun p hp => by rw [hall p hp]; rfl,
        List.filter_eq_self.mpr fun p hp => by rw [hall p hp]; rfl]
      rfl

/-- `gs` lists the `==`-classes of the keys of `l` in ascending order, each under one of its keys
    and with its values in the order of `l`: the specification of the groups `bagof/3` and
    `setof/3` enumerate, up to the choice of the key that stands for a class. -/
structure Grouped (cmp : κ → κ → Ordering) (l : List (κ × α)) (gs : List (κ × List α)) : Prop where
  ascending : gs.Pairwise (fun g g' => cmp g.1 g'.1 = .lt)
  key_mem : ∀ g ∈ gs, ∃ s, (g.1, s) ∈ l
  content : ∀ g ∈ gs, g.2 = (l.filter (fun p => cmp g.1 p.1 == .eq)).map (·.2)
  cover : ∀ p ∈ l, ∃ g ∈ gs, cmp g.1 p.1 = .eq

theorem splitGroups_grouped (h : TotalCmp cmp) (l : List (κ × α)) (hs : KSorted cmp l) :
    Grouped cmp l (splitGroups cmp l) := by
  fun_induction splitGroups cmp l with
  | case1 => exact ⟨.nil, nofun, nofun, nofun⟩
  | case2 v s ps ih =>
    obtain ⟨hv, hps⟩ := List.pairwise_cons.mp hs
    rw [splitPrefix_sorted h v ps hps hv] at ih ⊢
    have ih := ih (hps.sublist List.filter_sublist)
    -- the later groups have their keys among the keys above `v`
    have hlt : ∀ g ∈ splitGroups cmp (ps.filter fun p => cmp v p.1 == .lt), cmp v g.1 = .lt :=
      fun g hg => by
        obtain ⟨s', hs'⟩ := ih.key_mem g hg
        simpa using (List.mem_filter.mp hs').2
    refine ⟨List.pairwise_cons.mpr ⟨hlt, ih.ascending⟩, ?_, ?_, ?_⟩
    · intro g hg
      rcases List.mem_cons.mp hg with rfl | hg
      · exact ⟨s, .head _⟩
      · obtain ⟨s', hs'⟩ := ih.key_mem g hg
        exact ⟨s', .tail _ (List.mem_filter.mp hs').1⟩
    · intro g hg
      rcases List.mem_cons.mp hg with rfl | hg
      · simp [h.refl]
      · have hgv : (cmp g.1 v == .eq) = false := by rw [h.swap v g.1, hlt g hg]; rfl
        rw [ih.content g hg, List.filter_filter, List.filter_cons, hgv]
        congr 1
        refine List.filter_congr fun p _ => ?_
        cases e : cmp g.1 p.1
        case eq => simp [h.lt_of_lt_of_eq (hlt g hg) e]
        -- `lt`, `gt`: the test on `g.1` comes first and computes to `false` on both sides
        all_goals rfl
    · intro p hp
      rcases List.mem_cons.mp hp with rfl | hp
      · exact ⟨_, .head _, h.refl _⟩
      · cases e : cmp v p.1 with
        | lt =>
          obtain ⟨g, hg, he⟩ := ih.cover p (List.mem_filter.mpr ⟨hp, by simp [e]⟩)
          exact ⟨g, .tail _ hg, he⟩
        | eq => exact ⟨_, .head _, e⟩
        | gt => exact absurd e (hv p hp)

theorem eq_of_ascending {β : Type} (h : TotalCmp cmp) {l : List (κ × β)}
    (hl : l.Pairwise (fun g g' => cmp g.1 g'.1 = .lt)) {g g' : κ × β} (hg : g ∈ l) (hg' : g' ∈ l)
    (e : cmp g.1 g'.1 = .eq) : g = g' := by
  induction hl with
  | nil => cases hg
  | cons hx _ ih =>
    rcases List.mem_cons.mp hg with rfl | h1 <;> rcases List.mem_cons.mp hg' with rfl | h2
    · rfl
    · rw [hx _ h2] at e; cases e
    · rw [h.swap, hx _ h1] at e; cases e
    · exact ih h1 h2

namespace Grouped
variable {l : List (κ × α)} {gs : List (κ × List α)}

theorem mem_iff (hG : Grouped cmp l gs) {g : κ × List α} (hg : g ∈ gs) {a : α} :
    a ∈ g.2 ↔ ∃ p ∈ l, cmp g.1 p.1 = .eq ∧ p.2 = a := by
  simp [hG.content g hg, and_assoc]

end Grouped

/-! ### keysort/2 -/

theorem keysort_perm (l : List (κ × α)) : (keysort cmp l).Perm l := List.mergeSort_perm _ _

theorem keysort_sorted (h : TotalCmp cmp) (l : List (κ × α)) : KSorted cmp (keysort cmp l) :=
  mergeSort_sorted (h.comap Prod.fst) l

theorem keysort_stable (h : TotalCmp cmp) (k : κ) (l : List (κ × α)) :
    (keysort cmp l).filter (fun p => cmp k p.1 == .eq) = l.filter (fun p => cmp k p.1 == .eq) := by
  -- the class of `k` in `l` is pairwise `≤`, so `mergeSort` keeps it as a sublist
  -- (`List.sublist_mergeSort`) of the sorted list, hence of the class there; the two have the same
  -- length (`Perm`), so they are equal
  let f : κ × α → Bool := fun p => cmp k p.1 == .eq
  have hc : (l.filter f).Pairwise (fun p q => keyLe cmp p q = true) := by
    refine List.pairwise_of_forall_mem_list fun p hp q hq => ?_
    have ep : cmp k p.1 = .eq := by simpa [f] using (List.mem_filter.mp hp).2
    have eq' : cmp k q.1 = .eq := by simpa [f] using (List.mem_filter.mp hq).2
    simp [keyLe, h.pre.eq_trans (h.pre.eq_symm ep) eq']
  have hk := h.comap (Prod.fst : κ × α → κ)
  have hsub : List.Sublist (l.filter f) (keysort cmp l) :=
    List.sublist_mergeSort hk.ble_trans hk.ble_total hc List.filter_sublist
  have h2 : List.Sublist (l.filter f) ((keysort cmp l).filter f) := by
    have := hsub.filter f
    simpa [List.filter_filter] using this
  have hlen : ((keysort cmp l).filter f).length = (l.filter f).length :=
    ((keysort_perm l).filter f).length_eq
  exact (h2.eq_of_length hlen.symm).symm

/-- the groups of `bagof/3` meet the specification for the solutions themselves: the key sort
    is stable, so every class keeps the order of `sols`. -/
theorem bagof_grouped (h : TotalCmp cmp) (sols : List (κ × α)) :
    Grouped cmp sols (bagofGroups cmp sols) :=
  have G := splitGroups_grouped h _ (keysort_sorted h sols)
  ⟨G.ascending, fun g hg => (G.key_mem g hg).imp fun _ hs => (keysort_perm sols).subset hs,
    fun g hg => by rw [G.content g hg, keysort_stable h],
    fun p hp => G.cover p ((keysort_perm sols).symm.subset hp)⟩


/-! ### sort/2 -/

section sortdedup
variable {β : Type} {c : β → β → Ordering}

@[simp] theorem dedupAdj_nil : dedupAdj c ([] : List β) = [] := rfl
@[simp] theorem dedupAdj_single (x : β) : dedupAdj c [x] = [x] := rfl
theorem dedupAdj_cons2 (x y : β) (r : List β) :
    dedupAdj c (x :: y :: r) =
      if c x y == .eq then dedupAdj c (y :: r) else x :: dedupAdj c (y :: r) := rfl

theorem dedupAdj_sub (l : List β) : ∀ x ∈ dedupAdj c l, x ∈ l := by
  fun_induction dedupAdj c l with
  | case1 => nofun
  | case2 a => exact fun _ h => h
  | case3 a b r hab ih => exact fun x hx => .tail _ (ih x hx)
  | case4 a b r hab ih =>
    exact List.forall_mem_cons.mpr ⟨.head _, fun x hx => .tail _ (ih x hx)⟩

theorem dedupAdj_cover (h : TotalCmp c) (l : List β) :
    ∀ x ∈ l, ∃ y ∈ dedupAdj c l, c x y = .eq := by
  fun_induction dedupAdj c l with
  | case1 => nofun
  | case2 a => exact List.forall_mem_cons.mpr ⟨⟨a, .head _, h.refl a⟩, nofun⟩
  | case3 a b r hab ih =>
    -- `a` is dropped: it is represented by whatever represents its successor `b`
    obtain ⟨y, hy, he⟩ := ih b (.head _)
    exact List.forall_mem_cons.mpr ⟨⟨y, hy, h.pre.eq_trans (eq_of_beq hab) he⟩, ih⟩
  | case4 a b r hab ih =>
    exact List.forall_mem_cons.mpr ⟨⟨a, .head _, h.refl a⟩,
      fun x hx => (ih x hx).imp fun y hy => ⟨.tail _ hy.1, hy.2⟩⟩

theorem dedupAdj_strict (h : TotalCmp c) (l : List β) (hs : l.Pairwise (fun a b => c a b ≠ .gt)) :
    (dedupAdj c l).Pairwise (fun a b => c a b = .lt) := by
  fun_induction dedupAdj c l with
  | case1 => exact .nil
  | case2 a => exact List.pairwise_singleton _ _
  | case3 a b r hab ih => exact ih (List.pairwise_cons.mp hs).2
  | case4 a b r hab ih =>
    obtain ⟨ha, hs'⟩ := List.pairwise_cons.mp hs
    have hlt : c a b = .lt := by
      cases e : c a b
      · rfl
      · exact absurd (by rw [e]; rfl) hab
      · exact absurd e (ha b (.head _))
    refine List.pairwise_cons.mpr ⟨fun z hz => ?_, ih hs'⟩
    rcases List.mem_cons.mp (dedupAdj_sub (b :: r) z hz) with rfl | hz'
    · exact hlt
    · exact h.pre.lt_of_lt_of_le hlt ((List.pairwise_cons.mp hs').1 z hz')

theorem sortDedup_strict (h : TotalCmp c) (l : List β) :
    (sortDedup c l).Pairwise (fun a b => c a b = .lt) :=
  dedupAdj_strict h _ (mergeSort_sorted h l)

theorem sortDedup_sub (l : List β) : ∀ x ∈ sortDedup c l, x ∈ l := fun x hx =>
  (List.mergeSort_perm l _).subset (dedupAdj_sub _ x hx)

theorem sortDedup_cover (h : TotalCmp c) (l : List β) :
    ∀ x ∈ l, ∃ y ∈ sortDedup c l, c x y = .eq := fun x hx =>
  dedupAdj_cover h _ x ((List.mergeSort_perm l _).symm.subset hx)

end sortdedup

theorem pairCmp_total {cmpA : α → α → Ordering} (hk : TotalCmp cmp) (ha : TotalCmp cmpA) :
    TotalCmp (pairCmp cmp cmpA) := by
  constructor
  · intro p; simp [pairCmp, hk.refl, ha.refl]
  · intro p q
    simp only [pairCmp]
    rw [hk.swap p.1 q.1, ha.swap p.2 q.2]
    cases cmp p.1 q.1 <;> simp [Ordering.swap, Ordering.then]
  · intro p q r h1 h2
    simp only [pairCmp] at h1 h2 ⊢
    cases hpq : cmp p.1 q.1 with
    | gt => simp [hpq] at h1
    | lt =>
      have hqr : cmp q.1 r.1 ≠ .gt := by
        intro hx; simp [hx] at h2
      rw [hk.pre.lt_of_lt_of_le hpq hqr]; simp
    | eq =>
      cases hqr : cmp q.1 r.1 with
      | gt => simp [hqr] at h2
      | lt => rw [hk.pre.lt_of_le_of_lt (by simp [hpq]) hqr]; simp
      | eq =>
        rw [hk.pre.eq_trans hpq hqr]
        simp only [hpq, hqr, Ordering.then] at h1 h2 ⊢
        exact ha.le_trans _ _ _ h1 h2

/-- the groups of `setof/3` meet the specification for the sorted and deduplicated solutions. -/
theorem setof_grouped {cmpA : α → α → Ordering} (hk : TotalCmp cmp) (ha : TotalCmp cmpA)
    (sols : List (κ × α)) :
    Grouped cmp (sortDedup (pairCmp cmp cmpA) sols) (setofGroups cmp cmpA sols) :=
  splitGroups_grouped hk _ <| (sortDedup_strict (pairCmp_total hk ha) sols).imp
    fun {_ _} h hx => by simp [pairCmp, hx] at h

end generic

/-! ### the free-variable analysis of `bagof/3`: `dedup` (`term_variables/2`) and the witnesses -/

theorem mem_dedup (l : List String) (v : String) : v ∈ dedup l ↔ v ∈ l :=
  mem_keepFirst rfl fun _ _ => rfl

theorem dedup_nodup : ∀ (l : List String), (dedup l).Nodup :=
  nodup_keepFirst rfl fun _ _ => rfl

theorem dedup_of_nodup : ∀ (l : List String), l.Nodup → dedup l = l
  | [], _ => rfl
  | x :: xs, h => by
    have hx := (List.nodup_cons.mp h).1
    simp only [dedup, dedup_of_nodup xs (List.nodup_cons.mp h).2]
    congr 1
    rw [List.filter_eq_self]
    intro y hy
    simp only [bne_iff_ne, ne_eq]
    rintro rfl
    exact hx hy

theorem dedup_append : ∀ (a b : List String),
    dedup (a ++ b) = dedup a ++ (dedup b).filter (fun y => !a.contains y)
  | [], b => (List.filter_eq_self.mpr fun _ _ => rfl).symm
  | x :: a, b => by
    simp only [List.cons_append, dedup, dedup_append a b, List.filter_append, List.filter_filter]
    congr 2
    apply List.filter_congr
    intro y _
    simp only [List.contains_cons, Bool.not_or, bne]

/-- `bagof/3`'s candidates are the variables of the goal that do not occur in the template, in
    `term_variables/2` order. -/
theorem witnesses0_eq (t g : Term) :
    witnesses0 t g = (termVars g).filter (fun v => !(termVars t).contains v) := by
  simp only [witnesses0, termVars]
  rw [dedup_append, dedup_of_nodup _ (dedup_nodup _), List.drop_left,
    dedup_of_nodup _ (dedup_nodup _)]

theorem mem_witFixed (w0 ev : List String) (v : String) :
    v ∈ witFixed w0 ev ↔ v ∈ w0 ∧ v ∉ ev := by
  simp [witFixed]

end Scryer.AllSol
