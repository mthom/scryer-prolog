import ScryerModel.Model.IntRepr
import ScryerModel.Proofs.ArithInt
/-! Lemmas for C05 over `Model/IntRepr.lean`: integer unification decides equality of values; a head
of the same value as the call argument is always among the indexing candidates (a fixnum argument
finds a bignum head through the fixnum key that `headKeys` adds when the value fits); hence
a clause passes indexing and unification exactly when it has that value (`selected_iff`), and the two
together select exactly the clauses of that value (`matchesFrom_eq_spec`). -/
namespace Scryer.IntRepr
open Scryer.Arith

theorem unifyInt_iff (a b : Num) : unifyInt a b = true ↔ a.val = b.val := by
  cases a <;> cases b <;> simp only [unifyInt, val_fix, val_big, beq_iff_eq]
  exact eq_comm

theorem candidate_of_eq (h a : Num) (ha : a.wf) (e : h.val = a.val) :
    candidate h a = true := by
  cases a with
  | big v => simp [candidate, route]
  | fix v =>
    cases h with
    | fix k =>
      simp only [val_fix] at e
      simp [candidate, route, headKeys, e]
    -- the one use of `ha`: the bignum head has the value of a fixnum, so `headKeys` files it under that key
    | big k =>
      simp only [val_fix, val_big] at e
      have hv : inFix v = true := ha
      subst e
      simp [candidate, route, headKeys, hv]

theorem selected_iff (h a : Num) (ha : a.wf) :
    (candidate h a && unifyInt h a) = true ↔ h.val = a.val := by
  rw [Bool.and_eq_true, unifyInt_iff]
  exact ⟨And.right, fun e => ⟨candidate_of_eq h a ha e, e⟩⟩

theorem matchesFrom_eq_spec (heads : List Num) (a : Num) (i : Nat) (ha : a.wf) :
    matchesFrom i heads a = specFrom i heads a.val := by
  induction heads generalizing i with
  | nil => rfl
  | cons h t ih =>
    simp only [matchesFrom, specFrom, ih (i + 1), selected_iff h a ha]

end Scryer.IntRepr
