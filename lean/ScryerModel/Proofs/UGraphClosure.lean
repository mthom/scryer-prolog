import ScryerModel.Proofs.UGraph
import Mathlib.Data.List.Perm.Subperm
/-! Warshall closure and reachability for the `library(ugraphs)` model.

`warshall/3` is proved by the classical invariant `WInv`: when the vertices `S` have been processed
the edge relation is sound for `TransGen (Edge g)` and holds every path whose intermediate vertices
lie in `S` (`PathThrough`); processing `v` is justified by splitting such a path at `v`
(`PathThrough.split`).  `reachableLoop_spec` is the worklist invariant of `reachable/4` (`rs` sorted,
reachable from the start, closed under edges except at the vertices still queued in `q`); its last
hypothesis is the measure that shows the fuel `|g| + 1` is enough. -/
namespace Scryer.UGraph
open Relation

theorem warshallStep_eq_map (e : Graph) (v : Nat) (y : List Nat) :
    warshallStep e v y = e.map fun p => (p.1, if v ∈ p.2 then ordUnion p.2 y else p.2) := by
  fun_induction warshallStep e v y with
  | case1 => rfl
  | case2 x ns g v y hv ih => rw [ih, List.map_cons, if_pos hv]
  | case3 x ns g v y hv ih => rw [ih, List.map_cons, if_neg hv]

theorem vertices_warshallStep (e : Graph) (v : Nat) (y : List Nat) :
    vertices (warshallStep e v y) = vertices e := by
  rw [warshallStep_eq_map, vertices_map_nbrs]

theorem edge_warshallStep {e : Graph} {v : Nat} {y : List Nat} {a b : Nat} :
    Edge (warshallStep e v y) a b ↔ Edge e a b ∨ (Edge e a v ∧ b ∈ y) := by
  rw [warshallStep_eq_map, edge_map_nbrs]
  constructor
  · rintro ⟨ns, h, hb⟩
    split at hb
    · next hv => exact (mem_ordUnion.1 hb).imp (fun hb => ⟨ns, h, hb⟩) fun hb => ⟨⟨ns, h, hv⟩, hb⟩
    · exact .inl ⟨ns, h, hb⟩
  · rintro (⟨ns, h, hb⟩ | ⟨⟨ns, h, hv⟩, hb⟩)
    · exact ⟨ns, h, by split; exacts [mem_ordUnion.2 (.inl hb), hb]⟩
    · exact ⟨ns, h, (if_pos hv).symm ▸ mem_ordUnion.2 (.inr hb)⟩

theorem nbrs_warshallStep {e : Graph} {v : Nat} {y : List Nat} (hy : Sorted y) (hn : ∀ p ∈ e, Sorted p.2) :
    ∀ p ∈ warshallStep e v y, Sorted p.2 := by
  rw [warshallStep_eq_map]
  refine List.forall_mem_map.2 fun p hp => ?_
  dsimp only
  split
  exacts [sorted_ordUnion (hn p hp) hy, hn p hp]

/-- a path of length ≥ 1 in `g` from `a` to `b` whose intermediate vertices all satisfy `S`. -/
inductive PathThrough (g : Graph) (S : Nat → Prop) : Nat → Nat → Prop
  | single {a b} : Edge g a b → PathThrough g S a b
  | cons {a c b} : Edge g a c → S c → PathThrough g S c b → PathThrough g S a b

theorem PathThrough.mono {g : Graph} {S T : Nat → Prop} (h : ∀ x, S x → T x) {a b : Nat}
    (p : PathThrough g S a b) : PathThrough g T a b := by
  induction p with
  | single e => exact .single e
  | cons e s _ ih => exact .cons e (h _ s) ih

theorem PathThrough.split {g : Graph} {S : Nat → Prop} {v a b : Nat}
    (p : PathThrough g (fun x => S x ∨ x = v) a b) :
    PathThrough g S a b ∨ (PathThrough g S a v ∧ PathThrough g S v b) := by
  induction p with
  | single e => exact Or.inl (.single e)
  | cons e s _ ih =>
    rcases s with s | rfl
    · rcases ih with ih | ⟨ih1, ih2⟩
      · exact Or.inl (.cons e s ih)
      · exact Or.inr ⟨.cons e s ih1, ih2⟩
    · rcases ih with ih | ⟨_, ih2⟩
      · exact Or.inr ⟨.single e, ih⟩
      · exact Or.inr ⟨.single e, ih2⟩

theorem PathThrough.transGen {g : Graph} {S : Nat → Prop} {a b : Nat} (p : PathThrough g S a b) :
    TransGen (Edge g) a b := by
  induction p with
  | single e => exact .single e
  | cons e _ _ ih => exact .head e ih

theorem pathThrough_of_transGen {g : Graph} {a b : Nat} (h : TransGen (Edge g) a b) :
    PathThrough g (fun x => x ∈ vertices g) a b := by
  induction h using TransGen.head_induction_on with
  | single e => exact .single e
  | head e h ih =>
    refine .cons e ?_ ih
    cases ih with
    | single e' => exact e'.src
    | cons e' _ _ => exact e'.src

/-- invariants of the Warshall loop. `S` = vertices already processed. -/
structure WInv (g : Graph) (S : Nat → Prop) (e : Graph) : Prop where
  keys : vertices e = vertices g
  nbrs : ∀ p ∈ e, Sorted p.2
  sound : ∀ a b, Edge e a b → TransGen (Edge g) a b
  complete : ∀ a b, PathThrough g S a b → Edge e a b

theorem warshall_spec {g : Graph} (hk : Sorted (vertices g)) (rest e : Graph) (S : Nat → Prop) (h : WInv g S e)
    (hsub : ∀ v ∈ vertices rest, v ∈ vertices g) :
    ∃ c, warshall rest e = some c ∧ WInv g (fun x => S x ∨ x ∈ vertices rest) c := by
  fun_induction warshall rest e generalizing S with
  | case1 e =>
    exact ⟨e, rfl, h.keys, h.nbrs, h.sound, fun a b p =>
      h.complete a b (p.mono fun x hx => hx.resolve_right List.not_mem_nil)⟩
  | case2 v ns0 rest e hnone =>
    exact absurd (h.keys ▸ hsub v List.mem_cons_self) (neighbours_eq_none.1 hnone)
  | case3 v ns0 rest e y hy ih =>
    have hy' : ∀ b, b ∈ y ↔ Edge e v b := fun b => mem_neighbours_iff (h.keys ▸ hk) hy
    have step : WInv g (fun x => S x ∨ x = v) (warshallStep e v y) := by
      refine ⟨by rw [vertices_warshallStep, h.keys], nbrs_warshallStep (h.nbrs _ (neighbours_some_mem hy)) h.nbrs,
        fun a b hab => ?_, fun a b p => ?_⟩
      · rcases edge_warshallStep.1 hab with h1 | ⟨h1, h2⟩
        · exact h.sound a b h1
        · exact (h.sound a v h1).trans (h.sound v b ((hy' b).1 h2))
      · rw [edge_warshallStep]
        rcases p.split with p | ⟨p1, p2⟩
        · exact Or.inl (h.complete a b p)
        · exact Or.inr ⟨h.complete a v p1, (hy' b).2 (h.complete v b p2)⟩
    obtain ⟨c, hc, hinv⟩ := ih _ step fun w hw => hsub w (List.mem_cons_of_mem _ hw)
    exact ⟨c, hc, hinv.keys, hinv.nbrs, hinv.sound, fun a b p => hinv.complete a b (p.mono fun x hx => by
      rw [vertices_cons, List.mem_cons] at hx
      rwa [or_assoc])⟩

theorem reachableLoop_spec {g : Graph} (hg : WF g) {v : Nat} (fuel : Nat) (q rs : List Nat) (hs : Sorted rs)
    (hq : ∀ x ∈ q, x ∈ rs) (hv : v ∈ rs) (hr : ∀ x ∈ rs, ReflTransGen (Edge g) v x) (hV : ∀ x ∈ rs, x ∈ vertices g)
    (hc : ∀ x ∈ rs, x ∉ q → ∀ y, Edge g x y → y ∈ rs)
    (hm : q.length + (vertices g).length + 1 ≤ rs.length + fuel) :
    ∃ out, reachableLoop fuel q g rs = some out ∧ Sorted out ∧ ∀ x, x ∈ out ↔ ReflTransGen (Edge g) v x := by
  fun_induction reachableLoop fuel q g rs with
  | case1 fuel g rs =>
    -- with the queue empty the set is closed under the edge relation
    refine ⟨rs, rfl, hs, fun x => ⟨hr x, fun h => ?_⟩⟩
    induction h with
    | refl => exact hv
    | tail _ e ih => exact hc _ ih List.not_mem_nil _ e
  | case2 n ns g rs =>
    -- no fuel and a vertex queued: by `hm`, `rs` would be longer than `vertices g`, which holds it without repetition
    have := (List.Nodup.subperm hs.nodup hV).length_le
    simp at hm; omega
  | case3 fuel n ns g rs hnone =>
    exact absurd (hV n (hq n List.mem_cons_self)) (neighbours_eq_none.1 hnone)
  | case4 fuel n ns g rs nei hnei ih =>
    have hn : n ∈ rs := hq n List.mem_cons_self
    have hsn : Sorted nei := hg.nbrs _ (neighbours_some_mem hnei)
    have hnei' : ∀ y, y ∈ nei ↔ Edge g n y := fun y => mem_neighbours_iff hg.keys hnei
    rw [ordUnionNew_fst, ordUnionNew_snd] at ih ⊢
    apply ih hg
    case hs => exact sorted_ordUnion hs hsn
    case hq =>
      intro x hx
      rw [mem_ordUnion]
      rcases List.mem_append.1 hx with hx | hx
      · exact Or.inl (hq x (List.mem_cons_of_mem _ hx))
      · exact Or.inr ((mem_ordSubtract hsn hs).1 hx).1
    case hv => exact mem_ordUnion.2 (Or.inl hv)
    case hr =>
      intro x hx
      rcases mem_ordUnion.1 hx with hx | hx
      · exact hr x hx
      · exact (hr n hn).tail ((hnei' x).1 hx)
    case hV =>
      intro x hx
      rcases mem_ordUnion.1 hx with hx | hx
      · exact hV x hx
      · exact hg.dst ((hnei' x).1 hx)
    case hc =>
      intro x hx hxq y e
      rw [mem_ordUnion]
      rw [List.mem_append, not_or] at hxq
      by_cases hxr : x ∈ rs
      · by_cases hxn : x = n
        · subst hxn; exact Or.inr ((hnei' y).2 e)
        · exact Or.inl (hc x hxr (fun h => hxq.1 ((List.mem_cons.1 h).resolve_left hxn)) y e)
      · rcases mem_ordUnion.1 hx with hx | hx
        · exact absurd hx hxr
        · exact absurd ((mem_ordSubtract hsn hs).2 ⟨hx, hxr⟩) hxq.2
    case hm =>
      -- the queue loses `n` and gains what `rs` gains
      rw [length_ordUnion]
      simp at hm ⊢; omega

end Scryer.UGraph
