import ScryerModel.Model.Lfp
import ScryerModel.Proofs.ListFacts
import Mathlib.Data.List.Perm.Subperm
import Mathlib.Data.List.Nodup
/-!
Lemmas about `Model/Lfp.lean` (C38 part B): characterisation of the immediate consequence
operator by ground rule instances, monotonicity, the ascending Kleene chain, termination within
`|base|` rounds, least model, invariance under clause / literal order.
-/
namespace Scryer.Lfp

theorem mem_dedup {α : Type} [DecidableEq α] {a : α} : ∀ {l : List α}, a ∈ dedup l ↔ a ∈ l
  | [] => Iff.rfl
  | b :: l => by
      rw [dedup]
      split
      · rename_i h
        exact mem_dedup.trans ⟨List.mem_cons_of_mem _, fun h' => (List.mem_cons.mp h').elim (· ▸ h) id⟩
      · exact List.mem_cons.trans ((or_congr_right mem_dedup).trans List.mem_cons.symm)

theorem nodup_dedup {α : Type} [DecidableEq α] : ∀ (l : List α), (dedup l).Nodup
  | [] => List.nodup_nil
  | b :: l => by
      rw [dedup]
      split
      · exact nodup_dedup l
      · rename_i h
        exact List.nodup_cons.mpr ⟨fun h' => h (mem_dedup.mp h'), nodup_dedup l⟩

/-! ### instances depend only on the variables that occur -/

theorem Arg.inst_congr {σ τ : Nat → Nat} {a : Arg} (h : ∀ v ∈ a.vars, σ v = τ v) :
    a.inst σ = a.inst τ := by
  cases a with
  | const c => rfl
  | var v => exact h v (List.mem_singleton.mpr rfl)

theorem Atom.inst_congr {σ τ : Nat → Nat} {a : Atom} (h : ∀ v ∈ a.vars, σ v = τ v) :
    a.inst σ = a.inst τ :=
  congrArg (GAtom.mk a.pred) <| List.map_congr_left fun x hx =>
    Arg.inst_congr fun v hv => h v (List.mem_flatMap.mpr ⟨x, hx, hv⟩)

theorem Rule.mem_vars {r : Rule} {v : Nat} :
    v ∈ r.vars ↔ v ∈ r.head.vars ∨ ∃ b ∈ r.body, v ∈ b.vars :=
  List.mem_append.trans (or_congr_right List.mem_flatMap)

/-! ### `assigns` lists the assignments of given variables over the domain -/

theorem val_cons (w d : Nat) (l : Asg) (v : Nat) :
    val ((w, d) :: l) v = if w = v then d else val l v := by
  rw [val, look]; split <;> rfl

theorem mem_assigns_cons {D : List Nat} {w : Nat} {vs : List Nat} {l : Asg} :
    l ∈ assigns D (w :: vs) ↔ ∃ d ∈ D, ∃ l' ∈ assigns D vs, (w, d) :: l' = l := by
  simp only [assigns, List.mem_flatMap, List.mem_map]

theorem val_mem_of_assigns {D : List Nat} : ∀ {vs : List Nat} {l : Asg}, l ∈ assigns D vs →
    ∀ {v : Nat}, v ∈ vs → val l v ∈ D
  | w :: vs, _, hl, v, hv => by
      obtain ⟨d, hd, l', hl', rfl⟩ := mem_assigns_cons.mp hl
      rw [val_cons]
      split
      · exact hd
      · rename_i hw
        exact val_mem_of_assigns hl' ((List.mem_cons.mp hv).resolve_left (Ne.symm hw))

theorem exists_assign {D : List Nat} (σ : Nat → Nat) : ∀ (vs : List Nat), (∀ v ∈ vs, σ v ∈ D) →
    ∃ l ∈ assigns D vs, ∀ v ∈ vs, val l v = σ v
  | [], _ => ⟨[], List.mem_singleton.mpr rfl, nofun⟩
  | w :: vs, h => by
      obtain ⟨l, hl, hv⟩ := exists_assign σ vs fun v hv => h v (List.mem_cons_of_mem _ hv)
      refine ⟨(w, σ w) :: l, mem_assigns_cons.mpr ⟨_, h w (List.mem_cons_self ..), l, hl, rfl⟩, fun v hv' => ?_⟩
      rw [val_cons]
      split
      · rename_i hw
        rw [hw]
      · rename_i hw
        exact hv v ((List.mem_cons.mp hv').resolve_left (Ne.symm hw))

theorem exists_assigns_iff {D vs : List Nat} {p : (Nat → Nat) → Prop}
    (hp : ∀ σ τ, (∀ v ∈ vs, σ v = τ v) → p σ → p τ) :
    (∃ l ∈ assigns D (dedup vs), p (val l)) ↔ ∃ σ, (∀ v ∈ vs, σ v ∈ D) ∧ p σ := by
  constructor
  · rintro ⟨l, hl, h⟩
    exact ⟨val l, fun v hv => val_mem_of_assigns hl (mem_dedup.mpr hv), h⟩
  · rintro ⟨σ, hσ, h⟩
    obtain ⟨l, hl, agree⟩ := exists_assign σ (dedup vs) fun v hv => hσ v (mem_dedup.mp hv)
    exact ⟨l, hl, hp σ _ (fun v hv => (agree v (mem_dedup.mpr hv)).symm) h⟩

theorem assigns_keys {D : List Nat} : ∀ {vs : List Nat} {l : Asg}, l ∈ assigns D vs →
    l.map Prod.fst = vs
  | [], l, hl => by rw [List.mem_singleton.mp hl]; rfl
  | w :: vs, l, hl => by
      obtain ⟨d, _, l', hl', rfl⟩ := mem_assigns_cons.mp hl
      exact congrArg (w :: ·) (assigns_keys hl')

theorem nodup_assigns {D : List Nat} (hD : D.Nodup) : ∀ (vs : List Nat), (assigns D vs).Nodup
  | [] => by simp [assigns]
  | w :: vs =>
      pairwise_flatMap_map (fun _ _ => (nodup_assigns hD vs).imp fun hne e => hne (List.cons.inj e).2)
        (hD.imp fun hne _ _ e => hne (Prod.mk.inj (List.cons.inj e).1).2)

/-! ### the consequence operator by ground rule instances; it is monotone -/

theorem mem_answersIn {L : Interp} {D : List Nat} {q : Atom} {l : Asg} :
    l ∈ answersIn L D q ↔ l ∈ assigns (dedup D) (dedup q.vars) ∧ q.inst (val l) ∈ L := by
  simp [answersIn]

theorem mem_fire {D : List Nat} {I : Interp} {r : Rule} {a : GAtom} :
    a ∈ fire D I r ↔ ∃ σ : Nat → Nat, (∀ v ∈ r.vars, σ v ∈ D) ∧ r.head.inst σ = a ∧
      ∀ b ∈ r.body, b.inst σ ∈ I := by
  have hp : ∀ σ τ : Nat → Nat, (∀ v ∈ r.vars, σ v = τ v) →
      (r.head.inst σ = a ∧ ∀ b ∈ r.body, b.inst σ ∈ I) → r.head.inst τ = a ∧ ∀ b ∈ r.body, b.inst τ ∈ I := by
    rintro σ τ e ⟨hh, hb⟩
    refine ⟨(Atom.inst_congr fun v hv => (e v (Rule.mem_vars.mpr (.inl hv))).symm).trans hh, fun b hb' => ?_⟩
    rw [← Atom.inst_congr fun v hv => e v (Rule.mem_vars.mpr (.inr ⟨b, hb', hv⟩))]
    exact hb b hb'
  rw [← exists_assigns_iff hp, fire]
  simp only [List.mem_filterMap, Option.ite_none_right_eq_some, Option.some.injEq, List.all_eq_true,
    decide_eq_true_eq, and_comm]

theorem mem_tp {P : Program} {D : List Nat} {I : Interp} {a : GAtom} :
    a ∈ tp P D I ↔ ∃ r ∈ P, ∃ σ : Nat → Nat, (∀ v ∈ r.vars, σ v ∈ D) ∧ r.head.inst σ = a ∧
      ∀ b ∈ r.body, b.inst σ ∈ I := by
  simp only [tp, step, mem_dedup, List.mem_flatMap, mem_fire]

theorem tp_mono {P : Program} {D : List Nat} {I J : Interp} (h : I ⊆ J) : tp P D I ⊆ tp P D J := by
  intro a ha
  obtain ⟨r, hr, σ, hσ, hh, hb⟩ := mem_tp.mp ha
  exact mem_tp.mpr ⟨r, hr, σ, hσ, hh, fun b hb' => h (hb b hb')⟩

theorem isModel_iff {P : Program} {D : List Nat} {M : Interp} : IsModel P D M ↔ tp P D M ⊆ M :=
  forall_congr' fun _ => imp_congr_left mem_dedup.symm

theorem mem_base {P : Program} {D : List Nat} {a : GAtom} :
    a ∈ base P D ↔ ∃ r ∈ P, ∃ σ : Nat → Nat, (∀ v ∈ r.vars, σ v ∈ D) ∧ r.head.inst σ = a := by
  have hp (r : Rule) : ∀ σ τ : Nat → Nat, (∀ v ∈ r.vars, σ v = τ v) → r.head.inst σ = a → r.head.inst τ = a :=
    fun σ τ e hh => (Atom.inst_congr fun v hv => (e v (Rule.mem_vars.mpr (.inl hv))).symm).trans hh
  simp only [base, mem_dedup, List.mem_flatMap, List.mem_map, ← exists_assigns_iff (hp _)]

theorem tp_subset_base (P : Program) (D : List Nat) (I : Interp) : tp P D I ⊆ base P D := by
  intro a ha
  obtain ⟨r, hr, σ, hσ, hh, _⟩ := mem_tp.mp ha
  exact mem_base.mpr ⟨r, hr, σ, hσ, hh⟩

/-! ### the ascending chain is stable within `|base|` rounds -/

theorem iter_subset_succ (P : Program) (D : List Nat) : ∀ n, iter P D n ⊆ iter P D (n+1)
  | 0 => by simp [iter]
  | n+1 => by
      show tp P D (iter P D n) ⊆ tp P D (iter P D (n+1))
      exact tp_mono (iter_subset_succ P D n)

theorem iter_mono (P : Program) (D : List Nat) {m n : Nat} (h : m ≤ n) :
    iter P D m ⊆ iter P D n := by
  induction h with
  | refl => exact List.Subset.refl _
  | step _ ih => exact List.Subset.trans ih (iter_subset_succ P D _)

theorem iter_nodup (P : Program) (D : List Nat) : ∀ n, (iter P D n).Nodup
  | 0 => by simp [iter]
  | _+1 => nodup_dedup _

theorem iter_subset_base (P : Program) (D : List Nat) : ∀ n, iter P D n ⊆ base P D
  | 0 => by simp [iter]
  | n+1 => tp_subset_base P D (iter P D n)

/-- The chain has stopped growing at round `n` (nothing to do with `Solve.Stable`). -/
def Stable (P : Program) (D : List Nat) (n : Nat) : Prop := iter P D (n+1) ⊆ iter P D n

theorem Stable.of_le {P : Program} {D : List Nat} {m n : Nat} (h : Stable P D m) (hmn : m ≤ n) :
    Stable P D n := by
  induction hmn with
  | refl => exact h
  | step _ ih => exact tp_mono ih

theorem Stable.iter_subset {P : Program} {D : List Nat} {m n : Nat} (h : Stable P D m) (hmn : m ≤ n) :
    iter P D n ⊆ iter P D m := by
  induction hmn with
  | refl => exact List.Subset.refl _
  | step hle ih => exact List.Subset.trans (h.of_le hle) ih

theorem length_ge_of_unstable (P : Program) (D : List Nat) :
    ∀ n, (∀ i, Stable P D i → n ≤ i) → n ≤ (iter P D n).length
  | 0, _ => Nat.zero_le _
  | n+1, h => by
      have ih := length_ge_of_unstable P D n fun i hs => Nat.le_of_succ_le (h i hs)
      obtain ⟨a, ha, hna⟩ : ∃ a ∈ iter P D (n+1), a ∉ iter P D n := by
        by_contra hc
        exact Nat.not_succ_le_self n <| h n fun a ha => Classical.byContradiction fun hna => hc ⟨a, ha, hna⟩
      -- `a :: iter n` is duplicate-free and included in `iter (n+1)`
      exact Nat.lt_of_le_of_lt ih (List.subperm_of_subset
        (List.nodup_cons.mpr ⟨hna, iter_nodup P D n⟩)
        (List.cons_subset.mpr ⟨ha, iter_subset_succ P D n⟩)).length_le

/-- the chain is stable after `|base|` rounds: otherwise round `|base| + 1` would hold more than
    `|base|` atoms of the base -/
theorem stable_base (P : Program) (D : List Nat) : Stable P D (base P D).length := by
  by_contra hc
  have h1 := length_ge_of_unstable P D ((base P D).length + 1)
    fun i hs => Nat.lt_of_not_le fun hle => hc (hs.of_le hle)
  exact Nat.not_succ_le_self _ (Nat.le_trans h1
    (List.subperm_of_subset (iter_nodup P D _) (iter_subset_base P D _)).length_le)

/-! ### the early-exit iteration stops at the first stable element of the chain -/

/-- `lfpAux` walks up the chain from `iter k` to the first stable round, or as far as the fuel goes. -/
theorem lfpAux_spec (P : Program) (D : List Nat) : ∀ (n k : Nat),
    ∃ j, lfpAux P D n (iter P D k) = iter P D j ∧ (∀ i, k ≤ i → Stable P D i → j ≤ i) ∧
      (j = n + k ∨ Stable P D j)
  | 0, k => ⟨k, rfl, fun _ h _ => h, .inl (Nat.zero_add k).symm⟩
  | n+1, k => by
      rw [lfpAux, Nat.succ_add_eq_add_succ]
      split
      · rename_i h
        exact ⟨k, rfl, fun _ h _ => h, .inr fun a ha => of_decide_eq_true (List.all_eq_true.mp h a ha)⟩
      · rename_i h
        obtain ⟨j, he, hm, hs⟩ := lfpAux_spec P D n (k+1)
        refine ⟨j, he, fun i hk hi => hm i (Nat.lt_of_le_of_ne hk ?_) hi, hs⟩
        rintro rfl
        exact h (List.all_eq_true.mpr fun a ha => decide_eq_true (hi ha))

theorem lfp_spec (P : Program) (D : List Nat) :
    ∃ j, lfp P D = iter P D j ∧ Stable P D j ∧ ∀ i, Stable P D i → j ≤ i := by
  obtain ⟨j, he, hm, hs⟩ := lfpAux_spec P D (base P D).length 0
  exact ⟨j, he, hs.elim (· ▸ stable_base P D) id, fun i => hm i i.zero_le⟩

/-- On any fuel `n`, a result shorter than `n` is `lfp`: a run that used up its fuel without reaching a
    stable round returns at least `n` atoms (`length_ge_of_unstable`). -/
theorem lfp_eq_of_length_lt {P : Program} {D : List Nat} {n : Nat} {L : Interp}
    (h : lfpAux P D n [] = L) (hn : L.length < n) : lfp P D = L := by
  obtain ⟨j, (he : lfpAux P D n [] = _), hm, hs⟩ := lfpAux_spec P D n 0
  obtain ⟨j', he', hs', hm'⟩ := lfp_spec P D
  have hj := length_ge_of_unstable P D j fun i => hm i i.zero_le
  rw [← he, h] at hj
  have hsj := hs.resolve_left fun (e : j = n) => Nat.not_le.mpr hn (e ▸ hj)
  rw [he', ← h, he, Nat.le_antisymm (hm' j hsj) (hm j' j'.zero_le hs')]

theorem lfp_nodup (P : Program) (D : List Nat) : (lfp P D).Nodup := by
  obtain ⟨j, hj, _⟩ := lfp_spec P D
  rw [hj]; exact iter_nodup P D j

theorem mem_tp_lfp (P : Program) (D : List Nat) (a : GAtom) :
    a ∈ tp P D (lfp P D) ↔ a ∈ lfp P D := by
  obtain ⟨j, hj, hs, _⟩ := lfp_spec P D
  rw [hj]
  exact ⟨fun h => hs h, fun h => iter_subset_succ P D j h⟩

theorem iter_subset_model {P : Program} {D : List Nat} {M : Interp} (hM : tp P D M ⊆ M) :
    ∀ n, iter P D n ⊆ M
  | 0 => by simp [iter]
  | n+1 => (tp_mono (iter_subset_model hM n)).trans hM

theorem lfp_least {P : Program} {D : List Nat} {M : Interp} (hM : tp P D M ⊆ M) : lfp P D ⊆ M := by
  obtain ⟨j, hj, _⟩ := lfp_spec P D
  rw [hj]; exact iter_subset_model hM j

/-! ### no evaluation order: clause order, literal order, duplicates -/

def RuleEquiv (r r' : Rule) : Prop := r.head = r'.head ∧ ∀ b, b ∈ r.body ↔ b ∈ r'.body

/-- the same set of rules up to order and repetition of clauses and of body literals -/
def ProgEquiv (P P' : Program) : Prop :=
  (∀ r ∈ P, ∃ r' ∈ P', RuleEquiv r r') ∧ (∀ r' ∈ P', ∃ r ∈ P, RuleEquiv r' r)

theorem RuleEquiv.vars {r r' : Rule} (h : RuleEquiv r r') (v : Nat) : v ∈ r.vars ↔ v ∈ r'.vars := by
  rw [Rule.mem_vars, Rule.mem_vars, h.1]
  exact or_congr_right (exists_congr fun b => and_congr_left fun _ => h.2 b)

theorem tp_subset_of_equiv {P P' : Program} (h : ∀ r ∈ P, ∃ r' ∈ P', RuleEquiv r r')
    {D : List Nat} {I : Interp} : tp P D I ⊆ tp P' D I := by
  intro a ha
  obtain ⟨r, hr, σ, hσ, hh, hb⟩ := mem_tp.mp ha
  obtain ⟨r', hr', he⟩ := h r hr
  exact mem_tp.mpr ⟨r', hr', σ, fun v hv => hσ v ((he.vars v).mpr hv), he.1 ▸ hh,
    fun b hb' => hb b ((he.2 b).mpr hb')⟩

theorem lfp_subset_of_equiv {P P' : Program} (h : ∀ r ∈ P, ∃ r' ∈ P', RuleEquiv r r') (D : List Nat) :
    lfp P D ⊆ lfp P' D :=
  lfp_least ((tp_subset_of_equiv h).trans fun a => (mem_tp_lfp P' D a).mp)

theorem ProgEquiv.lfp {P P' : Program} (h : ProgEquiv P P') (D : List Nat) (a : GAtom) :
    a ∈ lfp P D ↔ a ∈ lfp P' D :=
  ⟨fun ha => lfp_subset_of_equiv h.1 D ha, fun ha => lfp_subset_of_equiv h.2 D ha⟩

theorem ProgEquiv.of_perm {P P' : Program} (h : P.Perm P') : ProgEquiv P P' :=
  ⟨fun r hr => ⟨r, h.subset hr, rfl, fun _ => Iff.rfl⟩,
   fun r hr => ⟨r, h.symm.subset hr, rfl, fun _ => Iff.rfl⟩⟩

/-- a sufficient condition that `decide` can check -/
theorem ProgEquiv.of_perm_bodies {P P' : Program}
    (h1 : ∀ r ∈ P, ∃ r' ∈ P', r.head = r'.head ∧ r.body.Perm r'.body)
    (h2 : ∀ r' ∈ P', ∃ r ∈ P, r'.head = r.head ∧ r'.body.Perm r.body) : ProgEquiv P P' := by
  constructor
  · intro r hr
    obtain ⟨r', hr', hh, hp⟩ := h1 r hr
    exact ⟨r', hr', hh, fun b => hp.mem_iff⟩
  · intro r hr
    obtain ⟨r', hr', hh, hp⟩ := h2 r hr
    exact ⟨r', hr', hh, fun b => hp.mem_iff⟩

end Scryer.Lfp
