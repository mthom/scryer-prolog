import ScryerModel.Model.UGraph
import Mathlib.Data.List.Sort
import Mathlib.Logic.Relation
/-!
# Lemmas about the `library(ugraphs)` model: ordered sets, `sort/2`, graph basics, and for every
non-iterative operation its vertex list, its edge relation and the order of its neighbour lists
(closure, reachability, topological sorting: `Proofs/UGraphClosure`, `Proofs/UGraphTopSort`).

Each operation walks one or two key-ordered lists; the walks are correct because nothing below the
head of an ascending list occurs in it (`Sorted.not_mem_of_lt`, `edge_cons_self`, `edge_cons_of_ne`,
`not_edge_of_lt`). Two walks are union walks (`ordAddElement_eq_union`,
`addVerticesToSGraph_eq_union`); the operations that only drop rows or rewrite neighbour lists are
filters and maps (`delRemaining_eq_map`, `delVerticesAuxFixed_eq`, `complementAux_eq_map`, and
`warshallStep_eq_map` in `Proofs/UGraphClosure`), read through `vertices_map_nbrs`, `edge_map_nbrs`.
-/
namespace Scryer.UGraph

/-! ## strictly ascending lists -/

/-- the third branch of the three-way comparisons in `ordsets.pl` and `ugraphs.pl`. -/
theorem gt_of_not_lt_of_ne {a b : Nat} (h1 : ¬ a < b) (h2 : ¬ a = b) : b < a :=
  Nat.lt_of_le_of_ne (Nat.not_lt.1 h1) (Ne.symm h2)

theorem sorted_cons {a : Nat} {l : List Nat} : Sorted (a :: l) ↔ (∀ b ∈ l, a < b) ∧ Sorted l :=
  List.pairwise_cons

@[simp] theorem sorted_nil : Sorted [] := List.Pairwise.nil

theorem Sorted.nodup {l : List Nat} (h : Sorted l) : l.Nodup := h.imp Nat.ne_of_lt

theorem Sorted.tail {a : Nat} {l : List Nat} (h : Sorted (a :: l)) : Sorted l := (sorted_cons.1 h).2

theorem Sorted.head_lt {a x : Nat} {l : List Nat} (h : Sorted (a :: l)) (hx : x ∈ l) : a < x := (sorted_cons.1 h).1 x hx

theorem Sorted.lt_of_mem {a b x : Nat} {l : List Nat} (h : Sorted (b :: l)) (hab : a < b) (hx : x ∈ b :: l) : a < x :=
  (List.mem_cons.1 hx).elim (fun e => e ▸ hab) fun hx => Nat.lt_trans hab (h.head_lt hx)

theorem Sorted.not_mem_of_lt {a b : Nat} {l : List Nat} (h : Sorted (b :: l)) (hab : a < b) : a ∉ b :: l :=
  fun hm => Nat.lt_irrefl a (h.lt_of_mem hab hm)

theorem Sorted.head_not_mem {a : Nat} {l : List Nat} (h : Sorted (a :: l)) : a ∉ l :=
  fun hm => Nat.lt_irrefl a (h.head_lt hm)

theorem mem_of_mem_cons_of_lt {x a : Nat} {l : List Nat} (h : x ∈ a :: l) (hlt : a < x) : x ∈ l :=
  (List.mem_cons.1 h).resolve_left (Nat.ne_of_gt hlt)

/-! ## ordsets -/

@[simp] theorem ordUnion_nil_right (l : List Nat) : ordUnion l [] = l := by cases l <;> simp [ordUnion]
@[simp] theorem ordSubtract_nil_right (l : List Nat) : ordSubtract l [] = l := by cases l <;> simp [ordSubtract]

theorem mem_ordUnion {x : Nat} {l1 l2 : List Nat} : x ∈ ordUnion l1 l2 ↔ x ∈ l1 ∨ x ∈ l2 := by
  -- the cases of a walk along two lists, here and below: one list empty, the other empty, then the heads compared
  -- in the order of the source (`<`, `=`, `>` in `ordsets.pl`)
  fun_induction ordUnion l1 l2 with
  | case1 => exact (or_iff_right List.not_mem_nil).symm
  | case2 => exact (or_iff_left List.not_mem_nil).symm
  | case3 a as b bs _ ih => rw [List.mem_cons, ih, List.mem_cons (l := as), or_assoc]
  | case4 as a bs _ ih => rw [List.mem_cons, ih, List.mem_cons, List.mem_cons, or_or_distrib_left]
  | case5 a as b bs _ _ ih => rw [List.mem_cons, ih, List.mem_cons (l := bs), or_left_comm]

theorem sorted_ordUnion {l1 l2 : List Nat} (h1 : Sorted l1) (h2 : Sorted l2) : Sorted (ordUnion l1 l2) := by
  fun_induction ordUnion l1 l2 with
  | case1 => exact h2
  | case2 => exact h1
  | case3 a as b bs hlt ih =>
    refine sorted_cons.2 ⟨fun x hx => ?_, ih h1.tail h2⟩
    rcases mem_ordUnion.1 hx with hx | hx
    · exact h1.head_lt hx
    · exact h2.lt_of_mem hlt hx
  | case4 as a bs _ ih =>
    exact sorted_cons.2 ⟨fun x hx => (mem_ordUnion.1 hx).elim h1.head_lt h2.head_lt,
      ih h1.tail h2.tail⟩
  | case5 a as b bs h3 h4 ih =>
    refine sorted_cons.2 ⟨fun x hx => ?_, ih h1 h2.tail⟩
    rcases mem_ordUnion.1 hx with hx | hx
    · exact h1.lt_of_mem (gt_of_not_lt_of_ne h3 h4) hx
    · exact h2.head_lt hx

theorem ordSubtract_cons_of_lt {a b : Nat} (as bs : List Nat) (h : a < b) :
    ordSubtract (a :: as) (b :: bs) = a :: ordSubtract as (b :: bs) := by
  rw [ordSubtract, if_pos h]

theorem ordSubtract_cons_self (a : Nat) (as bs : List Nat) :
    ordSubtract (a :: as) (a :: bs) = ordSubtract as bs := by
  rw [ordSubtract, if_neg (Nat.lt_irrefl a), if_pos rfl]

theorem ordSubtract_cons_of_gt {a b : Nat} (as bs : List Nat) (h : b < a) :
    ordSubtract (a :: as) (b :: bs) = ordSubtract (a :: as) bs := by
  rw [ordSubtract, if_neg (Nat.lt_asymm h), if_neg (Nat.ne_of_gt h)]

theorem ordSubtract_sublist {l1 l2 : List Nat} : (ordSubtract l1 l2).Sublist l1 := by
  fun_induction ordSubtract l1 l2 <;> simp_all

theorem sorted_ordSubtract {l1 l2 : List Nat} (h1 : Sorted l1) : Sorted (ordSubtract l1 l2) :=
  List.Pairwise.sublist ordSubtract_sublist h1

theorem mem_ordSubtract {x : Nat} {l1 l2 : List Nat} (h1 : Sorted l1) (h2 : Sorted l2) :
    x ∈ ordSubtract l1 l2 ↔ x ∈ l1 ∧ x ∉ l2 := by
  fun_induction ordSubtract l1 l2 with
  | case1 => exact (and_iff_left_of_imp fun h => absurd h List.not_mem_nil).symm
  | case2 => exact (and_iff_left List.not_mem_nil).symm
  | case3 a as b bs hlt ih =>
    rw [List.mem_cons, ih h1.tail h2, List.mem_cons (l := as), or_and_right,
      and_iff_left_of_imp (a := x = a) (by rintro rfl; exact h2.not_mem_of_lt hlt)]
  | case4 as a bs _ ih =>
    rw [ih h1.tail h2.tail, List.mem_cons, List.mem_cons, not_or]
    constructor
    · exact fun ⟨ha, hb⟩ => ⟨.inr ha, fun e => h1.head_not_mem (e ▸ ha), hb⟩
    · exact fun ⟨ha, hne, hb⟩ => ⟨ha.resolve_left hne, hb⟩
  | case5 a as b bs h3 h4 ih =>
    have hba : b < a := gt_of_not_lt_of_ne h3 h4
    rw [ih h1 h2.tail, List.mem_cons (l := bs), not_or]
    exact and_congr_right fun hx => (and_iff_right fun (e : x = b) => h1.not_mem_of_lt hba (e ▸ hx)).symm

theorem ordAddElement_eq_union (l : List Nat) (e : Nat) : ordAddElement l e = ordUnion l [e] := by
  fun_induction ordAddElement l e with
  | case1 => rw [ordUnion]
  | case2 h t e hlt ih => rw [ordUnion, if_pos hlt, ih]
  | case3 t e _ => rw [ordUnion, if_neg (Nat.lt_irrefl _), if_pos rfl, ordUnion_nil_right]
  | case4 h t e h3 h4 => rw [ordUnion, if_neg h3, if_neg h4, ordUnion_nil_right]

theorem mem_ordAddElement {x e : Nat} {l : List Nat} : x ∈ ordAddElement l e ↔ x = e ∨ x ∈ l := by
  rw [ordAddElement_eq_union, mem_ordUnion, List.mem_singleton, or_comm]

theorem sorted_ordAddElement {e : Nat} {l : List Nat} (h : Sorted l) : Sorted (ordAddElement l e) :=
  ordAddElement_eq_union l e ▸ sorted_ordUnion h (List.pairwise_singleton _ e)

theorem ordUnionNew_fst (l1 l2 : List Nat) : (ordUnionNew l1 l2).1 = ordUnion l1 l2 := by
  fun_induction ordUnionNew l1 l2 <;> simp_all [ordUnion, consFst, consBoth]

theorem ordUnionNew_snd (l1 l2 : List Nat) : (ordUnionNew l1 l2).2 = ordSubtract l2 l1 := by
  fun_induction ordUnionNew l1 l2 with
  | case1 s2 => exact (ordSubtract_nil_right s2).symm
  | case2 l1 _ => rw [ordSubtract]
  | case3 a as b bs hlt ih => rw [ordSubtract_cons_of_gt _ _ hlt]; exact ih
  | case4 as b bs _ ih => rw [ordSubtract_cons_self]; exact ih
  | case5 a as b bs h3 h4 ih =>
    rw [ordSubtract_cons_of_lt _ _ (gt_of_not_lt_of_ne h3 h4)]
    exact congrArg _ ih

theorem length_ordUnion (l1 l2 : List Nat) :
    (ordUnion l1 l2).length = l1.length + (ordSubtract l2 l1).length := by
  fun_induction ordUnion l1 l2 with
  | case1 l2 => rw [ordSubtract_nil_right, List.length_nil, Nat.zero_add]
  | case2 l1 _ => rw [ordSubtract]; rfl
  | case3 a as b bs hlt ih =>
    simp only [ordSubtract_cons_of_gt _ _ hlt, List.length_cons, ih]
    omega
  | case4 as b bs _ ih =>
    simp only [ordSubtract_cons_self, List.length_cons, ih]
    omega
  | case5 a as b bs h3 h4 ih =>
    simp only [ordSubtract_cons_of_lt _ _ (gt_of_not_lt_of_ne h3 h4),
      List.length_cons, ih]
    omega

/-! ## `sort/2` and `msort_/2` -/

/-- the laws `sortSet` needs from its comparison. -/
structure StrictOrder {α} (lt : α → α → Bool) : Prop where
  trans : ∀ a b c, lt a b = true → lt b c = true → lt a c = true
  tri : ∀ a b, lt a b = false → lt b a = false → a = b

theorem natLt_strict : StrictOrder natLt where
  trans _ _ _ h1 h2 := decide_eq_true (Nat.lt_trans (of_decide_eq_true h1) (of_decide_eq_true h2))
  tri _ _ h1 h2 :=
    Nat.le_antisymm (Nat.not_lt.1 (of_decide_eq_false h2)) (Nat.not_lt.1 (of_decide_eq_false h1))

/-- lexicographic strict order on edges. -/
def EdgeLt (a b : Nat × Nat) : Prop := a.1 < b.1 ∨ (a.1 = b.1 ∧ a.2 < b.2)

theorem edgeLt_iff {a b : Nat × Nat} : edgeLt a b = true ↔ EdgeLt a b := by
  rw [edgeLt, EdgeLt, Bool.or_eq_true, Bool.and_eq_true, decide_eq_true_iff, beq_iff_eq, decide_eq_true_iff]

theorem edgeLt_strict : StrictOrder edgeLt where
  trans a b c h1 h2 := edgeLt_iff.2 (by
    have h1 := edgeLt_iff.1 h1
    have h2 := edgeLt_iff.1 h2
    unfold EdgeLt at *
    omega)
  tri a b h1 h2 := by
    have h1 := mt edgeLt_iff.2 (Bool.eq_false_iff.1 h1)
    have h2 := mt edgeLt_iff.2 (Bool.eq_false_iff.1 h2)
    unfold EdgeLt at h1 h2
    exact Prod.ext (by omega) (by omega)

section
variable {α : Type} {lt : α → α → Bool}

theorem mem_insertSet (h : StrictOrder lt) {x y : α} {l : List α} :
    y ∈ insertSet lt x l ↔ y = x ∨ y ∈ l := by
  fun_induction insertSet lt x l with
  | case1 => exact List.mem_cons
  | case2 => exact List.mem_cons
  | case3 z zs _ _ ih => rw [List.mem_cons, ih, List.mem_cons, or_left_comm]
  | case4 z zs h1 h2 =>
    cases h.tri _ _ (Bool.eq_false_iff.2 h1) (Bool.eq_false_iff.2 h2)
    exact (or_iff_right_of_imp fun e => e ▸ List.mem_cons_self).symm

theorem pairwise_insertSet (h : StrictOrder lt) {x : α} {l : List α}
    (hl : l.Pairwise (fun a b => lt a b = true)) : (insertSet lt x l).Pairwise (fun a b => lt a b = true) := by
  fun_induction insertSet lt x l with
  | case1 => exact List.pairwise_singleton _ _
  | case2 z zs h1 =>
    refine List.pairwise_cons.2 ⟨fun a ha => ?_, hl⟩
    rcases List.mem_cons.1 ha with rfl | ha
    · exact h1
    · exact h.trans _ _ _ h1 ((List.pairwise_cons.1 hl).1 a ha)
  | case3 z zs _ h2 ih =>
    refine List.pairwise_cons.2 ⟨fun a ha => ?_, ih (List.pairwise_cons.1 hl).2⟩
    exact ((mem_insertSet h).1 ha).elim (fun e => e ▸ h2) ((List.pairwise_cons.1 hl).1 a)
  | case4 => exact hl

theorem mem_sortSet (h : StrictOrder lt) {y : α} {l : List α} : y ∈ sortSet lt l ↔ y ∈ l := by
  induction l with
  | nil => exact Iff.rfl
  | cons a l ih => exact (mem_insertSet h).trans ((or_congr_right ih).trans List.mem_cons.symm)

theorem pairwise_sortSet (h : StrictOrder lt) (l : List α) : (sortSet lt l).Pairwise (fun a b => lt a b = true) := by
  induction l with
  | nil => exact List.Pairwise.nil
  | cons a l ih => exact pairwise_insertSet h ih

end

@[simp] theorem mem_sortNat {y : Nat} {l : List Nat} : y ∈ sortNat l ↔ y ∈ l := mem_sortSet natLt_strict

theorem sorted_sortNat (l : List Nat) : Sorted (sortNat l) :=
  (pairwise_sortSet natLt_strict l).imp of_decide_eq_true

@[simp] theorem mem_sortEdges {y : Nat × Nat} {l : List (Nat × Nat)} : y ∈ sortEdges l ↔ y ∈ l :=
  mem_sortSet edgeLt_strict

theorem sorted_sortEdges (l : List (Nat × Nat)) : (sortEdges l).Pairwise EdgeLt :=
  (pairwise_sortSet edgeLt_strict l).imp edgeLt_iff.1

theorem mem_insertDup {x y : Nat} {l : List Nat} : y ∈ insertDup x l ↔ y = x ∨ y ∈ l := by
  fun_induction insertDup x l with
  | case1 => exact List.mem_cons
  | case2 => exact List.mem_cons
  | case3 z zs _ ih => rw [List.mem_cons, ih, List.mem_cons, or_left_comm]

@[simp] theorem mem_msortNat {y : Nat} {l : List Nat} : y ∈ msortNat l ↔ y ∈ l := by
  induction l with
  | nil => exact Iff.rfl
  | cons a l ih => exact mem_insertDup.trans ((or_congr_right ih).trans List.mem_cons.symm)

theorem insertDup_eq_insertSet {x : Nat} {l : List Nat} (hx : x ∉ l) : insertDup x l = insertSet natLt x l := by
  fun_induction insertDup x l with
  | case1 => rfl
  | case2 z zs hle =>
    have : natLt x z = true := decide_eq_true (Nat.lt_of_le_of_ne hle fun e => hx (e ▸ List.mem_cons_self))
    rw [insertSet, if_pos this]
  | case3 z zs hle ih =>
    have h1 : ¬ natLt x z = true := fun h => hle (Nat.le_of_lt (of_decide_eq_true h))
    have h2 : natLt z x = true := decide_eq_true (Nat.not_le.1 hle)
    rw [insertSet, if_neg h1, if_pos h2, ih fun h => hx (List.mem_cons_of_mem _ h)]

theorem msortNat_eq_sortNat {l : List Nat} (h : l.Nodup) : msortNat l = sortNat l := by
  induction l with
  | nil => rfl
  | cons a l ih =>
    rw [List.nodup_cons] at h
    show insertDup a (msortNat l) = insertSet natLt a (sortNat l)
    rw [ih h.2, insertDup_eq_insertSet (mt mem_sortNat.1 h.1)]

/-! ## vertices, edges, `neighbours/3`, canonical form -/

@[simp] theorem edge_nil {x y : Nat} : Edge [] x y ↔ False :=
  ⟨fun ⟨_, h, _⟩ => List.not_mem_nil h, False.elim⟩

@[simp] theorem edge_cons {v : Nat} {ns : List Nat} {g : Graph} {x y : Nat} :
    Edge ((v, ns) :: g) x y ↔ (x = v ∧ y ∈ ns) ∨ Edge g x y := by
  constructor
  · rintro ⟨ms, h, hy⟩
    rcases List.mem_cons.1 h with e | h
    · cases e
      exact .inl ⟨rfl, hy⟩
    · exact .inr ⟨ms, h, hy⟩
  · rintro (⟨rfl, hy⟩ | ⟨ms, h, hy⟩)
    · exact ⟨ns, List.mem_cons_self, hy⟩
    · exact ⟨ms, List.mem_cons_of_mem _ h, hy⟩

@[simp] theorem vertices_nil : vertices [] = [] := rfl
@[simp] theorem vertices_cons {v : Nat} {ns : List Nat} {g : Graph} : vertices ((v, ns) :: g) = v :: vertices g := rfl

theorem vertices_eq_map (g : Graph) : vertices g = g.map Prod.fst := by
  induction g with
  | nil => rfl
  | cons p g ih => exact congrArg _ ih

theorem mem_vertices {v : Nat} {g : Graph} : v ∈ vertices g ↔ ∃ ns, (v, ns) ∈ g := by
  simp [vertices_eq_map]

theorem mem_vertices_of_mem {v : Nat} {ns : List Nat} {g : Graph} (h : (v, ns) ∈ g) : v ∈ vertices g :=
  mem_vertices.2 ⟨ns, h⟩

theorem Edge.src {g : Graph} {x y : Nat} (h : Edge g x y) : x ∈ vertices g := by
  obtain ⟨ns, h1, _⟩ := h; exact mem_vertices_of_mem h1

theorem edge_cons_self {v : Nat} {ns : List Nat} {g : Graph} (h : v ∉ vertices g) {y : Nat} :
    Edge ((v, ns) :: g) v y ↔ y ∈ ns :=
  edge_cons.trans ((or_iff_left fun e => h e.src).trans (and_iff_right rfl))

theorem edge_cons_of_ne {v : Nat} {ns : List Nat} {g : Graph} {x y : Nat} (h : x ≠ v) :
    Edge ((v, ns) :: g) x y ↔ Edge g x y :=
  edge_cons.trans (or_iff_right fun e => h e.1)

theorem not_edge_of_lt {g : Graph} {x y : Nat} (hk : Sorted (vertices g)) (h : ∀ v ∈ (vertices g).head?, x < v) :
    ¬ Edge g x y := by
  intro e
  cases g with
  | nil => exact edge_nil.1 e
  | cons p g => exact hk.not_mem_of_lt (h _ rfl) e.src

theorem WF.dst {g : Graph} (h : WF g) {x y : Nat} (e : Edge g x y) : y ∈ vertices g := by
  obtain ⟨ns, h1, h2⟩ := e; exact h.closed _ h1 _ h2

theorem WF.of_edge {g : Graph} (hk : Sorted (vertices g)) (hn : ∀ p ∈ g, Sorted p.2)
    (hc : ∀ x y, Edge g x y → y ∈ vertices g) : WF g :=
  ⟨hk, hn, fun p hp y hy => hc p.1 y ⟨p.2, hp, hy⟩⟩

theorem neighbours_eq_none {v : Nat} {g : Graph} : neighbours v g = none ↔ v ∉ vertices g := by
  fun_induction neighbours v g <;> simp_all

theorem neighbours_some_mem {v : Nat} {g : Graph} {ns : List Nat} (h : neighbours v g = some ns) : (v, ns) ∈ g := by
  fun_induction neighbours v g <;> simp_all

theorem neighbours_eq_some {v : Nat} {g : Graph} {ns : List Nat} (hk : Sorted (vertices g)) :
    neighbours v g = some ns ↔ (v, ns) ∈ g := by
  refine ⟨neighbours_some_mem, fun h => ?_⟩
  fun_induction neighbours v g with
  | case1 => cases h
  | case2 ms g =>
    rcases List.mem_cons.1 h with e | h
    · cases e; rfl
    · exact absurd (mem_vertices_of_mem h) hk.head_not_mem
  | case3 w ms g hne ih =>
    exact ih hk.tail ((List.mem_cons.1 h).resolve_left fun e => hne (Prod.mk.inj e).1)

theorem neighbours_isSome {v : Nat} {g : Graph} (h : v ∈ vertices g) : ∃ ns, neighbours v g = some ns :=
  Option.ne_none_iff_exists'.1 (mt neighbours_eq_none.1 (not_not_intro h))

theorem mem_neighbours_iff {g : Graph} (hk : Sorted (vertices g)) {v y : Nat} {ns : List Nat}
    (h : neighbours v g = some ns) : y ∈ ns ↔ Edge g v y :=
  ⟨fun hy => ⟨ns, neighbours_some_mem h, hy⟩,
    fun ⟨_, hm, hy⟩ => Option.some.inj (h.symm.trans ((neighbours_eq_some hk).2 hm)) ▸ hy⟩

theorem mem_iff_edge {g : Graph} (hk : Sorted (vertices g)) {v y : Nat} {ns : List Nat}
    (h : (v, ns) ∈ g) : y ∈ ns ↔ Edge g v y := mem_neighbours_iff hk ((neighbours_eq_some hk).2 h)

theorem mem_graph_iff {g : Graph} (hk : Sorted (vertices g)) (hn : ∀ p ∈ g, Sorted p.2) {v : Nat} {ns : List Nat} :
    (v, ns) ∈ g ↔ v ∈ vertices g ∧ Sorted ns ∧ ∀ y, y ∈ ns ↔ Edge g v y := by
  refine ⟨fun h => ⟨mem_vertices_of_mem h, hn _ h, fun y => mem_iff_edge hk h⟩, fun ⟨hv, hs, hy⟩ => ?_⟩
  obtain ⟨ms, hq⟩ := mem_vertices.1 hv
  exact List.Pairwise.eq_of_mem_iff hs (hn _ hq) (fun y => (hy y).trans (mem_iff_edge hk hq).symm) ▸ hq

theorem graph_ext {g h : Graph} (kg : Sorted (vertices g)) (kh : Sorted (vertices h)) (ng : ∀ p ∈ g, Sorted p.2)
    (nh : ∀ p ∈ h, Sorted p.2) (hv : ∀ v, v ∈ vertices g ↔ v ∈ vertices h) (he : ∀ x y, Edge g x y ↔ Edge h x y) :
    g = h := by
  have pw : ∀ {g : Graph}, Sorted (vertices g) → g.Pairwise fun p q => p.1 < q.1 :=
    fun k => List.pairwise_map.1 (vertices_eq_map _ ▸ k)
  refine (pw kg).eq_of_mem_iff (pw kh) fun ⟨v, ns⟩ => ?_
  rw [mem_graph_iff kg ng, mem_graph_iff kh nh, hv]
  simp only [he]

/-! ## operations that rewrite every neighbour list and keep the keys -/

theorem vertices_map_nbrs (f : Nat × List Nat → List Nat) (g : Graph) :
    vertices (g.map fun p => (p.1, f p)) = vertices g := by
  rw [vertices_eq_map, vertices_eq_map, List.map_map]
  rfl

theorem edge_map_nbrs {f : Nat × List Nat → List Nat} {g : Graph} {x y : Nat} :
    Edge (g.map fun p => (p.1, f p)) x y ↔ ∃ e, (x, e) ∈ g ∧ y ∈ f (x, e) :=
  ⟨fun ⟨_, h, hy⟩ => by obtain ⟨p, hp, e⟩ := List.mem_map.1 h; cases e; exact ⟨p.2, hp, hy⟩,
    fun ⟨e, he, hy⟩ => ⟨_, List.mem_map.2 ⟨(x, e), he, rfl⟩, hy⟩⟩

/-! ## edges / p_to_s_group -/

theorem sToPGraph1_eq (ns : List Nat) (v : Nat) (rest : List (Nat × Nat)) :
    sToPGraph1 ns v rest = ns.map (fun n => (v, n)) ++ rest := by
  induction ns with
  | nil => rfl
  | cons n ns ih => exact congrArg _ ih

theorem mem_edges {g : Graph} {x y : Nat} : (x, y) ∈ edges g ↔ Edge g x y := by
  induction g with
  | nil => exact ⟨fun h => absurd h List.not_mem_nil, fun h => (edge_nil.1 h).elim⟩
  | cons p g ih =>
    obtain ⟨v, ns⟩ := p
    rw [edges, sToPGraph1_eq, List.mem_append, ih, edge_cons, List.mem_map]
    exact or_congr_left ⟨fun ⟨n, hn, e⟩ => by cases e; exact ⟨rfl, hn⟩, fun ⟨e, hn⟩ => ⟨y, hn, e ▸ rfl⟩⟩

theorem sorted_edges {g : Graph} (hk : Sorted (vertices g)) (hn : ∀ p ∈ g, Sorted p.2) :
    (edges g).Pairwise EdgeLt := by
  induction g with
  | nil => exact List.Pairwise.nil
  | cons p g ih =>
    obtain ⟨v, ns⟩ := p
    obtain ⟨hns, hn⟩ := List.forall_mem_cons.1 hn
    rw [edges, sToPGraph1_eq, List.pairwise_append]
    refine ⟨?_, ih hk.tail hn, ?_⟩
    · exact List.pairwise_map.2 (hns.imp fun h => Or.inr ⟨rfl, h⟩)
    · rintro a ha ⟨c, d⟩ hc
      obtain ⟨n, _, rfl⟩ := List.mem_map.1 ha
      exact .inl (hk.head_lt (mem_edges.1 hc).src)

theorem mem_pToSVertices {es : List (Nat × Nat)} {v : Nat} :
    v ∈ pToSVertices es ↔ ∃ e ∈ es, v = e.1 ∨ v = e.2 := by
  induction es with
  | nil => exact ⟨nofun, nofun⟩
  | cons e es ih => simp only [pToSVertices, List.mem_cons, ih, exists_eq_or_imp, or_assoc]

theorem pToSGroup1_split (es : List (Nat × Nat)) (v : Nat) :
    (pToSGroup1 es v).1.map (fun n => (v, n)) ++ (pToSGroup1 es v).2 = es := by
  induction es with
  | nil => rfl
  | cons e es ih =>
    obtain ⟨a, b⟩ := e
    by_cases h : a = v
    · subst h
      rw [pToSGroup1, if_pos rfl]
      exact congrArg _ ih
    · rw [pToSGroup1, if_neg h]
      rfl

theorem pToSGroup1_head (es : List (Nat × Nat)) (v : Nat) :
    ∀ e, (pToSGroup1 es v).2.head? = some e → e.1 ≠ v := by
  induction es with
  | nil => nofun
  | cons e es ih =>
    rw [pToSGroup1]
    split
    · exact ih
    · next h => intro _ he; cases he; exact h

theorem vertices_pToSGroup (vs : List Nat) (es : List (Nat × Nat)) : vertices (pToSGroup vs es) = vs := by
  induction vs generalizing es with
  | nil => rfl
  | cons v vs ih => exact congrArg _ (ih _)

theorem pToSGroup_spec {vs : List Nat} {es : List (Nat × Nat)} (hvs : Sorted vs) (hes : es.Pairwise EdgeLt)
    (hsrc : ∀ e ∈ es, e.1 ∈ vs) :
    (∀ x y, Edge (pToSGroup vs es) x y ↔ (x, y) ∈ es) ∧ ∀ p ∈ pToSGroup vs es, Sorted p.2 := by
  induction vs generalizing es with
  | nil =>
    cases es with
    | nil => exact ⟨fun x y => iff_of_false edge_nil.1 List.not_mem_nil, nofun⟩
    | cons e es => exact absurd (hsrc e List.mem_cons_self) List.not_mem_nil
  | cons v vs ih =>
    have hsplit := pToSGroup1_split es v
    have hhead := pToSGroup1_head es v
    rw [pToSGroup]
    generalize pToSGroup1 es v = r at hsplit hhead ⊢
    obtain ⟨ns, rest⟩ := r
    subst hsplit
    obtain ⟨hes1, hes2, _⟩ := List.pairwise_append.1 hes
    -- the edges left over start at later keys: their first does, and they are in order
    have hgt : ∀ e ∈ rest, v < e.1 := by
      cases rest with
      | nil => nofun
      | cons e0 rest =>
        have h0 : v < e0.1 := hvs.head_lt
          ((List.mem_cons.1 (hsrc e0 (List.mem_append_right _ List.mem_cons_self))).resolve_left (hhead e0 rfl))
        intro e he
        rcases List.mem_cons.1 he with rfl | he
        · exact h0
        · have := (List.pairwise_cons.1 hes2).1 e he
          unfold EdgeLt at this
          omega
    obtain ⟨ih1, ih2⟩ := ih hvs.tail hes2 fun e he =>
      mem_of_mem_cons_of_lt (hsrc e (List.mem_append_right _ he)) (hgt e he)
    constructor
    · intro x y
      rw [edge_cons, ih1, List.mem_append, List.mem_map]
      exact or_congr_left ⟨fun ⟨e, hn⟩ => ⟨y, hn, e ▸ rfl⟩, fun ⟨n, hn, e⟩ => by cases e; exact ⟨rfl, hn⟩⟩
    · exact List.forall_mem_cons.2
        ⟨(List.pairwise_map.1 hes1).imp fun h => (h.resolve_left (Nat.lt_irrefl v)).2, ih2⟩

/-! ## vertices_edges_to_ugraph, p_to_s_graph, transpose -/

theorem vetu_vertices {vs : List Nat} {es : List (Nat × Nat)} {v : Nat} :
    v ∈ vertices (verticesEdgesToUgraph vs es) ↔ v ∈ vs ∨ ∃ e ∈ es, v = e.1 ∨ v = e.2 := by
  simp only [verticesEdgesToUgraph, vertices_pToSGroup, mem_sortNat, List.mem_append, mem_pToSVertices,
    mem_sortEdges]

theorem vetu_spec (vs : List Nat) (es : List (Nat × Nat)) :
    (∀ x y, Edge (verticesEdgesToUgraph vs es) x y ↔ (x, y) ∈ es) ∧ WF (verticesEdgesToUgraph vs es) := by
  have h := pToSGroup_spec (vs := sortNat (vs ++ pToSVertices (sortEdges es))) (es := sortEdges es)
    (sorted_sortNat _) (sorted_sortEdges es) fun e he =>
      mem_sortNat.2 (List.mem_append_right _ (mem_pToSVertices.2 ⟨e, he, .inl rfl⟩))
  have hE : ∀ x y, Edge (verticesEdgesToUgraph vs es) x y ↔ (x, y) ∈ es :=
    fun x y => (h.1 x y).trans mem_sortEdges
  refine ⟨hE, .of_edge ?_ h.2 fun x y e => vetu_vertices.2 (.inr ⟨(x, y), (hE x y).1 e, .inr rfl⟩)⟩
  rw [verticesEdgesToUgraph, vertices_pToSGroup]
  exact sorted_sortNat _

theorem pToSGraph_eq (es : List (Nat × Nat)) : pToSGraph es = verticesEdgesToUgraph [] es := rfl

theorem mem_flipEdges {es : List (Nat × Nat)} {x y : Nat} : (x, y) ∈ flipEdges es ↔ (y, x) ∈ es := by
  induction es with
  | nil => exact ⟨nofun, nofun⟩
  | cons e es ih => rw [flipEdges, List.mem_cons, List.mem_cons, ih, Prod.mk.injEq, Prod.ext_iff, and_comm]

theorem transpose_edge {g : Graph} {x y : Nat} : Edge (transposeUgraph g) x y ↔ Edge g y x := by
  rw [transposeUgraph, (vetu_spec _ _).1, mem_flipEdges, mem_edges]

theorem transpose_vertices {g : Graph} (h : WF g) : vertices (transposeUgraph g) = vertices g := by
  refine List.Pairwise.eq_of_mem_iff (vetu_spec _ _).2.keys h.keys fun v => ?_
  rw [transposeUgraph, vetu_vertices]
  refine ⟨?_, Or.inl⟩
  rintro (h1 | ⟨⟨a, b⟩, he, rfl | rfl⟩)
  · exact h1
  · exact h.dst (mem_edges.1 (mem_flipEdges.1 he))
  · exact (mem_edges.1 (mem_flipEdges.1 he)).src

/-! ## add_vertices -/

theorem vertices_addEmptyVertices (l : List Nat) : vertices (addEmptyVertices l) = l := by
  induction l with
  | nil => rfl
  | cons a l ih => exact congrArg _ ih

theorem mem_addEmptyVertices {l : List Nat} {p : Nat × List Nat} (h : p ∈ addEmptyVertices l) : p.2 = [] := by
  induction l with
  | nil => cases h
  | cons a l ih => exact (List.mem_cons.1 h).elim (fun e => e ▸ rfl) ih

theorem edge_addEmptyVertices {l : List Nat} {x y : Nat} : ¬ Edge (addEmptyVertices l) x y :=
  fun ⟨_, h1, h2⟩ => by cases mem_addEmptyVertices h1; cases h2

theorem wf_addEmptyVertices {l : List Nat} (h : Sorted l) : WF (addEmptyVertices l) :=
  ⟨(vertices_addEmptyVertices l).symm ▸ h, fun _ hp => mem_addEmptyVertices hp ▸ sorted_nil,
    fun _ hp _ hy => absurd (mem_addEmptyVertices hp ▸ hy) List.not_mem_nil⟩

theorem addVerticesToSGraph_eq_union (l : List Nat) (g : Graph) :
    addVerticesToSGraph l g = ugraphUnion (addEmptyVertices l) g := by
  -- `add_vertices_to_s_graph/7`, `ugraph_union/6` and `graph_subtract/6` compare in the order `=`, `<`, `>`
  fun_induction addVerticesToSGraph l g with
  | case1 l => rw [ugraphUnion]
  | case2 g hg => rw [addEmptyVertices, ugraphUnion]; exact hg
  | case3 vl v e g ih => rw [ih, addEmptyVertices, ugraphUnion, if_pos rfl, ordUnion]
  | case4 v1 vl v e g h3 h4 ih => rw [ih, addEmptyVertices, ugraphUnion, if_neg h3, if_pos h4]
  | case5 v1 vl v e g h3 h4 ih => rw [ih, addEmptyVertices, ugraphUnion, if_neg h3, if_neg h4]

theorem addVertices_eq_fixed (g : Graph) {vs : List Nat} (h : vs.Nodup) :
    addVertices g vs = addVerticesFixed g vs := by
  rw [addVertices, addVerticesFixed, msortNat_eq_sortNat h]

/-! ## del_vertices -/

theorem delRemaining_eq_map (g : Graph) (v1 : List Nat) :
    delRemaining g v1 = g.map fun p => (p.1, ordSubtract p.2 v1) := by
  fun_induction delRemaining g v1 with
  | case1 => rfl
  | case2 v0 e g v1 ih => exact congrArg _ ih

theorem vertices_delVerticesAuxFixed (g : Graph) (vs v1 : List Nat) :
    vertices (delVerticesAuxFixed g vs v1) = ordSubtract (vertices g) vs := by
  fun_induction delVerticesAuxFixed g vs v1 <;> simp_all [delRemaining_eq_map, vertices_map_nbrs, ordSubtract]

theorem filter_notMem_cons {g : Graph} {v0 : Nat} {vs : List Nat} (h : v0 ∉ vertices g) :
    g.filter (fun p => decide (p.1 ∉ v0 :: vs)) = g.filter fun p => decide (p.1 ∉ vs) :=
  List.filter_congr fun p hp => by
    have : p.1 ≠ v0 := fun e => h (e ▸ mem_vertices_of_mem (ns := p.2) hp)
    simp only [List.mem_cons, this, false_or]

theorem delVerticesAuxFixed_eq {g : Graph} {vs v1 : List Nat} (hg : Sorted (vertices g)) (hvs : Sorted vs) :
    delVerticesAuxFixed g vs v1 = delRemaining (g.filter fun p => decide (p.1 ∉ vs)) v1 := by
  fun_induction delVerticesAuxFixed g vs v1 with
  | case1 g v1 => simp
  | case2 => rfl
  | case3 v e g v0 vs v1 hlt ih =>
    rw [List.filter_cons, if_pos (decide_eq_true (hvs.not_mem_of_lt hlt)), delRemaining, ih hg.tail hvs]
  | case4 e g v0 vs v1 _ ih =>
    rw [List.filter_cons, if_neg (by simp), ih hg.tail hvs.tail, filter_notMem_cons hg.head_not_mem]
  | case5 v e g v0 vs v1 h3 h4 ih =>
    rw [ih hg hvs.tail, filter_notMem_cons (hg.not_mem_of_lt (gt_of_not_lt_of_ne h3 h4))]

theorem edge_delVerticesAuxFixed {g : Graph} {vs v1 : List Nat} (hg : Sorted (vertices g)) (hvs : Sorted vs)
    (hn : ∀ p ∈ g, Sorted p.2) (h1 : Sorted v1) {x y : Nat} :
    Edge (delVerticesAuxFixed g vs v1) x y ↔ Edge g x y ∧ x ∉ vs ∧ y ∉ v1 := by
  simp only [delVerticesAuxFixed_eq hg hvs, delRemaining_eq_map, edge_map_nbrs, List.mem_filter, decide_eq_true_eq]
  constructor
  · rintro ⟨e, ⟨h, hx⟩, hy⟩
    rw [mem_ordSubtract (hn _ h) h1] at hy
    exact ⟨⟨e, h, hy.1⟩, hx, hy.2⟩
  · rintro ⟨⟨e, h, hy⟩, hx, hy1⟩
    exact ⟨e, ⟨h, hx⟩, (mem_ordSubtract (hn _ h) h1).2 ⟨hy, hy1⟩⟩

theorem nbrs_delVerticesAuxFixed {g : Graph} {vs v1 : List Nat} (hg : Sorted (vertices g)) (hvs : Sorted vs)
    (hn : ∀ p ∈ g, Sorted p.2) : ∀ p ∈ delVerticesAuxFixed g vs v1, Sorted p.2 := by
  rw [delVerticesAuxFixed_eq hg hvs, delRemaining_eq_map]
  exact List.forall_mem_map.2 fun p hp => sorted_ordSubtract (hn p (List.mem_filter.1 hp).1)

/-- the test for an empty deletion list is a short cut. -/
theorem delVerticesFixed_eq (g : Graph) (vs : List Nat) :
    delVerticesFixed g vs = delVerticesAuxFixed g (sortNat vs) (sortNat vs) := by
  rw [delVerticesFixed]
  split
  · next h => rw [h, delVerticesAuxFixed, delRemaining_eq_map]; simp
  · rfl

/-- the literal algorithm agrees with the repaired one when every vertex to delete is in the graph. -/
theorem delVerticesAux_eq_fixed {g : Graph} {vs v1 : List Nat} (hg : Sorted (vertices g)) (hvs : Sorted vs)
    (hsub : ∀ v ∈ vs, v ∈ vertices g) : delVerticesAux g vs v1 = delVerticesAuxFixed g vs v1 := by
  fun_induction delVerticesAux g vs v1 with
  | case1 g v1 => rw [delVerticesAuxFixed]
  | case2 => rw [delVerticesAuxFixed]
  | case3 v e g v0 vs v1 hlt ih =>
    rw [delVerticesAuxFixed, if_pos hlt, ih hg.tail hvs fun w hw =>
      mem_of_mem_cons_of_lt (hsub w hw) (hvs.lt_of_mem hlt hw)]
  | case4 e g v0 vs v1 _ ih =>
    rw [delVerticesAuxFixed, if_neg (Nat.lt_irrefl v0), if_pos rfl, ih hg.tail hvs.tail fun w hw =>
      mem_of_mem_cons_of_lt (hsub w (List.mem_cons_of_mem _ hw)) (hvs.head_lt hw)]
  | case5 v e g v0 vs v1 h3 h4 ih =>
    exact absurd (hsub v0 List.mem_cons_self)
      (hg.not_mem_of_lt (gt_of_not_lt_of_ne h3 h4))

theorem delVertices_eq_fixed {g : Graph} (hg : Sorted (vertices g)) {vs : List Nat}
    (hsub : ∀ v ∈ vs, v ∈ vertices g) : delVertices g vs = delVerticesFixed g vs := by
  rw [delVertices, delVerticesFixed]
  split
  · rfl
  · exact delVerticesAux_eq_fixed hg (sorted_sortNat vs) fun v hv => hsub v (mem_sortNat.1 hv)

/-! ## ugraph_union / add_edges -/

theorem vertices_ugraphUnion (g1 g2 : Graph) :
    vertices (ugraphUnion g1 g2) = ordUnion (vertices g1) (vertices g2) := by
  fun_induction ugraphUnion g1 g2 <;> simp_all [ordUnion]

theorem edge_ugraphUnion {g1 g2 : Graph} {x y : Nat} :
    Edge (ugraphUnion g1 g2) x y ↔ Edge g1 x y ∨ Edge g2 x y := by
  fun_induction ugraphUnion g1 g2 with
  | case1 => exact (or_iff_left edge_nil.1).symm
  | case2 => exact (or_iff_right edge_nil.1).symm
  | case3 e1 t1 h e2 t2 ih => rw [edge_cons, edge_cons, edge_cons, ih, mem_ordUnion, and_or_left, or_or_or_comm]
  | case4 h1 e1 t1 h2 e2 t2 _ _ ih => rw [edge_cons, ih, edge_cons (g := t1), or_assoc]
  | case5 h1 e1 t1 h2 e2 t2 _ _ ih => rw [edge_cons, ih, edge_cons (g := t2), or_left_comm]

theorem nbrs_ugraphUnion {g1 g2 : Graph} (h1 : ∀ p ∈ g1, Sorted p.2) (h2 : ∀ p ∈ g2, Sorted p.2) :
    ∀ p ∈ ugraphUnion g1 g2, Sorted p.2 := by
  fun_induction ugraphUnion g1 g2 with
  | case1 => exact h1
  | case2 => exact h2
  | case3 e1 t1 h e2 t2 ih =>
    rw [List.forall_mem_cons] at h1 h2 ⊢
    exact ⟨sorted_ordUnion h1.1 h2.1, ih h1.2 h2.2⟩
  | case4 k1 e1 t1 k2 e2 t2 _ _ ih =>
    rw [List.forall_mem_cons] at h1 ⊢
    exact ⟨h1.1, ih h1.2 h2⟩
  | case5 k1 e1 t1 k2 e2 t2 _ _ ih =>
    rw [List.forall_mem_cons] at h2 ⊢
    exact ⟨h2.1, ih h1 h2.2⟩

/-! ## graph_subtract / del_edges -/

theorem vertices_graphSubtract (g1 g2 : Graph) : vertices (graphSubtract g1 g2) = vertices g1 := by
  fun_induction graphSubtract g1 g2 <;> simp_all

theorem nbrs_graphSubtract {g1 g2 : Graph} (h1 : ∀ p ∈ g1, Sorted p.2) :
    ∀ p ∈ graphSubtract g1 g2, Sorted p.2 := by
  fun_induction graphSubtract g1 g2 with
  | case1 => exact h1
  | case2 => exact h1
  | case3 e1 t1 h e2 t2 ih =>
    rw [List.forall_mem_cons] at h1 ⊢
    exact ⟨sorted_ordSubtract h1.1, ih h1.2⟩
  | case4 k1 e1 t1 k2 e2 t2 _ _ ih =>
    rw [List.forall_mem_cons] at h1 ⊢
    exact ⟨h1.1, ih h1.2⟩
  | case5 k1 e1 t1 k2 e2 t2 _ _ ih => exact ih h1

theorem edge_graphSubtract {g1 g2 : Graph} (k1 : Sorted (vertices g1)) (k2 : Sorted (vertices g2))
    (n1 : ∀ p ∈ g1, Sorted p.2) (n2 : ∀ p ∈ g2, Sorted p.2) {x y : Nat} :
    Edge (graphSubtract g1 g2) x y ↔ Edge g1 x y ∧ ¬ Edge g2 x y := by
  fun_induction graphSubtract g1 g2 with
  | case1 => exact (and_iff_left edge_nil.1).symm
  | case2 => exact iff_of_false edge_nil.1 fun h => edge_nil.1 h.1
  | case3 e1 t1 h e2 t2 ih =>
    by_cases hx : x = h
    · subst hx
      rw [edge_cons_self (vertices_graphSubtract t1 t2 ▸ k1.head_not_mem), edge_cons_self k1.head_not_mem,
        edge_cons_self k2.head_not_mem, mem_ordSubtract (n1 _ List.mem_cons_self) (n2 _ List.mem_cons_self)]
    · rw [edge_cons_of_ne hx, edge_cons_of_ne hx, edge_cons_of_ne hx,
        ih k1.tail k2.tail (List.forall_mem_cons.1 n1).2 (List.forall_mem_cons.1 n2).2]
  | case4 h1 e1 t1 h2 e2 t2 _ hlt ih =>
    by_cases hx : x = h1
    · subst hx
      rw [edge_cons_self (vertices_graphSubtract t1 _ ▸ k1.head_not_mem), edge_cons_self k1.head_not_mem]
      exact (and_iff_left (not_edge_of_lt k2 fun _ hv => Option.some.inj hv ▸ hlt)).symm
    · rw [edge_cons_of_ne hx, edge_cons_of_ne hx, ih k1.tail k2 (List.forall_mem_cons.1 n1).2 n2]
  | case5 h1 e1 t1 h2 e2 t2 h3 h4 ih =>
    have hlt : h2 < h1 := gt_of_not_lt_of_ne h4 h3
    rw [ih k1 k2.tail n1 (List.forall_mem_cons.1 n2).2]
    exact and_congr_right fun e => not_congr
      (edge_cons_of_ne fun (hx : x = h2) => k1.not_mem_of_lt hlt (hx ▸ e.src)).symm

/-! ## complement -/

theorem complementAux_eq_map (g : Graph) (vs : List Nat) :
    complementAux g vs = g.map fun p => (p.1, ordSubtract vs (ordAddElement p.2 p.1)) := by
  fun_induction complementAux g vs with
  | case1 => rfl
  | case2 v ns g vs ih => exact congrArg _ ih

/-! ## compose -/

theorem exists_mem_cons_iff {a : Nat} {l : List Nat} {p : Nat → Prop} :
    (∃ y ∈ a :: l, p y) ↔ p a ∨ ∃ y ∈ l, p y := by
  simp only [List.mem_cons, exists_eq_or_imp]

theorem mem_compose1 {ns : List Nat} {g2 : Graph} {acc : List Nat} (hns : Sorted ns) (hk : Sorted (vertices g2))
    {z : Nat} : z ∈ compose1 ns g2 acc ↔ z ∈ acc ∨ ∃ y ∈ ns, Edge g2 y z := by
  fun_induction compose1 ns g2 acc with
  | case1 => exact (or_iff_left fun ⟨_, h, _⟩ => nomatch h).symm
  | case2 => exact (or_iff_left fun ⟨_, _, e⟩ => edge_nil.1 e).symm
  | case3 v1 vs1 v2 n2 g2 soFar hlt ih =>
    rw [ih hns.tail hk, exists_mem_cons_iff,
      or_iff_right (not_edge_of_lt hk fun _ hv => Option.some.inj hv ▸ hlt)]
  | case4 vs1 v2 n2 g2 soFar _ ih =>
    rw [ih hns.tail hk.tail, mem_ordUnion, exists_mem_cons_iff, edge_cons_self hk.head_not_mem, or_assoc,
      or_left_comm]
    exact or_congr_right (or_congr_right (exists_congr fun y => and_congr_right fun hy =>
      (edge_cons_of_ne (Nat.ne_of_gt (hns.head_lt hy))).symm))
  | case5 v1 vs1 v2 n2 g2 soFar h3 h4 ih =>
    have hlt : v2 < v1 := gt_of_not_lt_of_ne h3 h4
    rw [ih hns hk.tail]
    exact or_congr_right (exists_congr fun y => and_congr_right fun hy =>
      (edge_cons_of_ne fun (hx : y = v2) => hns.not_mem_of_lt hlt (hx ▸ hy)).symm)

theorem sorted_compose1 {ns : List Nat} {g2 : Graph} {acc : List Nat} (hacc : Sorted acc)
    (hn : ∀ p ∈ g2, Sorted p.2) : Sorted (compose1 ns g2 acc) := by
  fun_induction compose1 ns g2 acc with
  | case1 => exact hacc
  | case2 => exact hacc
  | case3 v1 vs1 v2 n2 g2 soFar _ ih => exact ih hacc hn
  | case4 vs1 v2 n2 g2 soFar _ ih =>
    rw [List.forall_mem_cons] at hn
    exact ih (sorted_ordUnion hn.1 hacc) hn.2
  | case5 v1 vs1 v2 n2 g2 soFar _ _ ih => exact ih hacc (List.forall_mem_cons.1 hn).2

theorem vertices_composeAux (vs : List Nat) (g1 g2 : Graph) : vertices (composeAux vs g1 g2) = vs := by
  fun_induction composeAux vs g1 g2 <;> simp_all

theorem nbrs_composeAux {vs : List Nat} {g1 g2 : Graph} (hn : ∀ p ∈ g2, Sorted p.2) :
    ∀ p ∈ composeAux vs g1 g2, Sorted p.2 := by
  fun_induction composeAux vs g1 g2 with
  | case1 => nofun
  | case2 v vs g2 ih => exact List.forall_mem_cons.2 ⟨sorted_nil, ih hn⟩
  | case3 vs v' ns g1 g2 ih => exact List.forall_mem_cons.2 ⟨sorted_compose1 sorted_nil hn, ih hn⟩
  | case4 v vs v' ns g1 g2 _ ih => exact List.forall_mem_cons.2 ⟨sorted_nil, ih hn⟩

theorem edge_composeAux {vs : List Nat} {g1 g2 : Graph} (hvs : Sorted vs) (k1 : Sorted (vertices g1))
    (hsub : ∀ v ∈ vertices g1, v ∈ vs) (n1 : ∀ p ∈ g1, Sorted p.2) (k2 : Sorted (vertices g2)) {x z : Nat} :
    Edge (composeAux vs g1 g2) x z ↔ ∃ y, Edge g1 x y ∧ Edge g2 y z := by
  fun_induction composeAux vs g1 g2 with
  | case1 g1 g2 =>
    exact iff_of_false edge_nil.1 fun ⟨_, e, _⟩ => List.not_mem_nil (hsub _ e.src)
  | case2 v vs g2 ih =>
    rw [edge_cons, ih hvs.tail k1 nofun n1 k2]
    exact or_iff_right fun h => nomatch h.2
  | case3 vs v ns g1 g2 ih =>
    by_cases hx : x = v
    · subst hx
      rw [edge_cons_self (by rw [vertices_composeAux]; exact hvs.head_not_mem),
        mem_compose1 (n1 _ List.mem_cons_self) k2, or_iff_right List.not_mem_nil]
      exact exists_congr fun y => and_congr_left' (edge_cons_self k1.head_not_mem).symm
    · rw [edge_cons_of_ne hx, ih hvs.tail k1.tail (fun w hw => mem_of_mem_cons_of_lt
        (hsub w (List.mem_cons_of_mem _ hw)) (k1.head_lt hw)) (List.forall_mem_cons.1 n1).2 k2]
      exact exists_congr fun y => and_congr_left' (edge_cons_of_ne hx).symm
  | case4 v vs v' ns g1 g2 hne ih =>
    have hv' : v < v' := hvs.head_lt
      ((List.mem_cons.1 (hsub v' List.mem_cons_self)).resolve_left (Ne.symm hne))
    rw [edge_cons, ih hvs.tail k1 (fun w hw => mem_of_mem_cons_of_lt (hsub w hw) (k1.lt_of_mem hv' hw)) n1 k2]
    exact or_iff_right fun h => nomatch h.2

end Scryer.UGraph
