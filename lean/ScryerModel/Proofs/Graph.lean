import ScryerModel.Model.Graph
import ScryerModel.Proofs.ListFacts
import Mathlib.Logic.Relation
import Mathlib.Data.List.Basic
import Mathlib.Data.Finset.Card
import Mathlib.Data.Finset.Range
import Mathlib.Data.Finset.Prod
/-! Lemmas about the graph algorithms of `Model/Graph.lean` (C24).

The two pair walks are given their one-step equation once (`cmpN_succ`, `uniN_succ`); the
partial-correctness and termination arguments then reason about steps, not about the definitions, and go
through the argument lists by the functional induction of `cmpL`, `uniL`, `dfsL`.
Termination of all four walks is the same argument: `Room`. What the pair walk and the node walk promise
about their visited lists has one shape, `Ext`. -/
namespace Scryer.Graph

theorem node_str_lt {g : Graph} {i f as} (h : node g i = .str f as) : i < g.size := by
  by_contra hlt
  rw [node, Array.getD_eq_getD_getElem?, Array.getElem?_eq_none (Nat.not_lt.1 hlt)] at h
  cases h

/-- `wfB` is the check the driver puts in front of every case. -/
theorem WF_of_wfB {g : Graph} (h : wfB g = true) : WF g := by
  intro i f as hn c hc
  have hi := node_str_lt hn
  rw [node, Array.getD_eq_getD_getElem?, Array.getElem?_eq_getElem hi] at hn
  have := Array.all_eq_true_iff_forall_mem.1 h _ (Array.getElem_mem hi)
  rw [show g[i] = _ from hn] at this
  exact of_decide_eq_true (List.all_eq_true.1 this c hc)

/-! ## fuel -/

/-- `s` has no duplicates, and the fuel `F` exceeds the number of members of `t` that `s` does not list yet.
A walk that lists a new member of `t` for every unit of fuel it spends keeps this and never reaches `0`;
what it lists without spending fuel is free, inside `t` or not. -/
def Room {α} [DecidableEq α] (t : Finset α) (F : Nat) (s : List α) : Prop :=
  s.Nodup ∧ t.card + 1 ≤ F + (s.filter (· ∈ t)).length

section Room
variable {α} [DecidableEq α] {t : Finset α} {F : Nat} {s : List α}

theorem Room.nil (h : t.card + 1 ≤ F) : Room t F [] := ⟨List.nodup_nil, h⟩

theorem Room.fuel_ne_zero (h : Room t F s) : F ≠ 0 := by
  have := Finset.card_le_card (s := (s.filter (· ∈ t)).toFinset) (t := t) fun x hx =>
    of_decide_eq_true (List.mem_filter.1 (List.mem_toFinset.1 hx)).2
  rw [List.toFinset_card_of_nodup (h.1.filter _)] at this
  have := h.2
  omega

theorem Room.cons {x : α} (h : Room t (F + 1) s) (hx : x ∉ s) (hxt : x ∈ t) : Room t F (x :: s) :=
  ⟨List.nodup_cons.2 ⟨hx, h.1⟩, by
    rw [List.filter_cons_of_pos (p := (· ∈ t)) (decide_eq_true hxt), List.length_cons]
    exact h.2.trans_eq (Nat.succ_add_eq_add_succ F _)⟩

theorem Room.cons_free {x : α} (h : Room t F s) (hx : x ∉ s) : Room t F (x :: s) :=
  ⟨List.nodup_cons.2 ⟨hx, h.1⟩,
    h.2.trans (Nat.add_le_add_left ((List.sublist_cons_self x s).filter _).length_le F)⟩

theorem Room.succ (h : Room t F s) : Room t (F + 1) s :=
  ⟨h.1, h.2.trans (Nat.add_le_add_right (Nat.le_succ F) _)⟩

end Room

/-- all pairs of node indices; the pairs of compound nodes, which alone enter a tabu list, are among
    them (`mem_pairs`). -/
def pairs (g : Graph) : Finset (Nat × Nat) := Finset.range g.size ×ˢ Finset.range g.size

theorem mem_pairs {g : Graph} {a b f as h bs} (ha : node g a = .str f as) (hb : node g b = .str h bs) :
    (a, b) ∈ pairs g :=
  Finset.mem_product.2 ⟨Finset.mem_range.2 (node_str_lt ha), Finset.mem_range.2 (node_str_lt hb)⟩

theorem room_pairFuel (g : Graph) : Room (pairs g) (pairFuel g) [] :=
  .nil (by simp [pairs, pairFuel])

/-! ## reachability -/

def Edge (g : Graph) (i c : Nat) : Prop := ∃ f as, node g i = .str f as ∧ c ∈ as

abbrev Reach (g : Graph) := Relation.ReflTransGen (Edge g)
abbrev ReachP (g : Graph) := Relation.TransGen (Edge g)

/-- no cycle is reachable from `r`. -/
def NoCycle (g : Graph) (r : Nat) : Prop := ¬ ∃ x, Reach g r x ∧ ReachP g x x

theorem fin_succ {g : Graph} {k i} : fin g (k + 1) i = true ↔ ∀ c, Edge g i c → fin g k c = true := by
  rw [fin]
  constructor
  · rintro h c ⟨f, as, hn, hc⟩
    rw [hn] at h
    exact List.all_eq_true.1 h c hc
  · intro h
    cases hn : node g i with
    | str f as => exact List.all_eq_true.2 fun c hc => h c ⟨f, as, hn, hc⟩
    | _ => rfl

/-- a path from a finite node to itself would make its depth smaller than itself. -/
theorem fin_no_self {g : Graph} : ∀ k i, fin g k i = true → ¬ ReachP g i i
  | k + 1, i, h, p => by
    obtain ⟨c, e, r⟩ := Relation.TransGen.head'_iff.1 p
    exact fin_no_self k c (fin_succ.1 h c e) (Relation.TransGen.tail' r e)

theorem finite_noCycle {g : Graph} {r k} (h : fin g k r = true) : NoCycle g r := by
  rintro ⟨x, hx, hc⟩
  -- every node reachable from a finite one is finite
  have hfx : ∃ k, fin g k x = true := by
    clear hc
    induction hx with
    | refl => exact ⟨k, h⟩
    | tail _ e ih =>
      obtain ⟨k, hk⟩ := ih
      cases k with
      | zero => cases hk
      | succ k => exact ⟨k, fin_succ.1 hk _ e⟩
  obtain ⟨k, hk⟩ := hfx
  exact fin_no_self k x hk hc

/-! ## acyclic_term -/

/-- the walk spends a unit of fuel per level, so a successful walk bounds the depth. -/
theorem fin_of_acyc (g : Graph) : ∀ fuel path i, acyc g fuel path i = true → fin g fuel i = true := by
  intro fuel
  induction fuel with
  | zero => intro path i h; cases h
  | succ fuel ih =>
    rintro path i h
    refine fin_succ.2 fun c ⟨f, as, hn, hc⟩ => ih (i :: path) c ?_
    rw [acyc, hn, Bool.and_eq_true] at h
    exact List.all_eq_true.1 h.2 c hc

/-- every node of `path` lies on a path to `i`, so meeting one again would close a cycle. -/
theorem noCycle_acyc (g : Graph) (r : Nat) (hN : NoCycle g r) :
    ∀ fuel path i, Reach g r i → (∀ p ∈ path, ReachP g p i) →
      Room (Finset.range g.size) fuel path → acyc g fuel path i = true := by
  intro fuel
  induction fuel with
  | zero => intro path i _ _ hroom; exact absurd rfl hroom.fuel_ne_zero
  | succ fuel ih =>
    intro path i hr hp hroom
    rw [acyc]
    cases hn : node g i with
    | str f as =>
      have hnot : i ∉ path := fun hi => hN ⟨i, hr, hp i hi⟩
      simp only [Bool.and_eq_true, List.all_eq_true, Bool.not_eq_true', List.contains_eq_mem,
        decide_eq_false_iff_not]
      refine ⟨hnot, fun c hc => ?_⟩
      have e : Edge g i c := ⟨f, as, hn, hc⟩
      refine ih (i :: path) c (hr.tail e) ?_ (hroom.cons hnot (Finset.mem_range.2 (node_str_lt hn)))
      exact List.forall_mem_cons.2 ⟨.single e, fun p hp' => (hp p hp').tail e⟩
    | _ => rfl

theorem acyclic_of_noCycle {g : Graph} {r : Nat} (h : NoCycle g r) : acyclic g r = true :=
  noCycle_acyc g r h _ [] r .refl nofun (.nil (by simp))

/-! ## how a visited list grows -/

/-- `s'` keeps `s`, and every member it adds satisfies `P s'`, a property that may look at the whole
final list: the shape of what the pair walk and the node walk promise about their visited lists. -/
def Ext {α} (P : List α → α → Prop) (s s' : List α) : Prop :=
  s ⊆ s' ∧ ∀ x ∈ s', x ∈ s ∨ P s' x

section Ext
variable {α} {P : List α → α → Prop} {s s1 s2 : List α}

theorem Ext.refl : Ext P s s := ⟨fun _ h => h, fun _ => .inl⟩

theorem Ext.trans (mono : ∀ {s s'}, s ⊆ s' → ∀ {x}, P s x → P s' x) (h1 : Ext P s s1) (h2 : Ext P s1 s2) :
    Ext P s s2 :=
  ⟨fun _ h => h2.1 (h1.1 h), fun x hx => (h2.2 x hx).elim (fun h => (h1.2 x h).imp_right (mono h2.1)) .inr⟩

/-- for the member the walk listed itself before it went on -/
theorem Ext.of_cons {x : α} (h : Ext P (x :: s) s1) (hx : P s1 x) : Ext P s s1 :=
  ⟨fun _ hy => h.1 (List.mem_cons_of_mem _ hy), fun y hy => (h.2 y hy).elim
    (fun h => (List.mem_cons.1 h).elim (fun e => .inr (e ▸ hx)) .inl) .inr⟩

theorem Ext.all (h : Ext P [] s) : ∀ x ∈ s, P s x :=
  fun x hx => (h.2 x hx).resolve_left List.not_mem_nil

end Ext

/-! ## ==/2, compare/3: the visited-pair walk -/

/-- under the visited pairs `S` the walk has nothing to descend into at `(x, y)`: the same node, a pair
already listed, or twice the same atom -/
def Good (g : Graph) (S : Seen) (x y : Nat) : Prop :=
  x = y ∨ (x, y) ∈ S ∨ ∃ c, node g x = .atom c ∧ node g y = .atom c

/-- a listed pair is locally consistent: two structures with the same functor whose arguments are
pairwise `Good` -/
def Cons (g : Graph) (S : Seen) (p : Nat × Nat) : Prop :=
  ∃ f as bs, node g p.1 = .str f as ∧ node g p.2 = .str f bs ∧ as.length = bs.length ∧
    ∀ q ∈ as.zip bs, Good g S q.1 q.2

theorem Good.mono {g : Graph} {S T : Seen} (h : S ⊆ T) {x y} : Good g S x y → Good g T x y :=
  Or.imp_right (Or.imp_left fun h1 => h h1)

theorem Cons.mono {g : Graph} {S T : Seen} (h : S ⊆ T) {p} : Cons g S p → Cons g T p := by
  rintro ⟨f, as, bs, h1, h2, h3, h4⟩
  exact ⟨f, as, bs, h1, h2, h3, fun q hq => (h4 q hq).mono h⟩

/-- the answer is an order between the two terms. -/
def IsDiff : Out → Prop
  | .lt => True
  | .gt => True
  | .vars _ _ => True
  | _ => False

theorem IsDiff.ne_fuel {o : Out} (h : IsDiff o) : o ≠ .fuel := by
  rintro rfl
  exact h

theorem IsDiff.ne_same {o : Out} (h : IsDiff o) (s : Seen) : o ≠ .same s := by
  rintro rfl
  exact h

theorem cmpN_succ (g : Graph) (fuel a b : Nat) (seen : Seen) :
    (cmpN g (fuel + 1) a b seen = .same seen ∧ Good g seen a b) ∨
    (IsDiff (cmpN g (fuel + 1) a b seen) ∧ unfold g 1 a ≠ unfold g 1 b) ∨
    ∃ f as bs, node g a = .str f as ∧ node g b = .str f bs ∧ as.length = bs.length ∧ (a, b) ∉ seen ∧
      cmpN g (fuel + 1) a b seen = cmpL (cmpN g fuel) (as.zip bs) ((a, b) :: seen) := by
  rw [cmpN, unfold, unfold]
  by_cases hab : a = b
  · exact .inl ⟨if_pos hab, .inl hab⟩
  rw [if_neg hab]
  unfold Good
  cases node g a with
  | var =>
    cases node g b with
    | var => exact .inr (.inl ⟨trivial, fun e => hab (Tree.var.inj e)⟩)
    | _ => exact .inr (.inl ⟨trivial, nofun⟩)
  | atom c =>
    cases node g b with
    | atom d =>
      dsimp only
      rcases Nat.lt_trichotomy c d with h | rfl | h
      · rw [if_pos h]
        exact .inr (.inl ⟨trivial, fun e => Nat.ne_of_lt h (Tree.atom.inj e)⟩)
      · rw [if_neg (Nat.lt_irrefl c), if_neg (Nat.lt_irrefl c)]
        exact .inl ⟨rfl, .inr (.inr ⟨c, rfl, rfl⟩)⟩
      · rw [if_neg (Nat.lt_asymm h), if_pos h]
        exact .inr (.inl ⟨trivial, fun e => Nat.ne_of_gt h (Tree.atom.inj e)⟩)
    | _ => exact .inr (.inl ⟨trivial, nofun⟩)
  | str f as =>
    cases node g b with
    | str h bs =>
      dsimp only
      by_cases hs : (a, b) ∈ seen
      · rw [if_pos (List.contains_iff_mem.2 hs)]
        exact .inl ⟨rfl, .inr (.inl hs)⟩
      rw [if_neg (fun hc => hs (List.contains_iff_mem.1 hc))]
      have head : as.length ≠ bs.length ∨ f ≠ h →
          Tree.node f (as.map (unfold g 0)) ≠ Tree.node h (bs.map (unfold g 0)) := by
        intro hne e
        obtain ⟨e1, e2⟩ := Tree.node.inj e
        have := congrArg List.length e2
        rw [List.length_map, List.length_map] at this
        exact hne.elim (· this) (· e1)
      rcases Nat.lt_trichotomy as.length bs.length with hl | hl | hl
      · rw [if_pos hl]
        exact .inr (.inl ⟨trivial, head (.inl (Nat.ne_of_lt hl))⟩)
      · rw [if_neg (Nat.not_lt_of_ge (Nat.le_of_eq hl.symm)), if_neg (Nat.not_lt_of_ge (Nat.le_of_eq hl))]
        rcases Nat.lt_trichotomy f h with hf | rfl | hf
        · rw [if_pos hf]
          exact .inr (.inl ⟨trivial, head (.inr (Nat.ne_of_lt hf))⟩)
        · rw [if_neg (Nat.lt_irrefl f), if_neg (Nat.lt_irrefl f)]
          exact .inr (.inr ⟨f, as, bs, rfl, rfl, hl, hs, rfl⟩)
        · rw [if_neg (Nat.lt_asymm hf), if_pos hf]
          exact .inr (.inl ⟨trivial, head (.inr (Nat.ne_of_gt hf))⟩)
      · rw [if_neg (Nat.lt_asymm hl), if_pos hl]
        exact .inr (.inl ⟨trivial, head (.inl (Nat.ne_of_gt hl))⟩)
    | _ => exact .inr (.inl ⟨trivial, nofun⟩)

/-- post-condition of a successful (no difference found) comparison step. -/
def StepOK (g : Graph) (step : Nat → Nat → Seen → Out) : Prop :=
  ∀ a b s s', step a b s = .same s' → Ext (Cons g) s s' ∧ Good g s' a b

theorem cmpL_ok {g : Graph} {step} (hs : StepOK g step) (ps s s') (h : cmpL step ps s = .same s') :
    Ext (Cons g) s s' ∧ ∀ q ∈ ps, Good g s' q.1 q.2 := by
  -- the cases of `cmpL` (and of `uniL`, `dfsL` alike): 1 no pair left; 2 the step on the head pair
  -- answers `.same s1` and the walk goes on from `s1`; 3 it answers anything else, and that is the result
  fun_induction cmpL step ps s with
  | case1 s => exact Out.same.inj h ▸ ⟨.refl, nofun⟩
  | case2 x y ps s s1 h1 ih =>
    obtain ⟨a1, a2⟩ := hs x y s s1 h1
    obtain ⟨b1, b2⟩ := ih h
    exact ⟨a1.trans Cons.mono b1, List.forall_mem_cons.2 ⟨a2.mono b1.1, b2⟩⟩
  | case3 x y ps s h1 => exact (h1 s' h).elim

theorem cmpN_ok (g : Graph) : ∀ fuel, StepOK g (cmpN g fuel) := by
  intro fuel
  induction fuel with
  | zero => intro a b s s' h; cases h
  | succ fuel ih =>
    intro a b s s' h
    rcases cmpN_succ g fuel a b s with ⟨e, hg⟩ | ⟨hd, _⟩ | ⟨f, as, bs, hna, hnb, hl, _, e⟩
    · cases e ▸ h
      exact ⟨.refl, hg⟩
    · exact absurd h (hd.ne_same s')
    · obtain ⟨b1, b2⟩ := cmpL_ok ih _ _ _ (e ▸ h)
      exact ⟨b1.of_cons ⟨f, as, bs, hna, hnb, hl, b2⟩, .inr (.inl (b1.1 List.mem_cons_self))⟩

/-- a set of pairs that is consistent with itself is a bisimulation: related nodes have the same
unfolding at every depth. -/
theorem good_unfold {g : Graph} {S : Seen} (hS : ∀ p ∈ S, Cons g S p) :
    ∀ k x y, Good g S x y → unfold g k x = unfold g k y := by
  intro k
  induction k with
  | zero => intro x y _; rfl
  | succ k ih =>
    intro x y h
    rcases h with rfl | h | ⟨c, h1, h2⟩
    · rfl
    · obtain ⟨f, as, bs, h1, h2, h3, h4⟩ := hS _ h
      rw [unfold, unfold, h1, h2]
      exact congrArg _ ((map_eq_map_iff_zip h3).2 fun q hq => ih _ _ (h4 q hq))
    · rw [unfold, unfold, h1, h2]

theorem cmp_same_sound {g : Graph} {a b s'} (h : cmp g a b = .same s') :
    ∀ k, unfold g k a = unfold g k b := by
  obtain ⟨h1, h2⟩ := cmpN_ok g _ a b [] s' h
  exact fun k => good_unfold h1.all k a b h2

/-! completeness: a reported difference is a difference of the unfoldings -/

def StepDiff (g : Graph) (step : Nat → Nat → Seen → Out) : Prop :=
  ∀ a b s, IsDiff (step a b s) → ∃ k, unfold g k a ≠ unfold g k b

theorem cmpL_diff {g : Graph} {step} (hs : StepDiff g step) (ps s) (h : IsDiff (cmpL step ps s)) :
    ∃ q ∈ ps, ∃ k, unfold g k q.1 ≠ unfold g k q.2 := by
  fun_induction cmpL step ps s with
  | case1 s => exact h.elim
  | case2 x y ps s s1 _ ih =>
    obtain ⟨q, hq, hk⟩ := ih h
    exact ⟨q, List.mem_cons_of_mem _ hq, hk⟩
  | case3 x y ps s _ => exact ⟨(x, y), List.mem_cons_self, hs x y s h⟩

theorem cmpN_diff (g : Graph) : ∀ fuel, StepDiff g (cmpN g fuel) := by
  intro fuel
  induction fuel with
  | zero => intro a b s h; exact h.elim
  | succ fuel ih =>
    intro a b s h
    rcases cmpN_succ g fuel a b s with ⟨e, _⟩ | ⟨_, hd⟩ | ⟨f, as, bs, hna, hnb, hl, _, e⟩
    · rw [e] at h
      exact h.elim
    · exact ⟨1, hd⟩
    · obtain ⟨q, hq, k, hk⟩ := cmpL_diff ih _ _ (e ▸ h)
      refine ⟨k + 1, fun he => hk ?_⟩
      rw [unfold, unfold, hna, hnb] at he
      exact (map_eq_map_iff_zip hl).1 (Tree.node.inj he).2 q hq

theorem cmp_diff {g : Graph} {a b : Nat} {o} (h : cmp g a b = o) (hd : IsDiff o) :
    ∃ k, unfold g k a ≠ unfold g k b :=
  cmpN_diff g _ a b [] (h ▸ hd)

/-! termination: the fuel of `cmp` is never exhausted -/

/-- under `Room` the comparison `step` does not run out of fuel, and the pairs it returns keep `Room` -/
def StepFuel (t : Finset (Nat × Nat)) (F : Nat) (step : Nat → Nat → Seen → Out) : Prop :=
  ∀ a b s, Room t F s → step a b s ≠ .fuel ∧ ∀ s', step a b s = .same s' → Room t F s'

theorem cmpL_fuel {t F step} (hs : StepFuel t F step) (ps s) (hr : Room t F s) :
    cmpL step ps s ≠ .fuel ∧ ∀ s', cmpL step ps s = .same s' → Room t F s' := by
  fun_induction cmpL step ps s with
  | case1 s => exact ⟨nofun, fun s' h => Out.same.inj h ▸ hr⟩
  | case2 x y ps s s1 h1 ih => exact ih ((hs x y s hr).2 s1 h1)
  | case3 x y ps s _ => exact hs x y s hr

theorem cmpN_fuel (g : Graph) : ∀ fuel, StepFuel (pairs g) fuel (cmpN g fuel) := by
  intro fuel
  induction fuel with
  | zero => intro a b s hr; exact absurd rfl hr.fuel_ne_zero
  | succ fuel ih =>
    intro a b s hr
    rcases cmpN_succ g fuel a b s with ⟨e, _⟩ | ⟨hd, _⟩ | ⟨f, as, bs, hna, hnb, _, hs, e⟩
    · rw [e]
      exact ⟨nofun, fun s' h => Out.same.inj h ▸ hr⟩
    · exact ⟨hd.ne_fuel, fun s' h => absurd h (hd.ne_same s')⟩
    · obtain ⟨c1, c2⟩ := cmpL_fuel ih (as.zip bs) _ (hr.cons hs (mem_pairs hna hnb))
      rw [e]
      exact ⟨c1, fun s' h => (c2 s' h).succ⟩

/-! ## the visited-node walk: `reachList`, and `isVar` for term_variables/2 -/

/-- what the walk from `r` has finished with: nodes reachable from `r` whose children are all listed. -/
def Done (g : Graph) (r : Nat) (s : List Nat) (x : Nat) : Prop :=
  Reach g r x ∧ ∀ c, Edge g x c → c ∈ s

theorem Done.mono {g : Graph} {r : Nat} {s s' : List Nat} (h : s ⊆ s') {x} : Done g r s x → Done g r s' x :=
  And.imp_right fun hc c e => h (hc c e)

/-- contract of one walk step on a node reachable from `r`: under `Room` it does not run out of fuel, keeps
`Room`, lists its node, and adds only nodes it has finished with. Fuel is spent on compound nodes only, and
those lie inside the array, so no well-formedness is asked of `g`: a child outside the array is one more
variable leaf. -/
def DfsSpec (g : Graph) (r F : Nat) (step : Nat → List Nat → Option (List Nat)) : Prop :=
  ∀ i s, Reach g r i → Room (Finset.range g.size) F s →
    ∃ s', step i s = some s' ∧ Room (Finset.range g.size) F s' ∧ Ext (Done g r) s s' ∧ i ∈ s'

theorem dfsL_spec {g : Graph} {r F step} (hs : DfsSpec g r F step) (cs s) (hc : ∀ c ∈ cs, Reach g r c)
    (hr : Room (Finset.range g.size) F s) :
    ∃ s', dfsL step cs s = some s' ∧ Room (Finset.range g.size) F s' ∧ Ext (Done g r) s s' ∧ ∀ c ∈ cs, c ∈ s' := by
  fun_induction dfsL step cs s with
  | case1 s => exact ⟨s, rfl, hr, .refl, nofun⟩
  | case2 c cs s s1 h1 ih =>
    obtain ⟨hc, hcs⟩ := List.forall_mem_cons.1 hc
    obtain ⟨s2, e, a1, a2, a3⟩ := hs c s hc hr
    cases h1.symm.trans e
    obtain ⟨s', e', b1, b2, b3⟩ := ih hcs a1
    exact ⟨s', e', b1, a2.trans Done.mono b2, List.forall_mem_cons.2 ⟨b2.1 a3, b3⟩⟩
  | case3 c cs s h1 =>
    obtain ⟨s2, e, _⟩ := hs c s (hc c List.mem_cons_self) hr
    cases h1.symm.trans e

theorem dfs_spec (g : Graph) (r : Nat) : ∀ fuel, DfsSpec g r fuel (dfs g fuel) := by
  intro fuel
  induction fuel with
  | zero => intro i s _ hr; exact absurd rfl hr.fuel_ne_zero
  | succ fuel ih =>
    intro i s hi hr
    rw [dfs]
    split
    · next hc => exact ⟨s, rfl, hr, .refl, List.contains_iff_mem.1 hc⟩
    · next hc =>
      have hc : i ∉ s := fun h => hc (List.contains_iff_mem.2 h)
      cases hn : node g i with
      | str f as =>
        obtain ⟨s', e, b1, b2, b3⟩ := dfsL_spec ih as (i :: s) (fun c hc => hi.tail ⟨f, as, hn, hc⟩)
          (hr.cons hc (Finset.mem_range.2 (node_str_lt hn)))
        refine ⟨s', e, b1.succ, b2.of_cons ⟨hi, ?_⟩, b2.1 List.mem_cons_self⟩
        rintro c ⟨f', as', h1, hc⟩
        cases hn.symm.trans h1
        exact b3 c hc
      | _ =>
        refine ⟨i :: s, rfl, hr.cons_free hc, Ext.of_cons .refl ⟨hi, ?_⟩, List.mem_cons_self⟩
        rintro c ⟨f, as, h1, _⟩
        cases hn.symm.trans h1

theorem dfs_top (g : Graph) (r : Nat) :
    ∃ s', dfs g (g.size + 1) r [] = some s' ∧ s'.Nodup ∧ ∀ x, x ∈ s' ↔ Reach g r x := by
  obtain ⟨s', h1, h2, a1, a2⟩ := dfs_spec g r (g.size + 1) r [] .refl (.nil (by simp))
  refine ⟨s', h1, h2.1, fun x => ⟨fun hx => (a1.all x hx).1, fun hx => ?_⟩⟩
  induction hx with
  | refl => exact a2
  | tail _ e ih => exact (a1.all _ ih).2 _ e

theorem reachList_spec (g : Graph) (r : Nat) :
    (reachList g r).Nodup ∧ ∀ x, x ∈ reachList g r ↔ Reach g r x := by
  obtain ⟨s, h1, h2, h3⟩ := dfs_top g r
  rw [reachList, h1]
  exact ⟨List.nodup_reverse.2 h2, fun x => List.mem_reverse.trans (h3 x)⟩

theorem isVar_iff (g : Graph) (i : Nat) : isVar g i = true ↔ node g i = .var := by
  unfold isVar
  cases node g i <;> simp

/-! ## copy_term -/

/-- unfolding with the variable leaves renamed by `ρ`. -/
def unfoldR (ρ : Nat → Nat) (g : Graph) : Nat → Nat → Tree
  | 0, _ => .cut
  | k+1, i =>
    match node g i with
    | .var => .var (ρ i)
    | .atom c => .atom c
    | .str f as => .node f (as.map (unfoldR ρ g k))

theorem getElem?_indexOf {l : List Nat} {x : Nat} (h : x ∈ l) : l[indexOf l x]? = some x := by
  induction l with
  | nil => cases h
  | cons y ys ih =>
    rw [indexOf]
    by_cases he : y = x
    · rw [if_pos he, he]
      rfl
    · rw [if_neg he]
      exact ih ((List.mem_cons.1 h).resolve_left fun e => he e.symm)

theorem indexOf_lt {l : List Nat} {x : Nat} (h : x ∈ l) : indexOf l x < l.length :=
  (List.getElem?_eq_some_iff.1 (getElem?_indexOf h)).1

theorem indexOf_inj {l : List Nat} {x y : Nat} (hx : x ∈ l) (hy : y ∈ l)
    (h : indexOf l x = indexOf l y) : x = y :=
  Option.some.inj ((getElem?_indexOf hx).symm.trans (h ▸ getElem?_indexOf hy))

theorem node_append_left (g : Graph) (arr : Array Node) {i : Nat} (h : i < g.size) :
    node (g ++ arr) i = node g i := by
  rw [node, node, Array.getD_eq_getD_getElem?, Array.getD_eq_getD_getElem?, Array.getElem?_append_left h]

theorem node_append_right (g : Graph) (l : List Node) (j : Nat) :
    node (g ++ l.toArray) (g.size + j) = l[j]?.getD .var := by
  rw [node, Array.getD_eq_getD_getElem?, Array.getElem?_append_right (Nat.le_add_right _ _),
    Nat.add_sub_cancel_left, List.getElem?_toArray]

theorem node_copy (g : Graph) (r : Nat) {x : Nat} (hx : x ∈ reachList g r) :
    node (copy g r).1 (fwd g.size (reachList g r) x) = mapNode (fwd g.size (reachList g r)) (node g x) :=
  (node_append_right g _ _).trans (by rw [List.getElem?_map, getElem?_indexOf hx]; rfl)

/-! ## unification: the fuel of `unify` is never exhausted, by the argument of `cmpN_fuel` -/

/-- One step of the unifier, as far as the tabu list is concerned (`a'`, `b'`: the dereferenced nodes). -/
theorem uniN_succ (g : Graph) (fuel a b : Nat) (bnd : Bnd) (seen : Seen) :
    (∃ bnd', uniN g (fuel + 1) a b bnd seen = .ok bnd' seen) ∨
    uniN g (fuel + 1) a b bnd seen = .fail ∨
    ∃ a' b' f as bs, node g a' = .str f as ∧ node g b' = .str f bs ∧ (a', b') ∉ seen ∧
      uniN g (fuel + 1) a b bnd seen = uniL (uniN g fuel) (as.zip bs) bnd ((a', b') :: seen) := by
  rw [uniN]
  generalize deref g bnd (g.size + 1) a = a'
  generalize deref g bnd (g.size + 1) b = b'
  by_cases hab : a' = b'
  · exact .inl ⟨_, if_pos hab⟩
  rw [if_neg hab]
  cases hna : node g a' with
  | var => exact .inl ⟨_, rfl⟩
  | atom c =>
    cases hnb : node g b' with
    | var => exact .inl ⟨_, rfl⟩
    | atom d =>
      dsimp only
      by_cases hcd : c = d
      · exact .inl ⟨_, if_pos hcd⟩
      · exact .inr (.inl (if_neg hcd))
    | str h bs => exact .inr (.inl rfl)
  | str f as =>
    cases hnb : node g b' with
    | var => exact .inl ⟨_, rfl⟩
    | atom d => exact .inr (.inl rfl)
    | str h bs =>
      dsimp only
      by_cases hs : (a', b') ∈ seen
      · exact .inl ⟨_, if_pos (List.contains_iff_mem.2 hs)⟩
      rw [if_neg (fun hc => hs (List.contains_iff_mem.1 hc))]
      by_cases hf : f = h ∧ as.length = bs.length
      · rw [if_pos hf]
        obtain ⟨rfl, _⟩ := hf
        exact .inr (.inr ⟨a', b', f, as, bs, hna, hnb, hs, rfl⟩)
      · exact .inr (.inl (if_neg hf))

/-- `StepFuel` for a unification step, which also threads the bindings -/
def UStepFuel (t : Finset (Nat × Nat)) (F : Nat) (step : Nat → Nat → Bnd → Seen → UOut) : Prop :=
  ∀ a b bnd s, Room t F s →
    step a b bnd s ≠ .fuel ∧ ∀ bnd' s', step a b bnd s = .ok bnd' s' → Room t F s'

theorem uniL_fuel {t F step} (hs : UStepFuel t F step) (ps bnd s) (hr : Room t F s) :
      uniL step ps bnd s ≠ .fuel ∧ ∀ bnd' s', uniL step ps bnd s = .ok bnd' s' → Room t F s' := by
  fun_induction uniL step ps bnd s with
  | case1 bnd s => exact ⟨nofun, fun _ s' h => (UOut.ok.inj h).2 ▸ hr⟩
  | case2 x y ps bnd s b1 s1 h1 ih => exact ih ((hs x y bnd s hr).2 b1 s1 h1)
  | case3 x y ps bnd s _ => exact hs x y bnd s hr

theorem uniN_fuel (g : Graph) : ∀ fuel, UStepFuel (pairs g) fuel (uniN g fuel) := by
  intro fuel
  induction fuel with
  | zero => intro a b bnd s hr; exact absurd rfl hr.fuel_ne_zero
  | succ fuel ih =>
    intro a b bnd s hr
    rcases uniN_succ g fuel a b bnd s with ⟨bnd', e⟩ | e | ⟨a', b', f, as, bs, hna, hnb, hs, e⟩
    · rw [e]
      exact ⟨nofun, fun _ s' h => (UOut.ok.inj h).2 ▸ hr⟩
    · rw [e]
      exact ⟨nofun, nofun⟩
    · obtain ⟨c1, c2⟩ := uniL_fuel ih (as.zip bs) bnd _ (hr.cons hs (mem_pairs hna hnb))
      rw [e]
      exact ⟨c1, fun bnd' s' h => (c2 bnd' s' h).succ⟩

end Scryer.Graph
