import ScryerModel.Model.ArithEval
/-!
Lemmas for C03: the stack walk of the run-time evaluator is the structural recursion `evalRec`; the
compiled evaluator (with the same table) yields the same value or no value either (`runCode_spec` for
the instructions, `evalCompiled_spec` with the compile-time test in front), and the same errors on
expressions without clause variables (`runCode_closed`).
-/
namespace Scryer.ArithEval
variable {V : Type}

/-- look the functor up, call its row, go on with the value: the same in both evaluators. -/
theorem find_apply_bind {β : Type} (tb : Table) (sem : Sem V) (f : String) (n : Nat) (vs : List V)
    (K : V → Except Err β) :
    (match tb.find f n with
      | none => .error (.evaluable f n)
      | some row =>
        match applyRow sem row vs with
        | .error e => .error e
        | .ok v => K v : Except Err β) =
    match (match tb.find f n with
      | none => (.error (.evaluable f n) : Except Err V)
      | some row => applyRow sem row vs) with
    | .ok v => K v
    | .error e => .error e := by
  cases tb.find f n with
  | none => rfl
  | some row => cases h : applyRow sem row vs <;> simp only [h]

theorem runStack_tokens (mt : Table) (sem : Sem V) (t : Term V) :
    ∀ (r : List (Tok V)) (st : List V),
      runStack mt sem (tokens t ++ r) st =
        match evalRec mt sem t with
        | .ok v => runStack mt sem r (v :: st)
        | .error e => .error e := by
  induction t with
  | num v => intro r st; simp [tokens, evalRec, runStack]
  | unbound => intro r st; simp [tokens, evalRec, runStack]
  | atom f =>
      intro r st
      simp only [tokens, evalRec, List.cons_append, List.nil_append, runStack]
      exact find_apply_bind mt sem f 0 [] _
  | app1 f a iha =>
      intro r st
      simp only [tokens, evalRec, List.append_assoc, iha]
      cases evalRec mt sem a with
      | error e => rfl
      | ok va =>
        simp only [List.cons_append, List.nil_append, runStack]
        exact find_apply_bind mt sem f 1 [va] _
  | app2 f a b iha ihb =>
      intro r st
      simp only [tokens, evalRec, List.append_assoc, iha]
      cases evalRec mt sem a with
      | error e => rfl
      | ok va =>
        simp only [ihb]
        cases evalRec mt sem b with
        | error e => rfl
        | ok vb =>
          simp only [List.cons_append, List.nil_append, runStack]
          exact find_apply_bind mt sem f 2 [va, vb] _
  | bound t ih => intro r st; simp only [tokens, evalRec, ih]

theorem evalMeta_eq_rec (mt : Table) (sem : Sem V) (t : Term V) :
    evalMeta mt sem t = evalRec mt sem t := by
  have h := runStack_tokens mt sem t [] []
  simp only [List.append_nil] at h
  unfold evalMeta
  rw [h]
  cases evalRec mt sem t <;> rfl

@[simp] theorem getNumber_val (mt : Table) (sem : Sem V) (v : V) : getNumber mt sem (.val v) = .ok v := rfl

theorem getNumber_reg (mt : Table) (sem : Sem V) (t : Term V) :
    getNumber mt sem (.reg t) = evalRec mt sem t := by
  cases t <;> simp [getNumber, evalMeta_eq_rec, evalRec]

theorem error_ne_ok (e : Err) (v : V) : (Except.error e : Except Err V) ≠ .ok v := nofun

/-- not always the same error: the instruction looks its functor up before it fetches, the recursion
    after. Code that runs to its end has met no unknown functor, so the compile-time test is implied. -/
theorem runCode_spec (tb : Table) (sem : Sem V) (t : Term V) :
    match runCode tb tb sem t with
    | .ok o => getNumber tb sem o = evalRec tb sem t ∧ firstUnknown tb t = none
    | .error _ => ∀ v, evalRec tb sem t ≠ .ok v := by
  induction t with
  | num v => exact ⟨rfl, rfl⟩
  | unbound => exact ⟨getNumber_reg tb sem .unbound, rfl⟩
  | bound t _ => exact ⟨getNumber_reg tb sem t, rfl⟩
  | atom f =>
      simp only [runCode, evalRec, firstUnknown]
      cases tb.find f 0 with
      | none => exact error_ne_ok _
      | some row =>
        dsimp only
        cases applyRow sem row [] with
        | error e => exact error_ne_ok _
        | ok v => exact ⟨rfl, rfl⟩
  | app1 f a iha =>
      simp only [runCode, evalRec, firstUnknown]
      cases ha : runCode tb tb sem a with
      | error e =>
          rw [ha] at iha
          cases hr : evalRec tb sem a with
          | error e' => exact error_ne_ok _
          | ok va => exact absurd hr (iha va)
      | ok oa =>
          rw [ha] at iha
          simp only at iha ⊢
          rw [← iha.1, iha.2]
          cases tb.find f 1 with
          | none => cases getNumber tb sem oa <;> exact error_ne_ok _
          | some row =>
            dsimp only
            cases getNumber tb sem oa with
            | error e => exact error_ne_ok _
            | ok va =>
              dsimp only
              cases applyRow sem row [va] with
              | error e => exact error_ne_ok _
              | ok v => exact ⟨rfl, rfl⟩
  | app2 f a b iha ihb =>
      simp only [runCode, evalRec, firstUnknown]
      cases ha : runCode tb tb sem a with
      | error e =>
          rw [ha] at iha
          cases hr : evalRec tb sem a with
          | error e' => exact error_ne_ok _
          | ok va => exact absurd hr (iha va)
      | ok oa =>
          rw [ha] at iha
          simp only at iha ⊢
          rw [← iha.1, iha.2]
          cases hb : runCode tb tb sem b with
          | error e =>
              rw [hb] at ihb
              cases getNumber tb sem oa with
              | error e' => exact error_ne_ok _
              | ok va =>
                dsimp only
                cases hr : evalRec tb sem b with
                | error e' => exact error_ne_ok _
                | ok vb => exact absurd hr (ihb vb)
          | ok ob =>
              rw [hb] at ihb
              simp only at ihb ⊢
              rw [← ihb.1, ihb.2]
              cases tb.find f 2 with
              | none => cases getNumber tb sem oa <;> cases getNumber tb sem ob <;> exact error_ne_ok _
              | some row =>
                dsimp only
                cases getNumber tb sem oa with
                | error e => exact error_ne_ok _
                | ok va =>
                  dsimp only
                  cases getNumber tb sem ob with
                  | error e => exact error_ne_ok _
                  | ok vb =>
                    dsimp only
                    cases applyRow sem row [va, vb] with
                    | error e => exact error_ne_ok _
                    | ok v => exact ⟨rfl, rfl⟩

/-- `X is E` through the compiled evaluator, against the recursion: the same value, or no value on
    either side. -/
theorem evalCompiled_spec (tb : Table) (sem : Sem V) (t : Term V) (v : V) :
    evalCompiled tb tb sem t = .ok v ↔ evalRec tb sem t = .ok v := by
  have h := runCode_spec tb sem t
  unfold evalCompiled
  cases hr : runCode tb tb sem t with
  | ok o => rw [hr] at h; rw [h.2, ← h.1]
  | error e =>
    rw [hr] at h
    cases firstUnknown tb t <;> exact ⟨nofun, fun hv => absurd hv (h v)⟩

/-- on an expression without clause variables every operand is already a number, and the code
    performs exactly the steps of the recursion, in the same order. -/
theorem runCode_closed (tb : Table) (sem : Sem V) (t : Term V) (hc : closed t = true) :
    runCode tb tb sem t = (match evalRec tb sem t with | .ok v => .ok (.val v) | .error e => .error e) := by
  induction t with
  | num v => simp [runCode, evalRec]
  | unbound => simp [closed] at hc
  | bound t _ => simp [closed] at hc
  | atom f =>
      simp only [runCode, evalRec]
      exact find_apply_bind tb sem f 0 [] _
  | app1 f a iha =>
      simp only [closed] at hc
      simp only [runCode, evalRec, iha hc]
      cases evalRec tb sem a with
      | error e => rfl
      | ok va =>
        simp only [getNumber]
        exact find_apply_bind tb sem f 1 [va] _
  | app2 f a b iha ihb =>
      simp only [closed, Bool.and_eq_true] at hc
      simp only [runCode, evalRec, iha hc.1, ihb hc.2]
      cases evalRec tb sem a with
      | error e => rfl
      | ok va =>
        cases evalRec tb sem b with
        | error e => rfl
        | ok vb =>
          simp only [getNumber]
          exact find_apply_bind tb sem f 2 [va, vb] _

end Scryer.ArithEval
