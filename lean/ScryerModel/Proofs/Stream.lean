import ScryerModel.Proofs.Utf8
import ScryerModel.Model.Stream
/-! Lemmas for C19 (`Model/Stream.lean`). `textOp`, `byteOp` and `readOp` are one guard
(`check_stream_properties` with its `eof_action` step) around a core; what holds of the guard is
proved once (`guard_*`). Positions and line counts rest on `good_advance`: every consuming
builtin moves the cursor over a prefix of the unread bytes and adds that prefix's newlines. -/
namespace Scryer.Stream
open Scryer.Utf8

variable {e : Ty} {core core' : St → St × Res} {s : St} {content : List Nat} {cp n : Nat}

/-- what `textOp`, `byteOp` and `readOp` share: the permission checks, then, past the end, the
    `eof_action` step, around the builtin's own work `core`. -/
def guard (expected : Ty) (core : St → St × Res) (s : St) : St × Res :=
  match check s expected true with
  | some e => (s, .error e)
  | none =>
    if s.past then
      match s.eofAction with
      | .error => (s, .error .inputPastEnd)
      | .eofCode => (s, .ok .eof)
      | .reset => core (resetSt s)
    else core s

theorem textOp_eq_guard (c : Bool) : textOp c = guard .text (textCore c) := rfl
theorem byteOp_eq_guard (c : Bool) : byteOp c = guard .binary (byteCore c) := rfl

theorem guard_cases {motive : St × Res → Prop} (err : ∀ x, motive (s, .error x))
    (eof : motive (s, .ok .eof))
    (reset : check s e true = none → s.past = true → s.eofAction = .reset →
      motive (core (resetSt s)))
    (live : check s e true = none → s.past = false → motive (core s)) :
    motive (guard e core s) := by
  unfold guard
  split
  · exact err _
  · rename_i hc
    split
    · rename_i hp
      split
      · exact err _
      · exact eof
      · rename_i hr
        exact reset hc hp hr
    · rename_i hp
      exact live hc (Bool.eq_false_iff.2 hp)

theorem guard_of_none (hc : check s e true = none) (hp : s.past = false) :
    guard e core s = core s := by
  unfold guard; rw [hc, hp]; rfl

theorem guard_past (hc : check s e true = none) (hp : s.past = true) :
    (s.eofAction = .error → guard e core s = (s, .error .inputPastEnd)) ∧
    (s.eofAction = .eofCode → guard e core s = (s, .ok .eof)) ∧
    (s.eofAction = .reset → guard e core s = core (resetSt s)) := by
  unfold guard; rw [hc, hp]
  exact ⟨fun h => by rw [h]; rfl, fun h => by rw [h]; rfl, fun h => by rw [h]; rfl⟩

theorem guard_snd_congr (h : ∀ t, (core t).2 = (core' t).2) :
    (guard e core s).2 = (guard e core' s).2 := by
  unfold guard
  -- the arms of `guard`: a check fails; past the end `error`, `eof_code`, `reset`; not past the end
  split
  · rfl
  · split
    · split
      · rfl
      · rfl
      · exact h _
    · exact h _

theorem guard_inv {P : St → Prop} (hreset : P (resetSt s)) (hcore : ∀ t, P t → P (core t).1)
    (h : P s) : P (guard e core s).1 :=
  guard_cases (motive := fun r => P r.1) (fun _ => h) h (fun _ _ _ => hcore _ hreset)
    (fun _ _ => hcore _ h)

theorem guard_past_stuck (hp : s.past = true) (hr : s.eofAction ≠ .reset) :
    (guard e core s).1 = s ∧ ∀ c, (guard e core s).2 ≠ .ok (.char c) :=
  guard_cases (motive := fun r => r.1 = s ∧ ∀ c, r.2 ≠ .ok (.char c)) (fun _ => ⟨rfl, nofun⟩)
    ⟨rfl, nofun⟩ (fun _ _ h => absurd h hr) (fun _ h => by rw [hp] at h; cases h)

theorem guard_peek_cases (hcore : ∀ t, (core t).1 = t) :
    (guard e core s).1 = s ∨ (s.past = true ∧ s.eofAction = .reset ∧ check s e true = none ∧
      (guard e core s).1 = resetSt s) :=
  guard_cases (motive := fun r => r.1 = s ∨ (_ ∧ _ ∧ _ ∧ r.1 = resetSt s)) (fun _ => .inl rfl)
    (.inl rfl) (fun hc hp hr => .inr ⟨hp, hr, hc, hcore _⟩) (fun _ _ => .inl (hcore _))

theorem guard_peek_state (hcore : ∀ t, (core t).1 = t) (h : s.past = false ∨ s.eofAction ≠ .reset) :
    (guard e core s).1 = s := by
  rcases guard_peek_cases (e := e) (s := s) hcore with h1 | ⟨hp, hr, _, _⟩
  · exact h1
  · rcases h with h | h
    · rw [hp] at h; cases h
    · exact absurd hr h

theorem guard_peek_then (hcore : ∀ t, (core' t).1 = t) :
    guard e core (guard e core' s).1 = guard e core s := by
  rcases guard_peek_cases (e := e) (s := s) hcore with h1 | ⟨hp, hr, hc, h2⟩
  · rw [h1]
  · rw [h2, (guard_past hc hp).2.2 hr, guard_of_none (s := resetSt s) hc rfl]

/-! ### the cores and the permission check -/

theorem textCore_result_eq (s : St) : (textCore true s).2 = (textCore false s).2 := by
  unfold textCore
  split
  · rfl
  · split <;> rfl

theorem textCore_peek_state (s : St) : (textCore false s).1 = s := by
  fun_cases textCore false s <;> rfl

theorem byteCore_result_eq (s : St) : (byteCore true s).2 = (byteCore false s).2 := by
  unfold byteCore; split <;> rfl

theorem byteCore_peek_state (s : St) : (byteCore false s).1 = s := by
  unfold byteCore; split <;> rfl

theorem byteOp_text (c : Bool) (ht : s.ty = .text) : (byteOp c s).1 = s := by
  unfold byteOp check
  simp only [if_true]
  cases ho : s.output
  · simp [ht]
  · simp

theorem putOp_input (t : Ty) (bs : List Nat) (ho : s.output = false) : (putOp t bs s).1 = s := by
  unfold putOp check
  simp [ho]

theorem putOp_output (t : Ty) (bs : List Nat) (ho : s.output = true) (ht : s.ty = t) :
    putOp t bs s = ({ s with content := s.content ++ bs }, .ok .unit) := by
  unfold putOp check
  simp [ho, ht]

theorem rest_length (s : St) : (rest s).length = s.content.length - s.cur := List.length_drop

theorem rest_advance (s : St) (n : Nat) (l : Nat) :
    rest { s with cur := s.cur + n, lines := l } = (rest s).drop n := by
  unfold rest
  simp [List.drop_drop, Nat.add_comm]

theorem check_eq_none {i : Bool} : check s e i = none ↔ s.output = !i ∧ s.ty = e := by
  unfold check
  cases i <;> cases s.output <;> simp

theorem check_text_none (h : check s .text true = none) : s.output = false ∧ s.ty = .text :=
  check_eq_none.1 h

theorem check_text_of {s : St} (ho : s.output = false) (ht : s.ty = .text) : check s .text true = none :=
  check_eq_none.2 ⟨ho, ht⟩

theorem check_binary_of {s : St} (ho : s.output = false) (ht : s.ty = .binary) : check s .binary true = none :=
  check_eq_none.2 ⟨ho, ht⟩

theorem textCore_end (c : Bool) (he : s.cur = s.content.length) :
    textCore c s = (if c then { s with past := true } else s, .ok .eof) := by
  unfold textCore; exact if_pos he

theorem textCore_char (c : Bool) (hd : decodeFirst (rest s) = .ok cp n) :
    textCore c s =
      (if c then { s with cur := s.cur + n, lines := s.lines + nlCount cp } else s, .ok (.char cp)) := by
  have hne : s.cur ≠ s.content.length := fun he => by
    rw [rest, he, List.drop_length] at hd; cases hd
  unfold textCore; rw [if_neg hne, hd]

theorem textCore_bad (c : Bool) (hne : s.cur ≠ s.content.length)
    (hd : ∀ cp n, decodeFirst (rest s) ≠ .ok cp n) : textCore c s = (s, .error .badEncoding) := by
  unfold textCore; rw [if_neg hne]
  split
  · exact absurd ‹_› (hd _ _)
  · rfl

/-! ### newlines in the bytes a builtin consumes -/

theorem countNl_append (a b : List Nat) : countNl (a ++ b) = countNl a + countNl b := by
  induction a with
  | nil => simp [countNl]
  | cons x r ih => simp [countNl, ih, Nat.add_assoc]

theorem countNl_eq_zero {l : List Nat} (h : ∀ b ∈ l, b ≠ 10) : countNl l = 0 := by
  induction l with
  | nil => rfl
  | cons x r ih =>
    rw [countNl, ih fun b hb => h b (List.mem_cons_of_mem _ hb), nlCount,
      if_neg (h x List.mem_cons_self)]

theorem countNl_encode (cp : Nat) : countNl (encode cp) = nlCount cp := by
  by_cases h : cp < 0x80
  · rw [encode_one h]; rfl
  · rw [countNl_eq_zero fun b hb => by have := encode_high (by omega) b hb; omega, nlCount,
      if_neg (by omega)]

/-- core's split `takeWhile ++ dropWhile`, with the rest cut off by length as `readCore` does. -/
theorem takeWhile_append_drop (p : Nat → Bool) (l : List Nat) :
    l.takeWhile p ++ l.drop (l.takeWhile p).length = l := by
  have h := List.takeWhile_append_dropWhile (p := p) (l := l)
  rw [← congrArg (List.drop (l.takeWhile p).length) h, List.drop_left, h]

theorem takeChars_spec (n : Nat) (l : List Nat) :
    (takeChars n l).2 ≤ l.length ∧ countNl (l.take (takeChars n l).2) = countNl (takeChars n l).1 := by
  fun_induction takeChars n l with
  | case1 l => exact ⟨Nat.zero_le _, rfl⟩
  | case2 n l cp k hd r ih =>
    have hok := decodeFirst_ok hd
    refine ⟨?_, ?_⟩
    · have := ih.1
      rw [List.length_drop] at this
      show k + (takeChars n (l.drop k)).2 ≤ _; omega
    · show countNl (l.take (k + (takeChars n (l.drop k)).2)) = nlCount cp + countNl _
      rw [List.take_add, countNl_append, ih.2, decodeFirst_ok_take hd, countNl_encode]
  | case3 n l h => exact ⟨Nat.zero_le _, rfl⟩

/-! ### `Good` is kept by every builtin but `set_stream_position` -/

/-- the strong invariant of input text streams that are never repositioned. -/
def Good (s : St) : Prop := s.cur ≤ s.content.length ∧ LinesInv s

theorem good_reset (s : St) : Good (resetSt s) := ⟨Nat.zero_le _, rfl⟩

theorem good_openIn (content : List Nat) (ty : Ty) (eof : EofAction) (r : Bool) :
    Good (openIn content ty eof r) := ⟨Nat.zero_le _, rfl⟩

/-- `Good`, for a text input stream over `content`: what every builtin other than
    `set_stream_position` keeps. -/
def GoodIn (content : List Nat) (s : St) : Prop :=
  Good s ∧ s.content = content ∧ s.output = false ∧ s.ty = .text

theorem good_advance (h : GoodIn content s) {pre suf : List Nat} (hr : rest s = pre ++ suf) {n l : Nat}
    (hn : n = pre.length) (hl : l = countNl pre) :
    GoodIn content { s with cur := s.cur + n, lines := s.lines + l } := by
  subst hn hl
  have hlen := rest_length s
  rw [hr, List.length_append] at hlen
  refine ⟨⟨?_, ?_⟩, h.2⟩
  · show s.cur + pre.length ≤ s.content.length
    have := h.1.1; omega
  · show s.lines + countNl pre = countNl (s.content.take (s.cur + pre.length))
    rw [List.take_add, countNl_append, ← h.1.2, show s.content.drop s.cur = _ from hr, List.take_left' rfl]

theorem good_textCore (c : Bool) (t : St) (h : GoodIn content t) :
    GoodIn content (textCore c t).1 := by
  -- at the end of the content (only `past` may change); a character decoded; invalid bytes ahead
  fun_cases textCore c t
  · cases c <;> exact h
  · rename_i _ cp n hd
    cases c
    · exact h
    · exact good_advance h (pre := encode cp) (suf := (rest t).drop n)
        (by rw [← decodeFirst_ok_take hd, List.take_append_drop])
        (by rw [encode_length]; exact (decodeFirst_ok hd).1) (countNl_encode cp).symm
  · exact h

theorem getNChars_text (n : Nat) (ho : s.output = false) (ht : s.ty = .text) :
    getNChars n s = ({ s with cur := s.cur + (takeChars n (rest s)).2,
                              lines := s.lines + countNl (takeChars n (rest s)).1 },
                     .ok (.chars (takeChars n (rest s)).1)) := by
  unfold getNChars
  rw [ho, ht]
  rfl

theorem good_getNChars (n : Nat) (h : GoodIn content s) : GoodIn content (getNChars n s).1 := by
  rw [getNChars_text n h.2.2.1 h.2.2.2]
  have sp := takeChars_spec n (rest s)
  exact good_advance h (List.take_append_drop _ _).symm
    (by rw [List.length_take, Nat.min_eq_left sp.1]) sp.2.symm

theorem good_readCore (t : St) (h : GoodIn content t) : GoodIn content (readCore t).1 := by
  unfold readCore
  dsimp only
  have e1 := takeWhile_append_drop isLayout (rest t)
  have e2 := takeWhile_append_drop (fun b => b != 46)
    ((rest t).drop ((rest t).takeWhile isLayout).length)
  generalize (rest t).takeWhile isLayout = lay at e1 e2 ⊢
  generalize (rest t).drop lay.length = r1 at e1 e2 ⊢
  generalize r1.takeWhile (fun b => b != 46) = txt at e2 ⊢
  split
  -- only layout is left: none at all (end of file, nothing consumed), or all of it is consumed
  · split
    · exact h
    · exact good_advance h e1.symm rfl rfl
  · rw [← e2] at e1
    -- an end token `.` follows the text, or the input ends without one
    split
    · rename_i after hd
      rw [hd] at e1
      -- the newline directly after the end token, if there is one, is consumed with it
      obtain ⟨p, q, rfl, hp⟩ : ∃ p q, after = p ++ q ∧
          p.length = (if after.head? = some 10 then 1 else 0) ∧
          countNl p = (if after.head? = some 10 then 1 else 0) := by
        cases after with
        | nil => exact ⟨[], [], rfl, rfl, rfl⟩
        | cons x a =>
          by_cases hx : x = 10
          · subst hx; exact ⟨[10], a, rfl, rfl, rfl⟩
          · exact ⟨[], x :: a, rfl, by simp [hx], by simp [hx, countNl]⟩
      refine good_advance h (pre := lay ++ (txt ++ 46 :: p)) (suf := q) ?_ ?_ ?_
      · rw [← e1]; simp
      · rw [List.length_append, List.length_append, List.length_cons, hp.1]; omega
      · rw [countNl_append, countNl_append, countNl, hp.2, show nlCount 46 = 0 from rfl]; omega
    · exact good_advance h (pre := lay ++ txt) (by rw [← e1, List.append_assoc])
        List.length_append.symm (countNl_append _ _).symm

def noReposition : Op → Bool
  | .setPosition _ => false
  | _ => true

theorem good_step (h : GoodIn content s) (op : Op) (hop : noReposition op = true) :
    GoodIn content (step s op).1 := by
  have hreset : GoodIn content (resetSt s) := ⟨good_reset s, h.2⟩
  cases op with
  -- `textOp c` and `readOp` are `guard .text _` by `rfl`
  | getChar | getCode => exact guard_inv (e := .text) (core := textCore true) hreset (good_textCore true) h
  | peekChar | peekCode => exact guard_inv (e := .text) (core := textCore false) hreset (good_textCore false) h
  | getByte => rw [show (step s .getByte).1 = s from byteOp_text true h.2.2.2]; exact h
  | peekByte => rw [show (step s .peekByte).1 = s from byteOp_text false h.2.2.2]; exact h
  | getNChars n => exact good_getNChars n h
  | atEnd | endOfStream | position => exact h
  | setPosition p => cases hop
  | readTerm => exact guard_inv (e := .text) (core := readCore) hreset good_readCore h
  | putChar _ | putByte _ | putChars _ =>
    show GoodIn content (putOp _ _ s).1
    rw [putOp_input _ _ h.2.2.1]; exact h

theorem good_run : ∀ (ops : List Op) (s : St), GoodIn content s →
    (∀ op ∈ ops, noReposition op = true) → GoodIn content (run s ops).2
  | [], _, h, _ => h
  | op :: ops, _, h, hops =>
    good_run ops _ (good_step h op (hops op List.mem_cons_self))
      fun o ho => hops o (List.mem_cons_of_mem _ ho)

/-! ### what a script of output builtins wrote, read back -/

theorem encodeAll_append (a b : List Nat) : encodeAll (a ++ b) = encodeAll a ++ encodeAll b := by
  induction a with
  | nil => rfl
  | cons x r ih => simp [encodeAll, ih, List.append_assoc]

theorem encodeAll_eq (cps : List Nat) : encodeAll cps = cps.flatMap encode := by
  induction cps with
  | nil => rfl
  | cons c r ih => rw [encodeAll, ih]; rfl

theorem takeChars_encodeAll : ∀ (k : Nat) (cps : List Nat), (∀ c ∈ cps, isScalar c = true) →
    takeChars k (encodeAll cps) = (cps.take k, (encodeAll (cps.take k)).length)
  | 0, cps, _ => by simp [takeChars, encodeAll]
  | k+1, [], _ => by simp [takeChars, encodeAll, decodeFirst]
  | k+1, c :: r, hs => by
    have hc : isScalar c = true := hs c List.mem_cons_self
    have ih := takeChars_encodeAll k r (fun x hx => hs x (List.mem_cons_of_mem _ hx))
    unfold takeChars
    rw [show decodeFirst (encodeAll (c :: r)) = .ok c (lenUtf8 c) from decodeFirst_encode hc _]
    simp only
    rw [show (encodeAll (c :: r)).drop (lenUtf8 c) = encodeAll r from drop_encode_append c _, ih]
    simp [encodeAll, encode_length]

theorem length_le_encodeAll : ∀ cps : List Nat, cps.length ≤ (encodeAll cps).length
  | [] => Nat.le_refl _
  | c :: r => by
    have := (lenUtf8_le c).1
    have := length_le_encodeAll r
    rw [encodeAll, List.length_append, encode_length, List.length_cons]; omega

/-- every output builtin is `putOp` on some bytes: a script of them appends the bytes in order. -/
theorem run_put {α : Type} {t : Ty} {enc : α → List Nat} (f : α → Op)
    (hf : ∀ s x, step s (f x) = putOp t (enc x) s) :
    ∀ (xs : List α) (s : St), s.output = true → s.ty = t →
      run s (xs.map f) = (xs.map fun _ => Res.ok .unit,
        { s with content := s.content ++ xs.flatMap enc })
  | [], s, _, _ => by simp [run]
  | x :: r, s, ho, ht => by
    simp only [List.map_cons, run, hf, putOp_output t _ ho ht, List.flatMap_cons,
      run_put f hf r { s with content := s.content ++ enc x } ho ht, List.append_assoc]

theorem getBytes_all : ∀ (bs : List Nat) (s : St), check s .binary true = none → s.past = false →
    rest s = bs →
    getBytes bs.length s = (bs.map (fun b => Res.ok (.byte b)), { s with cur := s.cur + bs.length })
  | [], s, _, _, _ => by simp [getBytes]
  | b :: r, s, hc, hp, hr => by
    have hstep : byteOp true s = ({ s with cur := s.cur + 1 }, .ok (.byte b)) := by
      rw [byteOp_eq_guard, guard_of_none hc hp]
      unfold byteCore
      rw [hr]
      rfl
    have hrest : rest { s with cur := s.cur + 1 } = r := by
      rw [show rest { s with cur := s.cur + 1 } = (rest s).drop 1 from rest_advance s 1 s.lines, hr]
      rfl
    have ih := getBytes_all r { s with cur := s.cur + 1 } hc hp hrest
    show getBytes (r.length + 1) s = _
    unfold getBytes
    rw [hstep]
    simp only
    rw [ih]
    simp [Nat.add_assoc, Nat.add_comm 1]

/-! ### the weak invariant `Inv` -/

theorem inv_reset (s : St) : Inv (resetSt s) := Or.inl (Nat.zero_le _)

theorem inv_of_good {s : St} (h : Good s) : Inv s := Or.inl h.1

theorem inv_byteCore (c : Bool) {s : St} (h : Inv s) : Inv (byteCore c s).1 := by
  unfold byteCore
  split
  · cases c
    · exact h
    · right; rfl
  · rename_i b tl hr
    cases c
    · exact h
    · rcases h with h | h
      · left
        show s.cur + 1 ≤ s.content.length
        have := rest_length s
        rw [hr] at this
        simp at this
        omega
      · right; exact h

/-! ### `filePosition` in terms of `CharReader.pending` -/

theorem filePosition_eq (total : Nat) (r : CharReader.St) :
    filePosition total r = total - (CharReader.pending r).length := by
  unfold filePosition CharReader.pending
  rw [List.length_append, List.length_drop, Nat.sub_sub, Nat.add_comm]

/-! ### `get_n_chars` against repeated `get_char` -/

/-- the characters among a list of results. -/
def charsOf : List Res → List Nat
  | [] => []
  | .ok (.char c) :: r => c :: charsOf r
  | _ :: r => charsOf r

/-- the hypothesis holds past the end without reset, and with invalid bytes ahead. -/
theorem getChars_stuck : ∀ (n : Nat) (s : St) (x : Res), textOp true s = (s, x) → (∀ c, x ≠ .ok (.char c)) →
    charsOf (getChars n s).1 = [] ∧ (getChars n s).2 = s
  | 0, s, _, _, _ => ⟨rfl, rfl⟩
  | n+1, s, x, h, hx => by
    have ih := getChars_stuck n s x h hx
    unfold getChars
    rw [h]
    simp only
    refine ⟨?_, ih.2⟩
    cases x with
    | ok v =>
      cases v with
      | char c => exact absurd rfl (hx c)
      | _ => exact ih.1
    | error e => exact ih.1
    | fail => exact ih.1

theorem takeChars_eq_getChars : ∀ (n : Nat) (s : St), check s .text true = none → s.past = false →
    s.eofAction ≠ .reset →
    (takeChars n (rest s)).1 = charsOf (getChars n s).1 ∧
      (getChars n s).2.cur = s.cur + (takeChars n (rest s)).2 ∧
      (getChars n s).2.lines = s.lines + countNl (takeChars n (rest s)).1
  | 0, s, _, _, _ => by simp [takeChars, getChars, charsOf, countNl]
  | n+1, s, hc, hp, hr => by
    rw [show getChars (n+1) s = ((textOp true s).2 :: (getChars n (textOp true s).1).1,
        (getChars n (textOp true s).1).2) from rfl, textOp_eq_guard, guard_of_none hc hp]
    by_cases he : s.cur = s.content.length
    · -- at the end: end_of_file, the stream is past its end, and every further read says so again
      have hrest : rest s = [] := by rw [rest, he, List.drop_length]
      have ⟨h1, h2⟩ := guard_past_stuck (e := .text) (core := textCore true)
        (s := { s with past := true }) rfl hr
      have st := getChars_stuck n _ _ (Prod.ext h1 rfl) h2
      rw [textCore_end true he, if_pos rfl, hrest]
      simp only [takeChars, decodeFirst, charsOf, st.1, st.2, countNl, Nat.add_zero, and_self]
    · cases hd : decodeFirst (rest s) with
      | ok cp k =>
        have ih := takeChars_eq_getChars n { s with cur := s.cur + k, lines := s.lines + nlCount cp }
          hc hp hr
        rw [rest_advance] at ih
        rw [textCore_char true hd, if_pos rfl]
        simp only [takeChars, hd, charsOf]
        obtain ⟨i1, i2, i3⟩ := ih
        refine ⟨by rw [i1], ?_, ?_⟩
        · rw [i2]; show s.cur + k + _ = _; omega
        · rw [i3]; show s.lines + nlCount cp + _ = _; simp [countNl, Nat.add_assoc]
      | invalid _ | incomplete =>
        have htc := textCore_bad true he fun _ _ h => by rw [hd] at h; cases h
        have st := getChars_stuck n s (.error .badEncoding)
          (by rw [textOp_eq_guard, guard_of_none hc hp]; exact htc) nofun
        rw [htc]
        simp only [takeChars, hd, charsOf, st.1, st.2, countNl, Nat.add_zero, and_self]

theorem getChars_append_one : ∀ (n : Nat) (s : St),
    getChars (n+1) s = ((getChars n s).1 ++ [(textOp true (getChars n s).2).2], (textOp true (getChars n s).2).1)
  | 0, s => rfl
  | n+1, s => by
    have ih := getChars_append_one n (textOp true s).1
    show ((textOp true s).2 :: (getChars (n+1) (textOp true s).1).1, (getChars (n+1) (textOp true s).1).2) = _
    rw [ih]
    rfl

end Scryer.Stream
