import ScryerModel.Model.Utf8
import ScryerModel.Proofs.Positional
/-! Lemmas about the UTF-8 model (C18, C19, C20; the encoder facts also serve C13, C21, C22 and C37).
`Seq c s` says that `s` is the shortest-form byte sequence of the code point `c`, written with the
payload bits of its bytes; `encode` is related to it once (`Seq.encode`, `Seq.of_lt`), and so is
every decoder (here `decode4`, in `Proofs/Codec` the strict decoder and the clauses of charsio.pl).
`decode4` is Unicode Table 3-7: the lead byte selects a row (`decode4_cases`), each row
`dec2`/`dec3`/`dec4` is read off its definition, and the bytes a row accepts with value `cp` are
exactly the `Seq` of the scalar value `cp` (`row2`/`row3`/`row4`). From these: what a decision
means, that it is monotone in the information given (a missing byte = `none`), and the
consequences for `decodeFirst` on lists (prefix stability, dependence on at most 4 bytes, round
trip). -/
namespace Scryer.Utf8

/-- information order on an optional byte: `o` is unknown, or already equal to `o'`. -/
def OExt (o o' : Option Nat) : Prop := o = none ∨ o = o'

theorem OExt.refl (o : Option Nat) : OExt o o := Or.inr rfl

variable {cp n b0 b1 b2 b3 lo hi : Nat} {o1 o2 o3 p1 p2 p3 : Option Nat}

/-! ### Table 3-7 by lead byte -/

theorem inRange_iff {b : Nat} : (decide (lo ≤ b) && decide (b ≤ hi)) = true ↔ lo ≤ b ∧ b ≤ hi := by
  rw [Bool.and_eq_true, decide_eq_true_iff, decide_eq_true_iff]

theorem isCont_iff (b : Nat) : isCont b = true ↔ (0x80 ≤ b ∧ b ≤ 0xBF) := inRange_iff

theorem isScalar_iff (cp : Nat) :
    isScalar cp = true ↔ (cp < 0xD800 ∨ (0xE000 ≤ cp ∧ cp < 0x110000)) := by
  unfold isScalar
  rw [Bool.or_eq_true, Bool.and_eq_true, decide_eq_true_iff, decide_eq_true_iff,
    decide_eq_true_iff]

theorem decode4_ascii (h : b0 < 0x80) : decode4 b0 o1 o2 o3 = .ok b0 1 := if_pos h

theorem decode4_two (h : 0xC2 ≤ b0 ∧ b0 ≤ 0xDF) : decode4 b0 o1 o2 o3 = dec2 b0 o1 := by
  rw [decode4, if_neg (by omega), if_neg (by omega), if_pos h.2]

theorem decode4_three (h : 0xE0 ≤ b0 ∧ b0 ≤ 0xEF) : decode4 b0 o1 o2 o3 =
    dec3 b0 (if b0 = 0xE0 then 0xA0 else 0x80) (if b0 = 0xED then 0x9F else 0xBF) o1 o2 := by
  rw [decode4, if_neg (by omega), if_neg (by omega), if_neg (by omega), if_pos h.2]

theorem decode4_four (h : 0xF0 ≤ b0 ∧ b0 ≤ 0xF4) : decode4 b0 o1 o2 o3 =
    dec4 b0 (if b0 = 0xF0 then 0x90 else 0x80) (if b0 = 0xF4 then 0x8F else 0xBF) o1 o2 o3 := by
  rw [decode4, if_neg (by omega), if_neg (by omega), if_neg (by omega), if_neg (by omega),
    if_pos h.2]

theorem decode4_bad (h : 0x80 ≤ b0 ∧ b0 < 0xC2 ∨ 0xF4 < b0) :
    decode4 b0 o1 o2 o3 = .invalid 1 := by
  rcases h with h | h
  · rw [decode4, if_neg (by omega), if_pos h.2]
  · rw [decode4, if_neg (by omega), if_neg (by omega), if_neg (by omega), if_neg (by omega),
      if_neg (by omega)]

/-- Table 3-7 by lead byte: to prove something of the decoder for `b0`, as a function of the
    following bytes, prove it of each row `b0` may select. -/
theorem decode4_cases {motive : (Option Nat → Option Nat → Option Nat → Step) → Prop} (b0 : Nat)
    (ascii : b0 < 0x80 → motive fun _ _ _ => .ok b0 1)
    (bad : motive fun _ _ _ => .invalid 1)
    (two : 0xC2 ≤ b0 ∧ b0 ≤ 0xDF → motive fun o1 _ _ => dec2 b0 o1)
    (three : 0xE0 ≤ b0 ∧ b0 ≤ 0xEF → motive fun o1 o2 _ =>
      dec3 b0 (if b0 = 0xE0 then 0xA0 else 0x80) (if b0 = 0xED then 0x9F else 0xBF) o1 o2)
    (four : 0xF0 ≤ b0 ∧ b0 ≤ 0xF4 → motive fun o1 o2 o3 =>
      dec4 b0 (if b0 = 0xF0 then 0x90 else 0x80) (if b0 = 0xF4 then 0x8F else 0xBF) o1 o2 o3) :
    motive (decode4 b0) := by
  have e : ∀ f, (∀ o1 o2 o3, decode4 b0 o1 o2 o3 = f o1 o2 o3) → motive f → motive (decode4 b0) :=
    fun f hf h => (funext fun o1 => funext fun o2 => funext fun o3 => hf o1 o2 o3 :
      decode4 b0 = f) ▸ h
  rcases (by omega : b0 < 0x80 ∨ (0x80 ≤ b0 ∧ b0 < 0xC2 ∨ 0xF4 < b0) ∨ (0xC2 ≤ b0 ∧ b0 ≤ 0xDF) ∨
    (0xE0 ≤ b0 ∧ b0 ≤ 0xEF) ∨ (0xF0 ≤ b0 ∧ b0 ≤ 0xF4)) with h | h | h | h | h
  · exact e _ (fun _ _ _ => decode4_ascii h) (ascii h)
  · exact e _ (fun _ _ _ => decode4_bad h) bad
  · exact e _ (fun _ _ _ => decode4_two h) (two h)
  · exact e _ (fun _ _ _ => decode4_three h) (three h)
  · exact e _ (fun _ _ _ => decode4_four h) (four h)

/-! ### a decision stands when more bytes are given -/

theorem OExt.of_some {b : Nat} {p : Option Nat} (h : OExt (some b) p) : p = some b :=
  (h.resolve_left (fun h => nomatch h)).symm

theorem dec2_mono (h1 : OExt o1 p1) (h : dec2 b0 o1 ≠ .incomplete) : dec2 b0 p1 = dec2 b0 o1 := by
  rcases h1 with rfl | rfl
  · exact absurd rfl h
  · rfl

theorem dec3_mono (h1 : OExt o1 p1) (h2 : OExt o2 p2) :
    dec3 b0 lo hi o1 o2 ≠ .incomplete → dec3 b0 lo hi p1 p2 = dec3 b0 lo hi o1 o2 := by
  fun_cases dec3 b0 lo hi o1 o2 <;> intro h
  -- the leaves of `dec3` in order: `o1`, `o2` missing (`incomplete`, not this case); `ok`; `invalid 2`;
  -- `invalid 1`. Every byte a deciding leaf has tested is `some`, hence the same in `p1`, `p2`
  case case1 | case2 => exact absurd rfl h
  case case3 c1 _ c2 => rw [h1.of_some, h2.of_some]; exact (if_pos c1).trans (if_pos c2)
  case case4 c1 _ c2 => rw [h1.of_some, h2.of_some]; exact (if_pos c1).trans (if_neg c2)
  case case5 c1 => rw [h1.of_some]; exact if_neg c1

theorem dec4_mono (h1 : OExt o1 p1) (h2 : OExt o2 p2) (h3 : OExt o3 p3) :
    dec4 b0 lo hi o1 o2 o3 ≠ .incomplete → dec4 b0 lo hi p1 p2 p3 = dec4 b0 lo hi o1 o2 o3 := by
  fun_cases dec4 b0 lo hi o1 o2 o3 <;> intro h
  -- likewise: three leaves with a byte missing, then `ok`, `invalid 3`, `invalid 2`, `invalid 1`
  case case1 | case2 | case3 => exact absurd rfl h
  case case4 c1 _ c2 _ c3 =>
    rw [h1.of_some, h2.of_some, h3.of_some]
    exact (if_pos c1).trans ((if_pos c2).trans (if_pos c3))
  case case5 c1 _ c2 _ c3 =>
    rw [h1.of_some, h2.of_some, h3.of_some]
    exact (if_pos c1).trans ((if_pos c2).trans (if_neg c3))
  case case6 c1 _ c2 => rw [h1.of_some, h2.of_some]; exact (if_pos c1).trans (if_neg c2)
  case case7 c1 => rw [h1.of_some]; exact if_neg c1

theorem decode4_mono (h1 : OExt o1 p1) (h2 : OExt o2 p2) (h3 : OExt o3 p3) :
    decode4 b0 o1 o2 o3 ≠ .incomplete → decode4 b0 p1 p2 p3 = decode4 b0 o1 o2 o3 :=
  decode4_cases (motive := fun f => f o1 o2 o3 ≠ .incomplete → f p1 p2 p3 = f o1 o2 o3) b0
    (fun _ _ => rfl) (fun _ => rfl) (fun _ => dec2_mono h1) (fun _ => dec3_mono h1 h2)
    (fun _ => dec4_mono h1 h2 h3)

theorem dec2_some_ne (b0 a : Nat) : dec2 b0 (some a) ≠ .incomplete := by
  simp only [dec2]; split <;> simp

theorem dec3_some_ne (b0 lo hi a b : Nat) : dec3 b0 lo hi (some a) (some b) ≠ .incomplete := by
  simp only [dec3]; repeat' split
  all_goals simp

theorem dec4_some_ne (b0 lo hi a b c : Nat) :
    dec4 b0 lo hi (some a) (some b) (some c) ≠ .incomplete := by
  simp only [dec4]; repeat' split
  all_goals simp

theorem decode4_some_ne_incomplete (b0 a b c : Nat) :
    decode4 b0 (some a) (some b) (some c) ≠ .incomplete :=
  decode4_cases (motive := fun f => f (some a) (some b) (some c) ≠ .incomplete) b0
    (fun _ h => nomatch h) (fun h => nomatch h) (fun _ => dec2_some_ne _ _)
    (fun _ => dec3_some_ne _ _ _ _ _) (fun _ => dec4_some_ne _ _ _ _ _ _)

/-! ### invalid sequences -/

/-- what is proved of an invalid sequence: 1 to 3 bytes, all of them present. -/
def InvalidLen (n : Nat) (o1 o2 o3 : Option Nat) : Prop :=
  1 ≤ n ∧ n ≤ 3 ∧ n ≤ 1 + (o1.toList ++ o2.toList ++ o3.toList).length

theorem dec2_invalid : dec2 b0 o1 = .invalid n → InvalidLen n o1 o2 o3 := by
  fun_cases dec2 b0 o1 <;> intro h <;> cases h
  exact ⟨by decide, by decide, by simp⟩

theorem dec3_invalid : dec3 b0 lo hi o1 o2 = .invalid n → InvalidLen n o1 o2 o3 := by
  fun_cases dec3 b0 lo hi o1 o2 <;> intro h <;> cases h
  all_goals exact ⟨by decide, by decide, by simp +arith⟩

theorem dec4_invalid : dec4 b0 lo hi o1 o2 o3 = .invalid n → InvalidLen n o1 o2 o3 := by
  fun_cases dec4 b0 lo hi o1 o2 o3 <;> intro h <;> cases h
  all_goals exact ⟨by decide, by decide, by simp +arith⟩

theorem decode4_invalid : decode4 b0 o1 o2 o3 = .invalid n → InvalidLen n o1 o2 o3 :=
  decode4_cases (motive := fun f => f o1 o2 o3 = .invalid n → _) b0 (fun _ h => nomatch h)
    (fun h => by cases h; exact ⟨by decide, by decide, by simp⟩) (fun _ => dec2_invalid)
    (fun _ => dec3_invalid) (fun _ => dec4_invalid)

/-! ### the encoder -/

theorem encode_one (h : cp < 0x80) : encode cp = [cp] := if_pos h

theorem encode_two (h : 0x80 ≤ cp) (h' : cp < 0x800) :
    encode cp = [0xC0 + cp / 64, 0x80 + cp % 64] := by
  rw [encode, if_neg (by omega), if_pos h']

theorem encode_three (h : 0x800 ≤ cp) (h' : cp < 0x10000) :
    encode cp = [0xE0 + cp / 4096, 0x80 + (cp / 64) % 64, 0x80 + cp % 64] := by
  rw [encode, if_neg (by omega), if_neg (by omega), if_pos h']

theorem encode_four (h : 0x10000 ≤ cp) :
    encode cp = [0xF0 + cp / 262144, 0x80 + (cp / 4096) % 64, 0x80 + (cp / 64) % 64,
      0x80 + cp % 64] := by
  rw [encode, if_neg (by omega), if_neg (by omega), if_neg (by omega)]

theorem encode_high (h : 0x80 ≤ cp) (b : Nat) (hb : b ∈ encode cp) : 0x80 ≤ b := by
  rcases (by omega : cp < 0x800 ∨ (0x800 ≤ cp ∧ cp < 0x10000) ∨ 0x10000 ≤ cp) with h' | h' | h'
  · rw [encode_two h h'] at hb
    simp only [List.mem_cons, List.not_mem_nil, or_false] at hb; omega
  · rw [encode_three h'.1 h'.2] at hb
    simp only [List.mem_cons, List.not_mem_nil, or_false] at hb; omega
  · rw [encode_four h'] at hb
    simp only [List.mem_cons, List.not_mem_nil, or_false] at hb; omega

theorem encode_length (cp : Nat) : (encode cp).length = lenUtf8 cp := by
  unfold encode lenUtf8; repeat' split
  all_goals rfl

theorem drop_encode_append (cp : Nat) (q : List Nat) : (encode cp ++ q).drop (lenUtf8 cp) = q := by
  rw [← encode_length, List.drop_left]

theorem lenUtf8_le (cp : Nat) : 1 ≤ lenUtf8 cp ∧ lenUtf8 cp ≤ 4 := by
  unfold lenUtf8; repeat' split
  all_goals omega

theorem lenUtf8_ge {cp : Nat} (h : 0x80 ≤ cp) : 2 ≤ lenUtf8 cp := by
  unfold lenUtf8
  rw [if_neg (Nat.not_lt.2 h)]
  split
  · exact Nat.le_refl 2
  · split <;> decide

theorem encode_ne_nil (cp : Nat) : encode cp ≠ [] :=
  List.ne_nil_of_length_pos ((encode_length cp).symm ▸ (lenUtf8_le cp).1)

/-- a byte of an encoding is the code point itself or a marker `≥ 0x80` plus payload bits. -/
theorem encode_ne_zero (hc : cp ≠ 0) (b : Nat) (hb : b ∈ encode cp) : b ≠ 0 := by
  by_cases h : cp < 0x80
  · rw [encode_one h, List.mem_singleton] at hb; exact hb ▸ hc
  · exact Nat.ne_of_gt (Nat.lt_of_lt_of_le (by decide) (encode_high (Nat.le_of_not_lt h) b hb))

open Positional (mul_add_div_of_lt mod_lt_lit mul_add_lt)

theorem not_lt_of_ge_lit {k m c : Nat} (h : m ≤ c) (hk : k ≤ m := by decide) : ¬ c < k :=
  Nat.not_lt.2 (Nat.le_trans hk h)

/-- The table of `encode` with the code point's 6-bit digits taken one after the other, the form in
    which they are put together again. -/
theorem encode_eq (c : Nat) : encode c =
    if c < 0x80 then [c]
    else if c < 0x800 then [0xC0 + c / 64, 0x80 + c % 64]
    else if c < 0x10000 then [0xE0 + c / 64 / 64, 0x80 + c / 64 % 64, 0x80 + c % 64]
    else [0xF0 + c / 64 / 64 / 64, 0x80 + c / 64 / 64 % 64, 0x80 + c / 64 % 64, 0x80 + c % 64] := by
  rw [encode, Nat.div_div_eq_div_mul c 64 64, Nat.div_div_eq_div_mul c (64 * 64) 64]

/-! ### shortest form in payload bits -/

/-- `Seq c s`: `s` is the shortest-form UTF-8 byte sequence of the code point `c < 0x110000`
    (RFC 3629 §3; surrogates are not excluded here), given by the payload bits of its lead byte
    and the 6 payload bits of each continuation byte. The meeting point: the encoder and each
    decoder are related to `Seq`, never to each other, so that `/` and `%` occur on the encoder's
    side only (`Seq.encode`, `Seq.of_lt`). -/
inductive Seq : Nat → List Nat → Prop
  | one {c : Nat} : c < 0x80 → Seq c [c]
  | two {p x : Nat} : p < 32 → x < 64 → 0x80 ≤ p * 64 + x → Seq (p * 64 + x) [0xC0 + p, 0x80 + x]
  | three {p x y : Nat} : p < 16 → x < 64 → y < 64 → 0x800 ≤ (p * 64 + x) * 64 + y →
      Seq ((p * 64 + x) * 64 + y) [0xE0 + p, 0x80 + x, 0x80 + y]
  | four {p x y z : Nat} : p < 8 → x < 64 → y < 64 → z < 64 →
      0x10000 ≤ ((p * 64 + x) * 64 + y) * 64 + z → ((p * 64 + x) * 64 + y) * 64 + z < 0x110000 →
      Seq (((p * 64 + x) * 64 + y) * 64 + z) [0xF0 + p, 0x80 + x, 0x80 + y, 0x80 + z]

theorem Seq.encode {c : Nat} {s : List Nat} (h : Seq c s) : encode c = s := by
  rw [encode_eq]
  cases h with
  | one h => rw [if_pos h]
  | two hp hx hc =>
    rw [if_neg (Nat.not_lt.2 hc), if_pos (mul_add_lt hp hx), mul_add_div_of_lt hx,
      Nat.mul_add_mod_of_lt hx]
  | three hp hx hy hc =>
    rw [if_neg (not_lt_of_ge_lit hc), if_neg (Nat.not_lt.2 hc), if_pos (mul_add_lt (mul_add_lt hp hx) hy)]
    simp only [mul_add_div_of_lt hy, Nat.mul_add_mod_of_lt hy, mul_add_div_of_lt hx,
      Nat.mul_add_mod_of_lt hx]
  | four hp hx hy hz hc _ =>
    rw [if_neg (not_lt_of_ge_lit hc), if_neg (not_lt_of_ge_lit hc), if_neg (Nat.not_lt.2 hc)]
    simp only [mul_add_div_of_lt hz, Nat.mul_add_mod_of_lt hz, mul_add_div_of_lt hy,
      Nat.mul_add_mod_of_lt hy, mul_add_div_of_lt hx, Nat.mul_add_mod_of_lt hx]

theorem Seq.of_lt {c : Nat} (h4 : c < 0x110000) : Seq c (Utf8.encode c) := by
  have self {c s} (h : Seq c s) : Seq c (Utf8.encode c) := h.encode ▸ h
  by_cases h1 : c < 0x80
  · exact self (.one h1)
  have h1 := Nat.le_of_not_lt h1
  have e1 := Nat.div_add_mod' c 64
  by_cases h2 : c < 0x800
  · exact e1 ▸ self (.two (Nat.div_lt_of_lt_mul h2) (mod_lt_lit c) (e1.symm ▸ h1))
  have h2 := Nat.le_of_not_lt h2
  have e2 : (c / 64 / 64 * 64 + c / 64 % 64) * 64 + c % 64 = c := by rw [Nat.div_add_mod', e1]
  by_cases h3 : c < 0x10000
  · exact e2 ▸ self (.three (Nat.div_lt_of_lt_mul (Nat.div_lt_of_lt_mul h3)) (mod_lt_lit _) (mod_lt_lit c)
      (e2.symm ▸ h2))
  have h3 := Nat.le_of_not_lt h3
  have e3 : ((c / 64 / 64 / 64 * 64 + c / 64 / 64 % 64) * 64 + c / 64 % 64) * 64 + c % 64 = c := by
    rw [Nat.div_add_mod', e2]
  have hp : c / 64 / 64 / 64 < 8 := Nat.div_lt_of_lt_mul (Nat.div_lt_of_lt_mul
    (Nat.div_lt_of_lt_mul (Nat.lt_trans h4 (by decide))))
  exact e3 ▸ self (.four hp (mod_lt_lit _) (mod_lt_lit _) (mod_lt_lit c) (e3.symm ▸ h3) (e3.symm ▸ h4))

/-! ### what a row accepts -/

theorem dec2_ok_iff : dec2 b0 o1 = .ok cp n ↔
    ∃ b1, o1 = some b1 ∧ isCont b1 = true ∧ (b0 - 0xC0) * 64 + (b1 - 0x80) = cp ∧ 2 = n := by
  refine ⟨?_, fun ⟨_, e1, h1, hcp, hn⟩ => by subst e1 hcp hn; exact if_pos h1⟩
  fun_cases dec2 b0 o1 <;> intro h
  -- the one leaf that answers `ok`; at the others `h` equates different constructors
  case case2 c1 => exact ⟨_, rfl, c1, Step.ok.inj h⟩
  all_goals cases h

theorem dec3_ok_iff : dec3 b0 lo hi o1 o2 = .ok cp n ↔
    ∃ b1 b2, o1 = some b1 ∧ o2 = some b2 ∧ (lo ≤ b1 ∧ b1 ≤ hi) ∧ isCont b2 = true ∧
      (b0 - 0xE0) * 4096 + (b1 - 0x80) * 64 + (b2 - 0x80) = cp ∧ 3 = n := by
  refine ⟨?_, fun ⟨_, _, e1, e2, h1, h2, hcp, hn⟩ => by
    subst e1 e2 hcp hn; exact (if_pos (inRange_iff.2 h1)).trans (if_pos h2)⟩
  fun_cases dec3 b0 lo hi o1 o2 <;> intro h
  case case3 c1 _ c2 => exact ⟨_, _, rfl, rfl, inRange_iff.1 c1, c2, Step.ok.inj h⟩
  all_goals cases h

theorem dec4_ok_iff : dec4 b0 lo hi o1 o2 o3 = .ok cp n ↔
    ∃ b1 b2 b3, o1 = some b1 ∧ o2 = some b2 ∧ o3 = some b3 ∧ (lo ≤ b1 ∧ b1 ≤ hi) ∧
      isCont b2 = true ∧ isCont b3 = true ∧
      (b0 - 0xF0) * 262144 + (b1 - 0x80) * 4096 + (b2 - 0x80) * 64 + (b3 - 0x80) = cp ∧ 4 = n := by
  refine ⟨?_, fun ⟨_, _, _, e1, e2, e3, h1, h2, h3, hcp, hn⟩ => by
    subst e1 e2 e3 hcp hn
    exact (if_pos (inRange_iff.2 h1)).trans ((if_pos h2).trans (if_pos h3))⟩
  fun_cases dec4 b0 lo hi o1 o2 o3 <;> intro h
  case case4 c1 _ c2 _ c3 =>
    exact ⟨_, _, _, rfl, rfl, rfl, inRange_iff.1 c1, c2, c3, Step.ok.inj h⟩
  all_goals cases h

/-! A continuation byte is `0x80 + d` with a base-64 digit `d`, a lead byte its row's marker plus
the leading digit: the bytes a row of Table 3-7 accepts with value `cp` are exactly the well-formed
sequence of the scalar value `cp` (the bounds on the second byte are the bounds on `cp`). -/

theorem isCont_digit {b : Nat} (h : isCont b = true) : ∃ d, d < 64 ∧ b = 0x80 + d := by
  rw [isCont_iff] at h
  exact ⟨b - 0x80, by omega, by omega⟩

theorem ite_le_iff {c : Prop} [Decidable c] {x y b : Nat} :
    (if c then x else y) ≤ b ↔ (c → x ≤ b) ∧ (¬c → y ≤ b) := by
  split <;> simp [*]

theorem le_ite_iff {c : Prop} [Decidable c] {x y b : Nat} :
    b ≤ (if c then x else y) ↔ (c → b ≤ x) ∧ (¬c → b ≤ y) := by
  split <;> simp [*]

theorem row2 :
    ((0xC2 ≤ b0 ∧ b0 ≤ 0xDF) ∧ isCont b1 = true ∧ (b0 - 0xC0) * 64 + (b1 - 0x80) = cp) ↔
    Seq cp [b0, b1] ∧ isScalar cp = true := by
  rw [isScalar_iff]
  constructor
  · rintro ⟨h0, h1, rfl⟩
    obtain ⟨x, hx, rfl⟩ := isCont_digit h1
    obtain ⟨p, rfl⟩ := Nat.exists_eq_add_of_le (show 0xC0 ≤ b0 by omega)
    rw [Nat.add_sub_cancel_left, Nat.add_sub_cancel_left]
    exact ⟨.two (by omega) hx (by omega), by omega⟩
  · rintro ⟨h, _⟩
    cases h with
    | two hp hx hc =>
      rw [Nat.add_sub_cancel_left, Nat.add_sub_cancel_left, isCont_iff]
      omega

theorem row3 :
    ((0xE0 ≤ b0 ∧ b0 ≤ 0xEF) ∧
      ((if b0 = 0xE0 then 0xA0 else 0x80) ≤ b1 ∧ b1 ≤ (if b0 = 0xED then 0x9F else 0xBF)) ∧
      isCont b2 = true ∧ (b0 - 0xE0) * 4096 + (b1 - 0x80) * 64 + (b2 - 0x80) = cp) ↔
    Seq cp [b0, b1, b2] ∧ isScalar cp = true := by
  rw [isScalar_iff, ite_le_iff, le_ite_iff]
  constructor
  · rintro ⟨h0, h1, h2, rfl⟩
    obtain ⟨y, hy, rfl⟩ := isCont_digit h2
    obtain ⟨x, rfl⟩ := Nat.exists_eq_add_of_le (show 0x80 ≤ b1 by omega)
    obtain ⟨p, rfl⟩ := Nat.exists_eq_add_of_le h0.1
    rw [Nat.add_sub_cancel_left, Nat.add_sub_cancel_left, Nat.add_sub_cancel_left,
      show p * 4096 + x * 64 + y = (p * 64 + x) * 64 + y by omega]
    exact ⟨.three (by omega) (by omega) hy (by omega), by omega⟩
  · rintro ⟨h, hs⟩
    cases h with
    | three hp hx hy hc =>
      rw [Nat.add_sub_cancel_left, Nat.add_sub_cancel_left, Nat.add_sub_cancel_left, isCont_iff]
      omega

theorem row4 :
    ((0xF0 ≤ b0 ∧ b0 ≤ 0xF4) ∧
      ((if b0 = 0xF0 then 0x90 else 0x80) ≤ b1 ∧ b1 ≤ (if b0 = 0xF4 then 0x8F else 0xBF)) ∧
      isCont b2 = true ∧ isCont b3 = true ∧
      (b0 - 0xF0) * 262144 + (b1 - 0x80) * 4096 + (b2 - 0x80) * 64 + (b3 - 0x80) = cp) ↔
    Seq cp [b0, b1, b2, b3] ∧ isScalar cp = true := by
  rw [isScalar_iff, ite_le_iff, le_ite_iff]
  constructor
  · rintro ⟨h0, h1, h2, h3, rfl⟩
    obtain ⟨y, hy, rfl⟩ := isCont_digit h2
    obtain ⟨z, hz, rfl⟩ := isCont_digit h3
    obtain ⟨x, rfl⟩ := Nat.exists_eq_add_of_le (show 0x80 ≤ b1 by omega)
    obtain ⟨p, rfl⟩ := Nat.exists_eq_add_of_le h0.1
    rw [Nat.add_sub_cancel_left, Nat.add_sub_cancel_left, Nat.add_sub_cancel_left,
      Nat.add_sub_cancel_left,
      show p * 262144 + x * 4096 + y * 64 + z = ((p * 64 + x) * 64 + y) * 64 + z by omega]
    exact ⟨.four (by omega) (by omega) hy hz (by omega) (by omega), by omega⟩
  · rintro ⟨h, _⟩
    cases h with
    | four hp hx hy hz hc hc' =>
      rw [Nat.add_sub_cancel_left, Nat.add_sub_cancel_left, Nat.add_sub_cancel_left,
        Nat.add_sub_cancel_left, isCont_iff, isCont_iff]
      omega

/-! ### `decode4` and `decodeFirst`: prefix stability, four bytes suffice, round trip -/

theorem decode4_ok : decode4 b0 o1 o2 o3 = .ok cp n → isScalar cp = true ∧ n = lenUtf8 cp ∧
    encode cp = b0 :: (o1.toList ++ o2.toList ++ o3.toList).take (n - 1) := by
  rw [← encode_length]
  refine decode4_cases (motive := fun f => f o1 o2 o3 = .ok cp n → _) b0 ?_
    (fun h => nomatch h) ?_ ?_ ?_
  · intro h0 h
    cases h
    rw [encode_one h0]
    exact ⟨(isScalar_iff _).2 (.inl (Nat.lt_trans h0 (by decide))), rfl, rfl⟩
  · intro h0 h
    obtain ⟨b1, rfl, h1, hcp, rfl⟩ := dec2_ok_iff.1 h
    obtain ⟨hq, hs⟩ := row2.1 ⟨h0, h1, hcp⟩
    rw [hq.encode]
    exact ⟨hs, rfl, rfl⟩
  · intro h0 h
    obtain ⟨b1, b2, rfl, rfl, h1, h2, hcp, rfl⟩ := dec3_ok_iff.1 h
    obtain ⟨hq, hs⟩ := row3.1 ⟨h0, h1, h2, hcp⟩
    rw [hq.encode]
    exact ⟨hs, rfl, rfl⟩
  · intro h0 h
    obtain ⟨b1, b2, b3, rfl, rfl, rfl, h1, h2, h3, hcp, rfl⟩ := dec4_ok_iff.1 h
    obtain ⟨hq, hs⟩ := row4.1 ⟨h0, h1, h2, h3, hcp⟩
    rw [hq.encode]
    exact ⟨hs, rfl, rfl⟩

theorem oext_append (l q : List Nat) (k : Nat) : OExt l[k]? (l ++ q)[k]? := by
  by_cases hk : k < l.length
  · right; rw [List.getElem?_append_left hk]
  · left; exact List.getElem?_eq_none (by omega)

theorem decodeFirst_cons (b0 : Nat) (rest : List Nat) :
    decodeFirst (b0 :: rest) = decode4 b0 rest[0]? rest[1]? rest[2]? := rfl

theorem opts_eq_take3 : ∀ (r : List Nat), r[0]?.toList ++ r[1]?.toList ++ r[2]?.toList = r.take 3
  | [] => rfl
  | [_] => rfl
  | [_, _] => rfl
  | _ :: _ :: _ :: _ => rfl

theorem decodeFirst_eq_ok {l : List Nat} (h : decodeFirst l = .ok cp n) :
    isScalar cp = true ∧ n = lenUtf8 cp ∧ l.take n = encode cp := by
  cases l with
  | nil => cases h
  | cons b0 rest =>
    obtain ⟨hs, rfl, he⟩ := decode4_ok h
    obtain ⟨m, hm⟩ : ∃ m, lenUtf8 cp = m + 1 := ⟨lenUtf8 cp - 1, by have := lenUtf8_le cp; omega⟩
    have := lenUtf8_le cp
    rw [he, opts_eq_take3, List.take_take, hm, List.take_succ_cons, Nat.add_sub_cancel,
      Nat.min_eq_left (by omega)]
    exact ⟨hs, rfl, rfl⟩

theorem decodeFirst_ok_take {l : List Nat} (h : decodeFirst l = .ok cp n) :
    l.take n = encode cp := (decodeFirst_eq_ok h).2.2

theorem decodeFirst_ok {l : List Nat} (h : decodeFirst l = .ok cp n) :
    n = lenUtf8 cp ∧ n ≤ l.length ∧ 1 ≤ n ∧ isScalar cp = true := by
  obtain ⟨hs, rfl, he⟩ := decodeFirst_eq_ok h
  have hl := congrArg List.length he
  rw [List.length_take, encode_length] at hl
  exact ⟨rfl, by omega, (lenUtf8_le cp).1, hs⟩

theorem decodeFirst_invalid {l : List Nat} (h : decodeFirst l = .invalid n) :
    1 ≤ n ∧ n ≤ l.length ∧ n ≤ 3 := by
  cases l with
  | nil => cases h
  | cons b0 rest =>
    have ⟨h1, h2, h3⟩ := decode4_invalid h
    rw [opts_eq_take3, List.length_take] at h3
    exact ⟨h1, by rw [List.length_cons]; omega, h2⟩

theorem decodeFirst_append {p : List Nat} (q : List Nat) (h : decodeFirst p ≠ .incomplete) :
    decodeFirst (p ++ q) = decodeFirst p := by
  cases p with
  | nil => exact absurd rfl h
  | cons b0 rest =>
    exact decode4_mono (oext_append _ _ _) (oext_append _ _ _) (oext_append _ _ _) h

theorem decodeFirst_take4 (l : List Nat) : decodeFirst (l.take 4) = decodeFirst l := by
  cases l with
  | nil => rfl
  | cons b0 rest =>
    rw [List.take_succ_cons, decodeFirst_cons, decodeFirst_cons]
    simp only [List.getElem?_take]
    rfl

theorem decodeFirst_encode (hs : isScalar cp = true) (q : List Nat) :
    decodeFirst (encode cp ++ q) = .ok cp (lenUtf8 cp) := by
  have h := Seq.of_lt (((isScalar_iff cp).1 hs).elim (Nat.lt_trans · (by decide)) (·.2))
  rw [← encode_length]
  generalize encode cp = s at h
  cases h with
  | one h => exact decode4_ascii h
  | two hp hx hc =>
    obtain ⟨h0, h1, hcp⟩ := row2.2 ⟨.two hp hx hc, hs⟩
    exact (decode4_two h0).trans (dec2_ok_iff.2 ⟨_, rfl, h1, hcp, rfl⟩)
  | three hp hx hy hc =>
    obtain ⟨h0, h1, h2, hcp⟩ := row3.2 ⟨.three hp hx hy hc, hs⟩
    exact (decode4_three h0).trans (dec3_ok_iff.2 ⟨_, _, rfl, rfl, h1, h2, hcp, rfl⟩)
  | four hp hx hy hz hc hc' =>
    obtain ⟨h0, h1, h2, h3, hcp⟩ := row4.2 ⟨.four hp hx hy hz hc hc', hs⟩
    exact (decode4_four h0).trans (dec4_ok_iff.2 ⟨_, _, _, rfl, rfl, rfl, h1, h2, h3, hcp, rfl⟩)

end Scryer.Utf8
