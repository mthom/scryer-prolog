import ScryerModel.Model.ArithInt
/-! Lemmas behind the integer arithmetic theorems of `Props/C01` (and used by C02, C05), over Lean
core only (no Mathlib): how `ofI64`/`ofBig` results denote; `Refines`, the relation between a result
of the mechanism and the specification's, with its rules for a value, a raising test in front, and
sequencing (the partial operations and `eval` are stated through it); the binary GCD loops (invariant
and fuel sufficiency); the shift bounds (`leading_zeros` guard, sign fill, the "fits in memory" side
condition); the power loops and the guards of `int_pow`. The bit-level reading of `land/lor/lxor` is in
`Proofs/ArithIntBits`. -/
namespace Scryer.Arith

/-! ### what `ofI64`/`ofBig` results denote; the ranges -/

@[simp] theorem val_fix (v : Int) : (Num.fix v).val = v := rfl
@[simp] theorem val_big (v : Int) : (Num.big v).val = v := rfl

@[simp] theorem ofI64_val (v : Int) : (ofI64 v).val = v := by
  unfold ofI64; split <;> rfl

@[simp] theorem ofBig_val (v : Int) : (ofBig v).val = v := rfl

theorem ofI64_wf (v : Int) : (ofI64 v).wf := by
  unfold ofI64; split
  · simpa [Num.wf]
  · trivial

theorem ofBig_wf (v : Int) : (ofBig v).wf := trivial

theorem ofI64_spec (v : Int) : (ofI64 v).val = v ∧ (ofI64 v).wf := ⟨ofI64_val v, ofI64_wf v⟩

theorem inFix_iff (v : Int) : inFix v = true ↔ (-(2^55) ≤ v ∧ v ≤ 2^55 - 1) := by
  unfold inFix FIX_MIN FIX_MAX; rw [Bool.and_eq_true, decide_eq_true_iff, decide_eq_true_iff]

theorem inI64_iff (v : Int) : inI64 v = true ↔ (-(2^63) ≤ v ∧ v ≤ 2^63 - 1) := by
  unfold inI64 I64_MIN I64_MAX; rw [Bool.and_eq_true, decide_eq_true_iff, decide_eq_true_iff]

theorem inU32_iff (v : Int) : inU32 v = true ↔ (0 ≤ v ∧ v ≤ 2^32 - 1) := by
  unfold inU32 U32_MAX; rw [Bool.and_eq_true, decide_eq_true_iff, decide_eq_true_iff]

theorem inUsize_iff (v : Int) : inUsize v = true ↔ (0 ≤ v ∧ v ≤ USIZE_MAX) := by
  unfold inUsize; rw [Bool.and_eq_true, decide_eq_true_iff, decide_eq_true_iff]

theorem inI64_of_inFix (v : Int) (h : inFix v = true) : inI64 v = true := by
  have := (inFix_iff v).1 h
  exact (inI64_iff v).2 ⟨by omega, by omega⟩

/-- the shape of every checked machine operation: the i64 result if it did not overflow, else the
bignum one. -/
theorem checked_spec (c : Prop) [Decidable c] (v : Int) :
    (if c then ofI64 v else ofBig v).val = v ∧ (if c then ofI64 v else ofBig v).wf := by
  split
  · exact ofI64_spec v
  · exact ⟨rfl, trivial⟩

theorem neg_spec (a : Num) : (neg a).val = - a.val ∧ (neg a).wf := by
  cases a
  · exact checked_spec _ _
  · exact ⟨rfl, trivial⟩

/-! ### `Refines` and its rules -/

/-- The mechanism's result `r` against the specification's `s` over ℤ. The value half (same value or same
error) holds under `d`, the side condition of the shifts; well-formedness of a returned value needs none,
which is why `d` guards the first half only (`True` for every operation but `<<`, `>>`). -/
def Refines (d : Prop) (r : R) (s : Except Err Int) : Prop :=
  (d → r.map Num.val = s) ∧ ∀ n, r = .ok n → n.wf

section
variable {d : Prop} {r : R} {s : Except Err Int}

theorem Refines.exact (h : Refines True r s) : r.map Num.val = s ∧ ∀ n, r = .ok n → n.wf :=
  ⟨h.1 trivial, h.2⟩

theorem Refines.of (h : r.map Num.val = s ∧ ∀ n, r = .ok n → n.wf) : Refines d r s :=
  ⟨fun _ => h.1, h.2⟩

/-- a total operation seen as a partial one. -/
theorem Refines.ok {x : Num} {v : Int} (h : x.val = v ∧ x.wf) : Refines d (.ok x) (.ok v) :=
  ⟨fun _ => congrArg Except.ok h.1, fun _ e => by cases e; exact h.2⟩

/-- a test that raises `x`, in front of `r`: the zero-divisor test, the two guards of `int_pow`. -/
theorem Refines.guard {c c' : Prop} [Decidable c] [Decidable c'] (hc : c ↔ c') (x : Err)
    (h : ¬ c → Refines d r s) :
    Refines d (if c then .error x else r) (if c' then .error x else s) := by
  by_cases hh : c
  · rw [if_pos hh, if_pos (hc.1 hh)]; exact ⟨fun _ => rfl, fun _ e => nomatch e⟩
  · rw [if_neg hh, if_neg (fun h' => hh (hc.2 h'))]; exact h hh

theorem Refines.mono {d' : Prop} (h : Refines d r s) (hd : d' → d) : Refines d' r s :=
  ⟨fun h' => h.1 (hd h'), h.2⟩

/-- sequencing (the first error wins on both sides); the continuation may use that its argument is
well-formed and is the value the specification has reached. -/
theorem Refines.bind {K : Num → R} {K' : Int → Except Err Int} (h : Refines d r s)
    (hK : ∀ n, n.wf → Refines (d ∧ s = .ok n.val) (K n) (K' n.val)) :
    Refines d (match r with | .error x => .error x | .ok a => K a)
      (match s with | .error x => .error x | .ok a => K' a) := by
  cases r with
  | error x => exact ⟨fun hd => by rw [← h.1 hd]; rfl, fun _ e => nomatch e⟩
  | ok a =>
    have hk := hK a (h.2 a rfl)
    exact ⟨fun hd => by have e := h.1 hd; subst e; exact hk.1 ⟨hd, rfl⟩, hk.2⟩

end

/-! ### floor division from the truncating one (`div`) -/

theorem tdiv_sub_fmod (a b : Int) (h : b ≠ 0) : Int.tdiv (a - Int.fmod a b) b = Int.fdiv a b := by
  have := Int.mul_fdiv_add_fmod a b
  have e : a - Int.fmod a b = b * Int.fdiv a b := by omega
  rw [e, Int.mul_tdiv_cancel_left _ h]

/-! ### the binary GCD loops -/

theorem gcd_odd_two_mul (m k : Nat) (hm : m % 2 = 1) : Nat.gcd m (2 * k) = Nat.gcd m k :=
  Nat.Coprime.gcd_mul_left_cancel_right k
    (by unfold Nat.Coprime; rw [Nat.gcd_rec, hm]; exact Nat.gcd_one_left _)

theorem stripTwos_gcd (m : Nat) (hm : m % 2 = 1) (fuel n : Nat) :
    Nat.gcd m (stripTwos fuel n) = Nat.gcd m n := by
  induction fuel generalizing n with
  | zero => rfl
  | succ f ih =>
    unfold stripTwos
    split
    · rename_i h
      rw [ih, ← gcd_odd_two_mul m (n / 2) hm]
      congr 1; omega
    · rfl

theorem stripTwos_le (fuel n : Nat) : stripTwos fuel n ≤ n := by
  induction fuel generalizing n with
  | zero => exact Nat.le_refl _
  | succ f ih =>
    unfold stripTwos
    split
    · exact Nat.le_trans (ih _) (Nat.div_le_self _ _)
    · exact Nat.le_refl _

theorem stripTwos_ne_zero (fuel n : Nat) (hn : n ≠ 0) : stripTwos fuel n ≠ 0 := by
  induction fuel generalizing n with
  | zero => exact hn
  | succ f ih =>
    unfold stripTwos
    split
    · exact ih _ (by omega)
    · exact hn

theorem stripTwos_odd (fuel n : Nat) (hn : n ≠ 0) (hlt : n < 2 ^ fuel) :
    stripTwos fuel n % 2 = 1 := by
  induction fuel generalizing n with
  | zero => exact absurd (Nat.lt_one_iff.1 hlt) hn
  | succ f ih =>
    unfold stripTwos
    split
    · exact ih _ (by omega) (by rw [Nat.pow_succ] at hlt; omega)
    · omega

theorem stripTwos_of_odd (fuel n : Nat) (h : n % 2 = 1) : stripTwos fuel n = n := by
  cases fuel with
  | zero => rfl
  | succ f => unfold stripTwos; rw [if_neg (by omega)]

theorem commonTwos_spec (fuel a b s : Nat) :
    ∃ a' b' k, commonTwos fuel a b s = (a', b', s + k) ∧ a = a' * 2 ^ k ∧ b = b' * 2 ^ k ∧
      (a ≠ 0 → a < 2 ^ fuel → (a' % 2 = 1 ∨ b' % 2 = 1)) := by
  induction fuel generalizing a b s with
  | zero =>
    exact ⟨a, b, 0, rfl, (Nat.mul_one a).symm, (Nat.mul_one b).symm, fun h0 h1 =>
      absurd (Nat.lt_one_iff.1 h1) h0⟩
  | succ f ih =>
    unfold commonTwos
    split
    · rename_i h
      obtain ⟨a', b', k, hc, ha, hb, hodd⟩ := ih (a / 2) (b / 2) (s + 1)
      refine ⟨a', b', k + 1, by rw [hc, Nat.add_right_comm, Nat.add_assoc], ?_, ?_, fun h0 h1 =>
        hodd (by omega) (by rw [Nat.pow_succ] at h1; omega)⟩
      · rw [Nat.pow_succ, ← Nat.mul_assoc, ← ha, Nat.div_mul_cancel (Nat.dvd_of_mod_eq_zero h.1)]
      · rw [Nat.pow_succ, ← Nat.mul_assoc, ← hb, Nat.div_mul_cancel (Nat.dvd_of_mod_eq_zero h.2)]
    · exact ⟨a, b, 0, rfl, (Nat.mul_one a).symm, (Nat.mul_one b).symm, fun _ _ => by omega⟩

/-- the subtraction loop: invariant `gcd`, termination because `n1 + n2` strictly decreases. -/
theorem gcdLoop_spec (fuel n1 n2 : Nat) (h1 : n1 % 2 = 1) (h2 : n2 ≠ 0)
    (hb1 : n1 < 2 ^ 64) (hb2 : n2 < 2 ^ 64) (hf : n1 + n2 < fuel) :
    gcdLoop fuel n1 n2 = Nat.gcd n1 n2 := by
  induction fuel generalizing n1 n2 with
  | zero => exact absurd hf (Nat.not_lt_zero _)
  | succ f ih =>
    unfold gcdLoop
    have hmo := stripTwos_odd 64 n2 h2 hb2
    have hm64 := Nat.lt_of_le_of_lt (stripTwos_le 64 n2) hb2
    have hmf : n1 + stripTwos 64 n2 < f + 1 :=
      Nat.lt_of_le_of_lt (Nat.add_le_add_left (stripTwos_le 64 n2) n1) hf
    rw [← stripTwos_gcd n1 h1 64 n2]
    generalize stripTwos 64 n2 = m at *
    clear hf hb2 h2
    by_cases hgt : n1 > m
    · have h0 : n1 - m ≠ 0 := Nat.sub_ne_zero_of_lt hgt
      simp only [hgt, if_true]
      rw [if_neg h0, ih m (n1 - m) hmo h0 hm64 (Nat.lt_of_le_of_lt (Nat.sub_le _ _) hb1) (by omega),
        Nat.gcd_sub_self_right (Nat.le_of_lt hgt), Nat.gcd_comm]
    · have hle : n1 ≤ m := Nat.not_lt.1 hgt
      simp only [hgt, if_false]
      split
      · rename_i h
        rw [Nat.le_antisymm (Nat.sub_eq_zero_iff_le.1 h) hle, Nat.gcd_self]
      · rename_i h
        rw [ih n1 (m - n1) h1 h hb1 (Nat.lt_of_le_of_lt (Nat.sub_le _ _) hm64) (by omega),
          Nat.gcd_sub_self_right hle]

/-- the three loops of `isize_gcd` on two non-zero magnitudes of machine words. -/
theorem gcdWords (x y : Nat) (hx : x ≠ 0) (hy : y ≠ 0) (hx64 : x < 2 ^ 64) (hy64 : y < 2 ^ 64) :
    ∃ a b s, commonTwos 64 x y 0 = (a, b, s) ∧
      gcdLoop (stripTwos 64 a + b + 1) (stripTwos 64 a) b * 2 ^ s = Nat.gcd x y := by
  obtain ⟨a, b, k, hc, ha, hb, hodd⟩ := commonTwos_spec 64 x y 0
  refine ⟨a, b, _, hc, ?_⟩
  have hk : 0 < 2 ^ k := Nat.two_pow_pos k
  have ha0 : a ≠ 0 := fun e => hx (by rw [ha, e, Nat.zero_mul])
  have hb0 : b ≠ 0 := fun e => hy (by rw [hb, e, Nat.zero_mul])
  have ha64 : a < 2 ^ 64 := Nat.lt_of_le_of_lt (ha ▸ Nat.le_mul_of_pos_right a hk) hx64
  have hb64 : b < 2 ^ 64 := Nat.lt_of_le_of_lt (hb ▸ Nat.le_mul_of_pos_right b hk) hy64
  have hsle := stripTwos_le 64 a
  rw [gcdLoop_spec _ _ _ (stripTwos_odd 64 a ha0 ha64) hb0 (by omega) hb64 (by omega),
    Nat.zero_add, ha, hb, Nat.gcd_mul_right]
  congr 1
  rcases hodd hx hx64 with ho | ho
  · rw [stripTwos_of_odd 64 a ho]
  · rw [Nat.gcd_comm, stripTwos_gcd b ho, Nat.gcd_comm]

/-! ### shifts: the `leading_zeros` guard, sign fill, the side conditions -/

theorem lt_pow_bitlen (n : Nat) : n < 2 ^ leadingZeros.Nat.log2' n := by
  unfold leadingZeros.Nat.log2'
  split
  · rename_i h; rw [h]; decide
  · exact Nat.lt_log2_self

theorem shl_fits_nat (n L t : Nat) (h : n < 2 ^ L) (hl : L + t ≤ 63) : n * 2 ^ t < 2 ^ 63 := by
  have h1 : n * 2 ^ t < 2 ^ L * 2 ^ t := Nat.mul_lt_mul_of_pos_right h (Nat.two_pow_pos t)
  rw [← Nat.pow_add] at h1
  exact Nat.lt_of_lt_of_le h1 (Nat.pow_le_pow_right (by decide) hl)

theorem shl_fits (x s : Int) (hx : 0 ≤ x) (hs0 : 0 ≤ s) (hs : s < (leadingZeros x : Int)) :
    0 ≤ x * 2 ^ s.toNat ∧ x * 2 ^ s.toNat < 2 ^ 63 := by
  have hb := lt_pow_bitlen x.toNat
  unfold leadingZeros at hs
  have := shl_fits_nat x.toNat _ s.toNat hb (by omega)
  have e : x * 2 ^ s.toNat = ((x.toNat * 2 ^ s.toNat : Nat) : Int) := by
    rw [Int.natCast_mul, Int.toNat_of_nonneg hx, Int.natCast_pow]; rfl
  rw [e]
  constructor
  · exact Int.natCast_nonneg _
  · exact_mod_cast this

theorem pow_le_pow_int (k n : Nat) (h : k ≤ n) : (2:Int) ^ k ≤ 2 ^ n := by
  have := Nat.pow_le_pow_right (by decide : 2 > 0) h
  exact_mod_cast this

theorem ediv_pow_signfill (a : Int) (k n : Nat) (hk : k ≤ n)
    (hlo : -(2 ^ k) ≤ a) (hhi : a < 2 ^ k) : a / 2 ^ n = if a < 0 then -1 else 0 := by
  have hm := pow_le_pow_int k n hk
  generalize (2:Int) ^ n = m at *
  generalize (2:Int) ^ k = c at *
  have hpos : 0 < m := by omega
  split
  · have := (Int.ediv_emod_unique (a := a) (b := m) (r := a + m) (q := -1) hpos).2
      ⟨by omega, by omega, by omega⟩
    exact this.1
  · exact Int.ediv_eq_zero_of_lt (by omega) (by omega)

/-- The "fits in memory" bound: `a` has fewer than `usize::MAX` significant bits, i.e.
`-2^(2^64-1) ≤ a < 2^(2^64-1)`. Every value a 64-bit machine can hold satisfies it (the comment
in `shr` of `arithmetic_ops.rs`: such a bignum would need 2 EiB). -/
def FitsMem (a : Int) : Prop :=
  -((2:Int) ^ USIZE_MAX.toNat) ≤ a ∧ a < (2:Int) ^ USIZE_MAX.toNat

/-- side condition of a right shift of `a` by `c ≥ 0`: the count is not clamped, or the clamp is
harmless because `a` fits in memory. -/
def shrOk (a c : Int) : Prop := c ≤ USIZE_MAX ∨ FitsMem a

/-- side condition of a left shift of `a` by `c ≥ 0`: the count is not clamped (otherwise the
exact result `a * 2^c` cannot be represented at all, unless `a = 0`). -/
def shlOk (a c : Int) : Prop := c ≤ USIZE_MAX ∨ a = 0

/-- domain side conditions of the binary operations (only shifts have one). -/
def binDomain : BinOp → Int → Int → Prop
  | .shl, a, b => if b ≥ 0 then shlOk a b else shrOk a (-b)
  | .shr, a, b => if b ≥ 0 then shrOk a b else shlOk a (-b)
  | _, _, _ => True

/-- The side condition of `C01_eval_exact`: every shift inside `e` either has a count that
survives the clamp to `usize::MAX`, or the clamp is harmless (right shift of a value that fits in
memory / left shift of 0). It is phrased over the *specification* values (`evalSpec`), so it
does not mention the model. Everything a 64-bit machine can evaluate without running out of
memory satisfies it. -/
def InDomain : Expr → Prop
  | .lit _ => True
  | .un _ e => InDomain e
  | .bin op l r => InDomain l ∧ InDomain r ∧
      ∀ a b, evalSpec l = .ok a → evalSpec r = .ok b → binDomain op a b

theorem fitsMem_of_inFix (a : Int) (h : inFix a = true) : FitsMem a := by
  have h := (inFix_iff a).1 h
  have := pow_le_pow_int 55 USIZE_MAX.toNat (by unfold USIZE_MAX; omega)
  unfold FitsMem
  generalize (2:Int) ^ USIZE_MAX.toNat = m at *
  omega

theorem shrNonneg_wf (a : Num) (n : Int) : (shrNonneg a n).wf := by
  cases a <;> simp only [shrNonneg]
  · exact ofI64_wf _
  · exact ofBig_wf _

theorem shlNonneg_wf (a : Num) (n : Int) : (shlNonneg a n).wf := by
  cases a <;> simp only [shlNonneg]
  · split
    · exact ofI64_wf _
    · exact ofBig_wf _
  · exact ofBig_wf _

-- the test `shr`/`shl` make on the sign of the count, as the specification writes it
theorem isNeg_ite {α : Type} (b : Num) (x y : α) :
    (if b.isNeg then x else y) = if b.val ≥ 0 then y else x := by
  unfold Num.isNeg
  by_cases h : b.val < 0
  · rw [if_pos (decide_eq_true h), if_neg (by omega)]
  · rw [if_neg (by rw [decide_eq_false h]; exact Bool.false_ne_true), if_pos (by omega)]

theorem shr_wf (a b : Num) : (shr a b).wf := by
  unfold shr; split
  · exact shlNonneg_wf _ _
  · exact shrNonneg_wf _ _

theorem shl_wf (a b : Num) : (shl a b).wf := by
  unfold shl; split
  · exact shrNonneg_wf _ _
  · exact shlNonneg_wf _ _

/-! ### the power loops and the guards of `int_pow` -/

/-- one round of square-and-multiply keeps `acc * base ^ e`; both power loops step this way. -/
theorem sqmul_step (acc base : Int) (e : Nat) :
    (if e % 2 = 1 then acc * base else acc) * (base * base) ^ (e / 2) = acc * base ^ e := by
  have h := Nat.div_add_mod e 2
  conv => rhs; rw [← h, Int.pow_add, Int.pow_mul, Int.pow_succ, Int.pow_one]
  rcases Nat.mod_two_eq_zero_or_one e with h0 | h1
  · rw [h0, if_neg (by decide), Int.pow_zero, Int.mul_one]
  · rw [h1, if_pos rfl, Int.pow_one, Int.mul_assoc, Int.mul_comm base]

theorem neg_one_pow (n : Nat) : (-1 : Int) ^ n = if n % 2 = 0 then 1 else -1 := by
  have h := sqmul_step 1 (-1) n
  rw [Int.one_mul, Int.one_mul, show (-1 : Int) * -1 = 1 from rfl, Int.one_pow, Int.mul_one] at h
  rw [← h]
  rcases Nat.mod_two_eq_zero_or_one n with h0 | h1
  · rw [h0]; rfl
  · rw [h1]; rfl

/-- `i64::checked_pow`: whatever the loop returns is `acc * base ^ e`, and it passed a `checked_mul`,
so it is inside i64. -/
theorem checkedPowLoop_spec (fuel : Nat) (base acc : Int) (e : Nat) (r : Int)
    (h : checkedPowLoop fuel base acc e = some r) : r = acc * base ^ e ∧ inI64 r = true := by
  induction fuel generalizing base acc e with
  | zero => cases h
  | succ f ih =>
    unfold checkedPowLoop at h
    -- an arm that returns `none` is a `checked_mul` that overflowed: `cases h` refutes it
    split at h
    · rename_i hodd
      split at h
      · cases h
      · rename_i hin
        split at h
        -- last bit of the exponent: `acc * base` is returned without squaring `base` once more
        · rename_i h1; cases h; exact ⟨by rw [h1, Int.pow_one], by simpa using hin⟩
        · split at h
          · cases h
          · obtain ⟨hv, hi⟩ := ih _ _ _ h
            exact ⟨by rw [hv, ← sqmul_step acc base e, if_pos hodd], hi⟩
    · rename_i heven
      split at h
      · cases h
      · obtain ⟨hv, hi⟩ := ih _ _ _ h
        exact ⟨by rw [hv, ← sqmul_step acc base e, if_neg heven], hi⟩

theorem binaryPowLoop_val (fuel : Nat) (n oddand : Int) (p : Nat) (hp : 1 ≤ p) (hf : p < 2 ^ fuel) :
    binaryPowLoop fuel n oddand p = oddand * n ^ p := by
  induction fuel generalizing n oddand p with
  | zero => simp at hf; omega
  | succ f ih =>
    unfold binaryPowLoop
    split
    · rw [ih _ _ _ (by omega) (by rw [Nat.pow_succ] at hf; omega), sqmul_step]
    · have : p = 1 := by omega
      rw [this, Int.pow_one, Int.mul_comm]

theorem isUnitOrZero_iff (a : Int) : isUnitOrZero a = true ↔ (a = 1 ∨ a = 0 ∨ a = -1) := by
  unfold isUnitOrZero; simp [or_assoc]

/-- the guard of every `int_pow` arm, against the specification's guard (which leaves `0` out: that case
has been raised before). -/
theorem powGuard_iff (x n : Int) (h0 : ¬ (x = 0 ∧ n < 0)) :
    ((!isUnitOrZero x && decide (n < 0)) = true) ↔ (n < 0 ∧ x ≠ 1 ∧ x ≠ -1) := by
  rw [Bool.and_eq_true, Bool.not_eq_true', ← Bool.not_eq_true, isUnitOrZero_iff, decide_eq_true_iff]
  exact ⟨fun ⟨hu, hn⟩ => ⟨hn, fun h => hu (.inl h), fun h => hu (.inr (.inr h))⟩,
    fun ⟨hn, h1, h2⟩ => ⟨fun h => h.elim h1 fun h => h.elim (fun h => h0 ⟨h, hn⟩) h2, hn⟩⟩

theorem zeroNegGuard_iff (a b : Num) :
    ((a.isZero && b.isNeg) = true) ↔ (a.val = 0 ∧ b.val < 0) := by
  unfold Num.isZero Num.isNeg
  rw [Bool.and_eq_true, decide_eq_true_iff, decide_eq_true_iff]

/-! ### the zero-divisor error of the division operations -/

theorem zeroDivisor_iff (x : R) (b v : Int)
    (h : x.map Num.val = if b = 0 then .error .zeroDivisor else .ok v) :
    x = .error .zeroDivisor ↔ b = 0 := by
  by_cases hb : b = 0
  · rw [if_pos hb] at h
    cases x with
    | error e => cases h; exact ⟨fun _ => hb, fun _ => rfl⟩
    | ok n => cases h
  · rw [if_neg hb] at h
    cases x with
    | error e => cases h
    | ok n => exact ⟨fun h' => (nomatch h'), fun h' => absurd h' hb⟩

end Scryer.Arith
