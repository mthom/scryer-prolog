import ScryerModel.Model.Order
import ScryerModel.Proofs.Utf8
import ScryerModel.Proofs.FracCompare
import ScryerModel.Proofs.Binary64
import Mathlib.Logic.Equiv.List
/-!
C13 (`Model/Order.lean`): the standard order is a total preorder on all terms and a total order
on normal ones. The laws are carried through the lexicographic compositions as one fact about a
triple of results (`Tri`); rationals and floats are compared by exact value, UTF-8 keeps the
order of code points, and the tail cell of a partial string is computed from `e % 8`.
-/
namespace Scryer.Order

/-! ### the laws on a triple, and lexicographic composition -/

/-- the facts a comparison must satisfy on a triple `a b c`, in terms of the three results
    `ab = cmp a b`, `bc = cmp b c`, `ac = cmp a c`. -/
structure Tri (ab bc ac : Ordering) : Prop where
  lt_lt : ab = .lt → bc = .lt → ac = .lt
  gt_gt : ab = .gt → bc = .gt → ac = .gt
  eq_l : ab = .eq → ac = bc
  eq_r : bc = .eq → ab = ac

theorem Tri.const (o : Ordering) : Tri o o o := by
  constructor <;> simp

/-! a strict first or second result settles the triple, whatever the remaining one is; after `lt` then
`gt` (or `gt` then `lt`) no law has its premises, so the third result is free -/

theorem Tri.lt_left (o : Ordering) : Tri .lt o .lt := ⟨fun _ _ => rfl, nofun, nofun, fun _ => rfl⟩
theorem Tri.gt_left (o : Ordering) : Tri .gt o .gt := ⟨nofun, fun _ _ => rfl, nofun, fun _ => rfl⟩
theorem Tri.lt_right (o : Ordering) : Tri o .lt .lt := ⟨fun _ _ => rfl, nofun, fun _ => rfl, nofun⟩
theorem Tri.gt_right (o : Ordering) : Tri o .gt .gt := ⟨nofun, fun _ _ => rfl, fun _ => rfl, nofun⟩
theorem Tri.lt_gt (o : Ordering) : Tri .lt .gt o := ⟨nofun, nofun, nofun, nofun⟩
theorem Tri.gt_lt (o : Ordering) : Tri .gt .lt o := ⟨nofun, nofun, nofun, nofun⟩

/-- lexicographic composition; the second components are consulted only where both first
    results are `eq`. -/
theorem Tri.then {ab bc ac ab' bc' ac' : Ordering} (h : Tri ab bc ac)
    (h' : ab = .eq → bc = .eq → Tri ab' bc' ac') :
    Tri (ab.then ab') (bc.then bc') (ac.then ac') := by
  cases ab with
  | eq =>
    rw [h.eq_l rfl]
    cases bc with
    | eq => exact h' rfl rfl
    | lt => exact .lt_right _
    | gt => exact .gt_right _
  | lt =>
    cases bc with
    | eq => rw [← h.eq_r rfl]; exact .lt_left _
    | lt => rw [h.lt_lt rfl rfl]; exact .const _
    | gt => exact .lt_gt _
  | gt =>
    cases bc with
    | eq => rw [← h.eq_r rfl]; exact .gt_left _
    | lt => exact .gt_lt _
    | gt => rw [h.gt_gt rfl rfl]; exact .const _

theorem Tri.then' {ab bc ac ab' bc' ac' : Ordering} (h : Tri ab bc ac) (h' : Tri ab' bc' ac') :
    Tri (ab.then ab') (bc.then bc') (ac.then ac') := h.then (fun _ _ => h')

theorem Tri.le_trans {ab bc ac : Ordering} (t : Tri ab bc ac) (h1 : ab ≠ .gt) (h2 : bc ≠ .gt) :
    ac ≠ .gt := by
  cases ab with
  | eq => rw [t.eq_l rfl]; exact h2
  | gt => exact absurd rfl h1
  | lt =>
    cases bc with
    | eq => rw [← t.eq_r rfl]; nofun
    | gt => exact absurd rfl h2
    | lt => rw [t.lt_lt rfl rfl]; nofun

theorem tri_compare {α : Type} [LinearOrder α] (x y z : α) :
    Tri (compare x y) (compare y z) (compare x z) where
  lt_lt := by simp only [compare_lt_iff_lt]; exact lt_trans
  gt_gt := by simp only [compare_gt_iff_gt]; exact fun h1 h2 => lt_trans h2 h1
  eq_l h := by rw [compare_eq_iff_eq.mp h]
  eq_r h := by rw [compare_eq_iff_eq.mp h]

theorem then_of_ne_eq {o : Ordering} (h : o ≠ .eq) (x : Ordering) : o.then x = o := by
  cases o
  · rfl
  · exact absurd rfl h
  · rfl

section cmpList
variable {α : Type} {cmp : α → α → Ordering}

@[simp] theorem cmpList_nil_nil : cmpList cmp [] [] = .eq := rfl
@[simp] theorem cmpList_nil_cons (b : α) (bs) : cmpList cmp [] (b :: bs) = .lt := rfl
@[simp] theorem cmpList_cons_nil (a : α) (as) : cmpList cmp (a :: as) [] = .gt := rfl
@[simp] theorem cmpList_cons_cons (a b : α) (as bs) :
    cmpList cmp (a :: as) (b :: bs) = (cmp a b).then (cmpList cmp as bs) := rfl

theorem cmpList_swap (as bs : List α) (h : ∀ a ∈ as, ∀ b, cmp b a = (cmp a b).swap) :
    cmpList cmp bs as = (cmpList cmp as bs).swap := by
  induction as generalizing bs with
  | nil => cases bs <;> rfl
  | cons a as ih =>
    obtain ⟨h1, h2⟩ := List.forall_mem_cons.1 h
    cases bs with
    | nil => rfl
    | cons b bs => rw [cmpList_cons_cons, cmpList_cons_cons, Ordering.swap_then, h1 b, ih bs h2]

theorem cmpList_tri (as bs cs : List α)
    (h : ∀ a ∈ as, ∀ b ∈ bs, ∀ c ∈ cs, Tri (cmp a b) (cmp b c) (cmp a c)) :
    Tri (cmpList cmp as bs) (cmpList cmp bs cs) (cmpList cmp as cs) := by
  induction as generalizing bs cs with
  | nil =>
    cases bs with
    | nil => cases cs; exacts [.const _, .lt_right _]
    | cons b bs => cases cs; exacts [.lt_gt _, .lt_left _]
  | cons a as ih =>
    cases bs with
    | nil => cases cs; exacts [.gt_left _, .gt_lt _]
    | cons b bs =>
      cases cs with
      | nil => exact .gt_right _
      | cons c cs =>
        exact (h a List.mem_cons_self b List.mem_cons_self c List.mem_cons_self).then'
          (ih bs cs (fun x hx y hy z hz => h x (List.mem_cons_of_mem _ hx) y
            (List.mem_cons_of_mem _ hy) z (List.mem_cons_of_mem _ hz)))

theorem cmpList_eq_iff (as bs : List α) (h : ∀ a ∈ as, ∀ b ∈ bs, (cmp a b = .eq ↔ a = b)) :
    cmpList cmp as bs = .eq ↔ as = bs := by
  induction as generalizing bs with
  | nil => cases bs <;> simp
  | cons a as ih =>
    cases bs with
    | nil => simp
    | cons b bs =>
      simp only [cmpList_cons_cons, Ordering.then_eq_eq, List.cons.injEq]
      rw [h a List.mem_cons_self b List.mem_cons_self, ih bs (fun x hx y hy => h x (List.mem_cons_of_mem _ hx) y (List.mem_cons_of_mem _ hy))]

theorem cmpList_append (p as bs : List α) (h : ∀ a, cmp a a = .eq) :
    cmpList cmp (p ++ as) (p ++ bs) = cmpList cmp as bs := by
  induction p with
  | nil => rfl
  | cons x p ih => simp [h, ih]

end cmpList

/-! ### rationals and floats: comparison by exact value -/

theorem ratCmp_eq_compare (a b : Int × Nat) (ha : 0 < a.2) (hb : 0 < b.2) :
    ratCmp a b = compare ((a.1 : ℚ) / (a.2 : ℚ)) ((b.1 : ℚ) / (b.2 : ℚ)) :=
  compare_cross_mul a.1 b.1 a.2 b.2 ha hb

theorem ratCmp_swap (a b : Int × Nat) : ratCmp b a = (ratCmp a b).swap :=
  (Int.compare_swap _ _).symm

theorem ratCmp_tri (a b c : Int × Nat) (ha : 0 < a.2) (hb : 0 < b.2) (hc : 0 < c.2) :
    Tri (ratCmp a b) (ratCmp b c) (ratCmp a c) := by
  rw [ratCmp_eq_compare a b ha hb, ratCmp_eq_compare b c hb hc, ratCmp_eq_compare a c ha hc]
  exact tri_compare _ _ _

theorem ratCmp_same_den (a b : Int) (D : Nat) (hD : 0 < D) :
    ratCmp (a, D) (b, D) = compare a b := by
  have hm : StrictMono fun z : Int => z * (D : Int) :=
    fun _ _ h => Int.mul_lt_mul_of_pos_right h (Int.natCast_pos.mpr hD)
  rw [← cmp_eq_compare, ← hm.cmp_map_eq, cmp_eq_compare]; rfl

theorem rat_eq_of_cross {a b : Int × Nat} (ha : Nat.gcd a.1.natAbs a.2 = 1 ∧ 0 < a.2)
    (hb : Nat.gcd b.1.natAbs b.2 = 1 ∧ 0 < b.2) (h : ratCmp a b = .eq) : a = b := by
  rw [ratCmp_eq_compare _ _ ha.2 hb.2, compare_eq_iff_eq] at h
  obtain ⟨e1, e2⟩ := Rat.div_int_inj (Int.natCast_pos.mpr ha.2) (Int.natCast_pos.mpr hb.2) ha.1 hb.1
    (by simpa using h)
  exact Prod.ext e1 (Int.natCast_inj.mp e2)

/-- order on `Option Int` with `none` (NaN) on top. -/
def optCmp : Option Int → Option Int → Ordering
  | some a, some b => compare a b
  | none, none => .eq
  | none, some _ => .gt
  | some _, none => .lt

theorem optCmp_eq_iff (a b : Option Int) : optCmp a b = .eq ↔ a = b := by
  cases a <;> cases b <;> simp [optCmp]

theorem optCmp_swap (a b : Option Int) : optCmp b a = (optCmp a b).swap := by
  cases a <;> cases b <;> first | rfl | exact (Int.compare_swap _ _).symm

theorem optCmp_tri (a b c : Option Int) : Tri (optCmp a b) (optCmp b c) (optCmp a c) := by
  cases a with
  | none =>
    cases b with
    | none => cases c; exacts [.const _, .gt_right _]
    | some b => cases c; exacts [.gt_lt _, .gt_left _]
  | some a =>
    cases b with
    | none => cases c; exacts [.lt_left _, .lt_gt _]
    | some b => cases c; exacts [.lt_right _, tri_compare a b _]

/-- `2 ^ 1075` is the denominator `fltToRat` gives every double. -/
theorem two_pow_pos' : (0 : Int) < ((2 ^ 1075 : Nat) : Int) :=
  Int.natCast_pos.mpr (Nat.two_pow_pos 1075)

theorem fltCmp_eq_optCmp (x y : Nat) : fltCmp x y = optCmp (fltScaled x) (fltScaled y) := by
  unfold fltCmp fltToRat
  cases fltScaled x <;> cases fltScaled y <;> simp only [Option.map, optCmp]
  exact ratCmp_same_den _ _ _ (Nat.two_pow_pos 1075)

theorem fltToRat_den_pos (x : Nat) (a : Int × Nat) (h : fltToRat x = some a) : 0 < a.2 := by
  obtain ⟨n, -, rfl⟩ := Option.map_eq_some_iff.mp h
  exact Nat.two_pow_pos 1075

theorem fltCmp_swap (x y : Nat) : fltCmp y x = (fltCmp x y).swap := by
  rw [fltCmp_eq_optCmp, fltCmp_eq_optCmp, optCmp_swap]
theorem fltCmp_tri (x y z : Nat) : Tri (fltCmp x y) (fltCmp y z) (fltCmp x z) := by
  simp only [fltCmp_eq_optCmp]; exact optCmp_tri _ _ _

/-- canonical double: 64 bits, not `-0.0`, not a NaN. -/
def FltCanon (b : Nat) : Prop :=
  b < 2 ^ 64 ∧ b ≠ 2 ^ 63 ∧ ¬ (fltExp b = 2047 ∧ fltMant b ≠ 0)

theorem fltMant_lt (b : Nat) : fltMant b < 2 ^ 52 := Nat.mod_lt _ (Nat.two_pow_pos 52)

/-- the magnitude, scaled by 2^1075, is twice the grid value of the low 63 bits. -/
theorem fltScaled_eq (b : Nat) (h : ¬ (fltExp b = 2047 ∧ fltMant b ≠ 0)) :
    fltScaled b = some (if fltSign b then -((2 * Binary64.val (2 ^ 52) (b % 2 ^ 63) : Nat) : Int)
                        else ((2 * Binary64.val (2 ^ 52) (b % 2 ^ 63) : Nat) : Int)) := by
  have hb : b % 2 ^ 63 = fltExp b * 2 ^ 52 + fltMant b := by
    rw [show (2 : Nat) ^ 63 = 2 ^ 52 * 2048 by decide, Nat.mod_mul, Nat.add_comm, Nat.mul_comm]; rfl
  have hv := Binary64.val_fields (Nat.two_pow_pos 52) (fltExp b) (fltMant_lt b)
  rw [← hb] at hv
  unfold fltScaled
  simp only [h, if_false, hv]

/-- the sign-bit half of `fltScaled_inj`: equal signed magnitudes have equal magnitudes, and equal signs
    unless the magnitude is zero; `eq_of_lt_two` then turns equal `fltSign`s into equal bits 63. -/
theorem signed_inj {s t : Bool} {m n : Nat}
    (h : (if s then -(m : Int) else m) = if t then -(n : Int) else n) :
    m = n ∧ (m ≠ 0 → s = t) := by
  cases s <;> cases t <;> simp only [if_true, if_false, Bool.false_eq_true] at h
  · exact ⟨Int.natCast_inj.mp h, fun _ => rfl⟩
  · exact ⟨by omega, fun hm => absurd h (by omega)⟩
  · exact ⟨by omega, fun hm => absurd h (by omega)⟩
  · exact ⟨Int.natCast_inj.mp (Int.neg_inj.mp h), fun _ => rfl⟩

theorem eq_of_lt_two : ∀ a, a < 2 → ∀ b, b < 2 → (a % 2 == 1) = (b % 2 == 1) → a = b := by
  decide

/-- equal values have equal low 63 bits (the grid is injective); the sign bit agrees unless the
magnitude is zero, and a canonical zero is `+0.0`. -/
theorem fltScaled_inj (x y : Nat) (hx : FltCanon x) (hy : FltCanon y)
    (h : fltScaled x = fltScaled y) : x = y := by
  rw [fltScaled_eq x hx.2.2, fltScaled_eq y hy.2.2, Option.some.injEq] at h
  obtain ⟨hmag, hsign⟩ := signed_inj h
  have hlow := Binary64.val_inj (Nat.two_pow_pos 52) (Nat.eq_of_mul_eq_mul_left (by decide) hmag)
  obtain ⟨hx64, hx63, -⟩ := hx
  obtain ⟨hy64, hy63, -⟩ := hy
  by_cases hz : x % 2 ^ 63 = 0
  · omega
  · have hs := hsign fun h0 => hz (Binary64.val_inj (Nat.two_pow_pos 52)
      (b := 0) (Nat.eq_of_mul_eq_mul_left (by decide) h0))
    exact Nat.ext_div_mod
      (eq_of_lt_two _ (Nat.div_lt_of_lt_mul hx64) _ (Nat.div_lt_of_lt_mul hy64) hs) hlow

theorem fltCmp_eq_iff (x y : Nat) (hx : FltCanon x) (hy : FltCanon y) :
    fltCmp x y = .eq ↔ x = y := by
  rw [fltCmp_eq_optCmp, optCmp_eq_iff]
  exact ⟨fltScaled_inj x y hx hy, congrArg _⟩

/-- `-0.0` and `0.0` compare equal. -/
theorem fltCmp_neg_zero : fltCmp 0x8000000000000000 0 = .eq := by
  rw [fltCmp_eq_optCmp]; decide

/-! ### atoms: UTF-8 byte order = code point order -/

theorem cmpList_head_lt {a b : Nat} (h : a < b) (u v : List Nat) :
    cmpList compare (a :: u) (b :: v) = .lt := by
  rw [cmpList_cons_cons, compare_lt_iff_lt.mpr h]; rfl

/-- lead byte `K + c / 64^k` followed by the `k` low base-64 digits of `c` as continuation bytes. -/
def body (K : Nat) : Nat → Nat → List Nat
  | 0, c => [K + c]
  | k + 1, c => body K k (c / 64) ++ [0x80 + c % 64]

/-- encodings of one length: the first differing base-64 digit decides, whatever follows. -/
theorem body_lt (K : Nat) (k : Nat) {c d : Nat} (h : c < d) (r1 r2 : List Nat) :
    cmpList compare (body K k c ++ r1) (body K k d ++ r2) = .lt := by
  induction k generalizing c d r1 r2 with
  | zero => exact cmpList_head_lt (Nat.add_lt_add_left h K) _ _
  | succ k ih =>
    rw [body, body, List.append_assoc, List.append_assoc]
    rcases Nat.lt_or_eq_of_le (Nat.div_le_div_right (c := 64) h.le) with hq | hq
    · exact ih hq _ _
    · rw [hq, cmpList_append _ _ _ fun _ => compare_eq_iff_eq.mpr rfl]
      refine cmpList_head_lt (Nat.add_lt_add_left ?_ _) _ _
      have := Nat.div_add_mod c 64
      have := Nat.div_add_mod d 64
      omega

/-- lead bytes of encodings of different lengths lie in disjoint ascending ranges. -/
theorem lead_lt {k x B m k' : Nat} (y : Nat) (hx : x < B * m) (hk : k + m ≤ k') :
    k + x / B < k' + y :=
  calc k + x / B < k + m := Nat.add_lt_add_left (Nat.div_lt_of_lt_mul hx) k
    _ ≤ k' + y := Nat.le_add_right_of_le hk

/-- the same four-way `if` as `Utf8.encode`, whose lemmas serve here. -/
theorem utf8_eq_encode (c : Nat) : utf8 c = Utf8.encode c := rfl

/-- the thresholds are met for `d` and `c` in turn. Below the next threshold while `d` is not, `c`
    has the smaller lead byte whatever longer form `d` takes (`split` goes through those forms);
    in the same range the two are `body`s of one length. -/
theorem utf8_lt (c d : Nat) (h : c < d) (r1 r2 : List Nat) :
    cmpList compare (utf8 c ++ r1) (utf8 d ++ r2) = .lt := by
  rw [utf8_eq_encode, utf8_eq_encode, Utf8.encode_eq, Utf8.encode_eq]
  rcases Nat.lt_or_ge d 0x80 with d1 | d1
  · rw [if_pos d1, if_pos (Nat.lt_trans h d1)]; exact cmpList_head_lt h _ _
  rw [if_neg (Nat.not_lt.2 d1)]
  rcases Nat.lt_or_ge c 0x80 with c1 | c1
  · rw [if_pos c1]; repeat' split
    all_goals exact cmpList_head_lt (Nat.lt_of_lt_of_le c1 (Nat.le_add_right_of_le (by decide))) _ _
  rw [if_neg (Nat.not_lt.2 c1)]
  rcases Nat.lt_or_ge d 0x800 with d2 | d2
  · rw [if_pos d2, if_pos (Nat.lt_trans h d2)]; exact body_lt 0xC0 1 h _ _
  rw [if_neg (Nat.not_lt.2 d2)]
  rcases Nat.lt_or_ge c 0x800 with c2 | c2
  · rw [if_pos c2]; repeat' split
    -- `0x800 = 64 * 32`: a two-byte lead is below `0xC0 + 32 = 0xE0`
    all_goals exact cmpList_head_lt (lead_lt (B := 64) (m := 32) _ c2 (by decide)) _ _
  rw [if_neg (Nat.not_lt.2 c2)]
  rcases Nat.lt_or_ge d 0x10000 with d3 | d3
  · rw [if_pos d3, if_pos (Nat.lt_trans h d3)]; exact body_lt 0xE0 2 h _ _
  rw [if_neg (Nat.not_lt.2 d3)]
  rcases Nat.lt_or_ge c 0x10000 with c3 | c3
  · rw [if_pos c3]
    -- `0x10000 = 64 * (64 * 16)`: a three-byte lead is below `0xE0 + 16 = 0xF0`
    exact cmpList_head_lt (lead_lt (B := 64) (m := 16) _ (Nat.div_lt_of_lt_mul c3) (by decide)) _ _
  · rw [if_neg (Nat.not_lt.2 c3)]; exact body_lt 0xF0 3 h _ _

theorem cmp_utf8_append (c d : Nat) (r1 r2 : List Nat) :
    cmpList compare (utf8 c ++ r1) (utf8 d ++ r2) = (compare c d).then (cmpList compare r1 r2) := by
  rcases lt_trichotomy c d with h | h | h
  · rw [compare_lt_iff_lt.mpr h, utf8_lt c d h]; rfl
  · subst h
    rw [compare_eq_iff_eq.mpr rfl, cmpList_append _ _ _ fun _ => compare_eq_iff_eq.mpr rfl]; rfl
  · rw [compare_gt_iff_gt.mpr h,
      cmpList_swap (utf8 d ++ r2) (utf8 c ++ r1) (fun a _ b => (Nat.compare_swap a b).symm),
      utf8_lt d c h]; rfl

/-- for code points of any size: the lead byte of the longest form is not bounded in the model. -/
theorem utf8s_cmp (xs ys : List Nat) :
    cmpList compare (utf8s xs) (utf8s ys) = cmpList compare xs ys := by
  induction xs generalizing ys with
  | nil =>
    cases ys with
    | nil => rfl
    | cons y ys =>
      simp only [utf8s, List.flatMap_nil, List.flatMap_cons, cmpList_nil_cons]
      cases hu : utf8 y with
      | nil => exact absurd hu (Utf8.encode_ne_nil y)
      | cons b bs => rfl
  | cons x xs ih =>
    cases ys with
    | nil =>
      simp only [utf8s, List.flatMap_nil, List.flatMap_cons, cmpList_cons_nil]
      cases hu : utf8 x with
      | nil => exact absurd hu (Utf8.encode_ne_nil x)
      | cons b bs => rfl
    | cons y ys =>
      have := ih ys
      simp only [utf8s, List.flatMap_cons, cmpList_cons_cons] at this ⊢
      rw [cmp_utf8_append, this]

theorem atomCmp_swap (s t : String) : atomCmp t s = (atomCmp s t).swap :=
  cmpList_swap _ _ (fun a _ b => (Nat.compare_swap a b).symm)
/-- a result that is its own mirror image is `eq`: reflexivity is the diagonal of antisymmetry. -/
theorem atomCmp_refl (s : String) : atomCmp s s = .eq :=
  Ordering.eq_swap_iff_eq_eq.mp (atomCmp_swap s s)
theorem atomCmp_tri (s t u : String) : Tri (atomCmp s t) (atomCmp t u) (atomCmp s u) :=
  cmpList_tri _ _ _ (fun a _ b _ c _ => tri_compare a b c)

theorem codes_inj {s t : String} (h : codes s = codes t) : s = t :=
  String.ext (List.map_injective_iff.mpr (fun _ _ => Char.toNat_inj.mp) h)

theorem atomCmp_eq_iff (s t : String) : atomCmp s t = .eq ↔ s = t := by
  unfold atomCmp
  rw [cmpList_eq_iff _ _ (fun a _ b _ => compare_eq_iff_eq)]
  exact ⟨codes_inj, fun h => h ▸ rfl⟩

/-! ### terms: the category, then the leaf comparison or the compound clause -/

theorem term_ind {P : Term → Prop} (leaf : ∀ a, cat a ≠ 4 → P a)
    (str : ∀ f as, (∀ a ∈ as, P a) → P (.str f as)) : ∀ t, P t :=
  Term.rec (motive_1 := P) (motive_2 := fun as => ∀ a ∈ as, P a)
    (fun _ => leaf _ nofun) (fun _ => leaf _ nofun) (fun _ _ => leaf _ nofun)
    (fun _ => leaf _ nofun) (fun _ => leaf _ nofun) (fun f as ih => str f as ih)
    (fun _ h => nomatch h)
    (fun a as ha has x hx => by
      rcases List.mem_cons.mp hx with h | h
      · exact h ▸ ha
      · exact has x h)

theorem cat_var_inv {a : Term} (h : cat a = 0) : ∃ x, a = .var x := by
  cases a <;> first | exact ⟨_, rfl⟩ | cases h

theorem cat_flt_inv {a : Term} (h : cat a = 1) : ∃ x, a = .flt x := by
  cases a <;> first | exact ⟨_, rfl⟩ | cases h

theorem cat_num_inv {a : Term} (h : cat a = 2) : (∃ v, a = .int v) ∨ ∃ n d, a = .rat n d := by
  cases a <;> first | exact .inl ⟨_, rfl⟩ | exact .inr ⟨_, _, rfl⟩ | cases h

theorem cat_atom_inv {a : Term} (h : cat a = 3) : ∃ s, a = .atom s := by
  cases a <;> first | exact ⟨_, rfl⟩ | cases h

theorem cat_str_inv {a : Term} (h : cat a = 4) : ∃ f as, a = .str f as := by
  cases a <;> first | exact ⟨_, _, rfl⟩ | cases h

theorem argsCompare_eq_cmpList (age : String → Nat) (as bs : List Term) :
    argsCompare age as bs = cmpList (termCompare age) as bs := by
  induction as generalizing bs with
  | nil => cases bs <;> simp [argsCompare]
  | cons a as ih => cases bs <;> simp [argsCompare, ih]

theorem termCompare_str (age : String → Nat) (f g : String) (as bs : List Term) :
    termCompare age (.str f as) (.str g bs) =
      (compare as.length bs.length).then ((atomCmp f g).then (cmpList (termCompare age) as bs)) := by
  rw [termCompare, argsCompare_eq_cmpList]

/-- comparison of two terms of the same category. -/
def sameCat (age : String → Nat) : Term → Term → Ordering
  | .str f as, .str g bs =>
      (compare as.length bs.length).then ((atomCmp f g).then (cmpList (termCompare age) as bs))
  | a, b => leafCompare age a b

/-- the category first, in every case. -/
theorem termCompare_eq (age : String → Nat) (a b : Term) :
    termCompare age a b = (compare (cat a) (cat b)).then (sameCat age a b) := by
  cases a
  case str f as =>
    cases b
    case str g bs => exact termCompare_str age f g as bs
    all_goals rfl
  all_goals rfl

theorem sameCat_leaf (age : String → Nat) {a b : Term} (h : cat a ≠ 4 ∨ cat b ≠ 4) :
    sameCat age a b = leafCompare age a b := by
  cases a
  case str f as =>
    cases b
    case str g bs => exact (h.elim (· rfl) (· rfl)).elim
    all_goals rfl
  all_goals rfl

theorem termCompare_of_cat_lt (age : String → Nat) (a b : Term) (h : cat a < cat b) :
    termCompare age a b = .lt := by
  rw [termCompare_eq, compare_lt_iff_lt.mpr h]; rfl

theorem termCompare_of_cat_gt (age : String → Nat) (a b : Term) (h : cat b < cat a) :
    termCompare age a b = .gt := by
  rw [termCompare_eq, compare_gt_iff_gt.mpr h]; rfl

mutual
/-- every rational inside the term has a positive denominator. -/
def DenPos : Term → Prop
  | .rat _ d => 0 < d
  | .str _ as => DenPosL as
  | _ => True
def DenPosL : List Term → Prop
  | [] => True
  | a :: as => DenPos a ∧ DenPosL as
end

theorem denPosL_iff (as : List Term) : DenPosL as ↔ ∀ a ∈ as, DenPos a := by
  induction as with
  | nil => simp [DenPosL]
  | cons a as ih => simp [DenPosL, ih]

theorem numVal_pos (a : Term) (h : DenPos a) : 0 < (numVal a).2 := by
  cases a
  case rat n d => exact h
  all_goals exact Nat.one_pos

theorem leafCompare_num (age : String → Nat) {a : Term} (h : cat a = 2) (b : Term) :
    leafCompare age a b = ratCmp (numVal a) (numVal b) := by
  rcases cat_num_inv h with ⟨v, rfl⟩ | ⟨n, d, rfl⟩ <;> rfl

/-- off the diagonal of the three special clauses, both sides fall to the last clause. -/
theorem leafCompare_swap (age : String → Nat) (a b : Term) :
    leafCompare age b a = (leafCompare age a b).swap := by
  cases a
  case var x =>
    cases b
    case var y => exact (Nat.compare_swap _ _).symm
    all_goals exact ratCmp_swap _ _
  case flt x =>
    cases b
    case flt y => exact fltCmp_swap x y
    all_goals exact ratCmp_swap _ _
  case atom s =>
    cases b
    case atom t => exact atomCmp_swap s t
    all_goals exact ratCmp_swap _ _
  all_goals cases b <;> exact ratCmp_swap _ _

theorem leaf_tri (age : String → Nat) (a b c : Term) (hab : cat a = cat b) (hbc : cat b = cat c)
    (h4 : cat a ≠ 4) (ha : DenPos a) (hb : DenPos b) (hc : DenPos c) :
    Tri (leafCompare age a b) (leafCompare age b c) (leafCompare age a c) := by
  have hac := hab.trans hbc
  cases a
  case var x =>
    obtain ⟨y, rfl⟩ := cat_var_inv hab.symm
    obtain ⟨z, rfl⟩ := cat_var_inv hac.symm
    exact tri_compare _ _ _
  case flt x =>
    obtain ⟨y, rfl⟩ := cat_flt_inv hab.symm
    obtain ⟨z, rfl⟩ := cat_flt_inv hac.symm
    exact fltCmp_tri _ _ _
  case atom s =>
    obtain ⟨t, rfl⟩ := cat_atom_inv hab.symm
    obtain ⟨u, rfl⟩ := cat_atom_inv hac.symm
    exact atomCmp_tri _ _ _
  case str => exact absurd rfl h4
  -- `int` and `rat`: one category, compared through `numVal`
  all_goals
    rw [leafCompare_num age rfl, leafCompare_num age hab.symm, leafCompare_num age rfl]
    exact ratCmp_tri _ _ _ (numVal_pos _ ha) (numVal_pos _ hb) (numVal_pos _ hc)

theorem termCompare_swap_of_leaf (age : String → Nat) {a b : Term} (h : cat a ≠ 4 ∨ cat b ≠ 4) :
    termCompare age b a = (termCompare age a b).swap := by
  rw [termCompare_eq, termCompare_eq age a b, sameCat_leaf age h, sameCat_leaf age h.symm,
    Ordering.swap_then, Nat.compare_swap, leafCompare_swap]

theorem termCompare_swap (age : String → Nat) :
    ∀ a b, termCompare age b a = (termCompare age a b).swap := by
  apply term_ind
  · exact fun a h4 b => termCompare_swap_of_leaf age (.inl h4)
  · intro f as ih b
    by_cases h4 : cat b = 4
    · obtain ⟨g, bs, rfl⟩ := cat_str_inv h4
      rw [termCompare_str, termCompare_str, Ordering.swap_then, Ordering.swap_then,
        Nat.compare_swap, atomCmp_swap f g, cmpList_swap as bs ih]
    · exact termCompare_swap_of_leaf age (.inr h4)

theorem termCompare_refl (age : String → Nat) : ∀ t, termCompare age t t = .eq :=
  fun t => Ordering.eq_swap_iff_eq_eq.mp (termCompare_swap age t t)

theorem termCompare_tri (age : String → Nat) :
    ∀ a b c, DenPos a → DenPos b → DenPos c →
      Tri (termCompare age a b) (termCompare age b c) (termCompare age a c) := by
  apply term_ind
  · intro a h4 b c ha hb hc
    simp only [termCompare_eq]
    refine (tri_compare _ _ _).then (fun hab hbc => ?_)
    rw [compare_eq_iff_eq] at hab hbc
    rw [sameCat_leaf age (.inl h4), sameCat_leaf age (.inl (hab ▸ h4)),
      sameCat_leaf age (.inl h4)]
    exact leaf_tri age a b c hab hbc h4 ha hb hc
  · intro f as ih b c ha hb hc
    simp only [termCompare_eq age _ b, termCompare_eq age _ c]
    refine (tri_compare _ _ _).then (fun hab hbc => ?_)
    rw [compare_eq_iff_eq] at hab hbc
    obtain ⟨g, bs, rfl⟩ := cat_str_inv hab.symm
    obtain ⟨h, cs, rfl⟩ := cat_str_inv hbc.symm
    refine (tri_compare _ _ _).then' ((atomCmp_tri _ _ _).then' ?_)
    simp only [DenPos, denPosL_iff] at ha hb hc
    exact cmpList_tri as bs cs (fun x hx y hy z hz => ih x hx y z (ha x hx) (hb y hy) (hc z hz))

/-! ### `compare = eq` is structural identity on normal terms -/

mutual
/-- normal form: rationals in lowest terms with denominator ≥ 2 (a rational with
    denominator 1 is an integer for scryer), floats canonical (`FltCanon`). -/
def Normal : Term → Prop
  | .rat n d => 2 ≤ d ∧ Nat.gcd n.natAbs d = 1
  | .flt b => FltCanon b
  | .str _ as => NormalL as
  | _ => True
def NormalL : List Term → Prop
  | [] => True
  | a :: as => Normal a ∧ NormalL as
end

theorem normalL_iff (as : List Term) : NormalL as ↔ ∀ a ∈ as, Normal a := by
  induction as with
  | nil => simp [NormalL]
  | cons a as ih => simp [NormalL, ih]

theorem numVal_coprime {a : Term} (h : cat a = 2) (na : Normal a) :
    Nat.gcd (numVal a).1.natAbs (numVal a).2 = 1 ∧ 0 < (numVal a).2 := by
  rcases cat_num_inv h with ⟨v, rfl⟩ | ⟨n, d, rfl⟩
  · exact ⟨Nat.gcd_one_right _, Nat.one_pos⟩
  · exact ⟨na.2, Nat.lt_of_lt_of_le Nat.two_pos na.1⟩

/-- denominator 1 is written as an integer only (`Normal` asks `2 ≤ d`), so the value determines the term. -/
theorem eq_of_numVal_eq {a b : Term} (ha : cat a = 2) (hb : cat b = 2) (na : Normal a)
    (nb : Normal b) (h : numVal a = numVal b) : a = b := by
  rcases cat_num_inv ha with ⟨v, rfl⟩ | ⟨n, d, rfl⟩ <;>
    rcases cat_num_inv hb with ⟨w, rfl⟩ | ⟨n', d', rfl⟩ <;>
    obtain ⟨h1, h2⟩ := Prod.mk.inj h
  · rw [h1]
  · exact absurd (h2 ▸ nb.1) (by decide)
  · exact absurd (h2 ▸ na.1) (by decide)
  · rw [h1, h2]

theorem leaf_eq (age : String → Nat) (hage : Function.Injective age) {a b : Term}
    (hab : cat a = cat b) (h4 : cat a ≠ 4) (na : Normal a) (nb : Normal b) (h : leafCompare age a b = .eq) :
    a = b := by
  cases a
  case var x =>
    obtain ⟨y, rfl⟩ := cat_var_inv hab.symm
    rw [hage (compare_eq_iff_eq.mp h)]
  case flt x =>
    obtain ⟨y, rfl⟩ := cat_flt_inv hab.symm
    rw [(fltCmp_eq_iff x y na nb).mp h]
  case atom s =>
    obtain ⟨t, rfl⟩ := cat_atom_inv hab.symm
    rw [(atomCmp_eq_iff s t).mp h]
  case str => exact absurd rfl h4
  -- `int` and `rat`: one category, compared through `numVal`
  all_goals
    rw [leafCompare_num age rfl] at h
    exact eq_of_numVal_eq rfl hab.symm na nb
      (rat_eq_of_cross (numVal_coprime rfl na) (numVal_coprime hab.symm nb) h)

theorem termCompare_eq_iff (age : String → Nat) (hage : Function.Injective age) :
    ∀ a b, Normal a → Normal b → (termCompare age a b = .eq ↔ a = b) := by
  have key : ∀ a b, Normal a → Normal b → termCompare age a b = .eq → a = b := by
    apply term_ind
    · intro a h4 b na nb h
      rw [termCompare_eq, Ordering.then_eq_eq, compare_eq_iff_eq, sameCat_leaf age (.inl h4)] at h
      exact leaf_eq age hage h.1 h4 na nb h.2
    · intro f as ih b na nb h
      have hc : cat b = 4 := by
        rw [termCompare_eq, Ordering.then_eq_eq, compare_eq_iff_eq] at h
        exact h.1.symm
      obtain ⟨g, bs, rfl⟩ := cat_str_inv hc
      rw [termCompare_str, Ordering.then_eq_eq, Ordering.then_eq_eq] at h
      simp only [Normal, normalL_iff] at na nb
      rw [(atomCmp_eq_iff f g).mp h.2.1, (cmpList_eq_iff as bs fun x hx y hy =>
        ⟨ih x hx y (na x hx) (nb y hy), fun e => e ▸ termCompare_refl age x⟩).mp h.2.2]
  exact fun a b na nb => ⟨key a b na nb, fun e => e ▸ termCompare_refl age a⟩

/-! ### an injective age function exists (non-vacuity of the `Injective age` hypothesis) -/

theorem exists_injective_age : ∃ age : String → Nat, Function.Injective age :=
  ⟨fun s => Encodable.encode (codes s), fun _ _ h => codes_inj (Encodable.encode_injective h)⟩

/-! ### comparing lists and partial strings -/

theorem termCompare_cons (age : String → Nat) (x xs y ys : Term) :
    termCompare age (Term.cons x xs) (Term.cons y ys) =
      (termCompare age x y).then (termCompare age xs ys) := by
  simp [Term.cons, termCompare_str, atomCmp_refl]

theorem termCompare_atom (age : String → Nat) (s t : String) :
    termCompare age (.atom s) (.atom t) = atomCmp s t := rfl

theorem termCompare_ofChars_cons (age : String → Nat) (c d : Char) (cs ds : List Char) (t1 t2 : Term) :
    termCompare age (Term.ofChars (c :: cs) t1) (Term.ofChars (d :: ds) t2) =
      (compare c.toNat d.toNat).then (termCompare age (Term.ofChars cs t1) (Term.ofChars ds t2)) :=
  (termCompare_cons age (.atom (String.singleton c)) (Term.ofChars cs t1)
    (.atom (String.singleton d)) (Term.ofChars ds t2)).trans
    (by rw [termCompare_atom]; simp [atomCmp, codes])

/-- a common prefix of two partial strings is skipped (what `compare_pstr_slices` does
    with `Continue`). -/
theorem termCompare_ofChars_append (age : String → Nat) (p cs ds : List Char) (t1 t2 : Term) :
    termCompare age (Term.ofChars (p ++ cs) t1) (Term.ofChars (p ++ ds) t2)
      = termCompare age (Term.ofChars cs t1) (Term.ofChars ds t2) := by
  induction p with
  | nil => rfl
  | cons x p ih =>
    rw [List.cons_append, List.cons_append, termCompare_ofChars_cons, ih, compare_eq_iff_eq.mpr rfl]
    rfl

/-! ### partial-string tail cell arithmetic (finding C13-2) -/

theorem sentinelLen_eq (e : Nat) : sentinelLen e = 8 - e % 8 := by
  unfold sentinelLen
  split <;> omega

/-- the reader's tail index from the terminating zero is the writer's count: one cell on, two
    when the sentinel is a single byte. Both sides depend on `e % 8` only. -/
theorem tailIdxFromZero_eq (e : Nat) :
    tailIdxFromZero e = (if sentinelLen e = 1 then 1 else 0) + 1 := by
  unfold tailIdxFromZero cellIndex sentinelLen
  have hr := Nat.mod_lt e (by decide : 8 > 0)
  generalize e % 8 = r at hr ⊢
  revert r; decide

theorem tailCellWritten_eq (e : Nat) : tailCellWritten e = e / 8 + tailIdxFromZero e := by
  have h1 : e + sentinelLen e = 8 * (e / 8 + 1) := by rw [sentinelLen_eq]; omega
  unfold tailCellWritten cellIndex
  rw [h1, Nat.mul_div_cancel_left _ (by decide), tailIdxFromZero_eq, Nat.add_assoc, Nat.add_comm 1]

theorem otherTailCell_eq (l pos : Nat) : otherTailCell l pos = tailCellWritten (l + pos) := by
  unfold otherTailCell
  rw [tailCellWritten_eq]
  unfold cellIndex
  omega

end Scryer.Order
