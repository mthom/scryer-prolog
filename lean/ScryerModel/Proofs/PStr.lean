import ScryerModel.Model.PStr
import ScryerModel.Proofs.Utf8
import ScryerModel.Proofs.Heap
/-! Lemmas for C20 (strings behave as the character lists they denote). -/
namespace Scryer.PStr
open Scryer.Heap (pstrTailIdx)
open Scryer.Utf8 (encode decodeFirst isScalar encode_ne_zero)

/-- any two texts behind their longest common prefix: both ended, one ended, or two different characters. -/
theorem lcp_split : ∀ a b : List Nat, ∃ p u v, a = p ++ u ∧ b = p ++ v ∧
    ∀ x u' y v', u = x :: u' → v = y :: v' → x ≠ y
  | [], b => ⟨[], [], b, rfl, rfl, fun _ _ _ _ h => nomatch h⟩
  | x :: a, [] => ⟨[], x :: a, [], rfl, rfl, fun _ _ _ _ _ h => nomatch h⟩
  | x :: a, y :: b => by
    by_cases hxy : x = y
    · obtain ⟨p, u, v, rfl, rfl, h⟩ := lcp_split a b
      exact ⟨x :: p, u, v, rfl, hxy ▸ rfl, h⟩
    · exact ⟨[], x :: a, y :: b, rfl, rfl, fun _ _ _ _ h1 h2 => by cases h1; cases h2; exact hxy⟩

/-! ## representation level -/

theorem denote_foldr (l : List Nat) (t : Tail) : denote (l.foldr .lis (.tl t)) = (l, t) := by
  induction l with
  | nil => rfl
  | cons x l ih => simp only [List.foldr_cons, denote, ih]

theorem wf_foldr (l : List Nat) (t : Tail) : WF (l.foldr .lis (.tl t)) := by
  induction l with
  | nil => trivial
  | cons x l ih => exact ih

/-- `r` hands out the characters `p` and goes on as `s`: what every arm of the loops does to one side. -/
structure Adv (r : Rep) (p : List Nat) (s : Rep) : Prop where
  den : denote r = (p ++ (denote s).1, (denote s).2)
  wf : WF s
  le : size s + p.length ≤ size r

/-- a `PStrLoc` that hands out `p` stays in its segment while text `w` is left, else goes to the tail cell. -/
theorem Adv.seg {cs : List Nat} {k : Nat} {r : Rep} {p w : List Nat} (e : cs.drop k = p ++ w) (hr : WF r) :
    Adv (.seg cs k r) p (contOf cs k r (if w = [] then .tail else .off p.length)) := by
  have hl := congrArg List.length e
  simp only [List.length_drop, List.length_append] at hl
  split
  · next hw => exact ⟨by simp only [contOf, denote, e, hw, List.append_nil], hr, by simp only [contOf, size]; omega⟩
  · next hw =>
    have ed : cs.drop (k + p.length) = w := by rw [← List.drop_drop, e, List.drop_left]
    have := List.length_pos_iff.mpr hw
    exact ⟨by simp only [contOf, denote, ed, e, List.append_assoc], ⟨by omega, hr⟩, by simp only [contOf, size]; omega⟩

theorem wf_contOf {cs : List Nat} {k : Nat} {r : Rep} (hr : WF r) :
    ∀ v : Cont, (match v with | .off q => k + q < cs.length | .tail => True) → WF (contOf cs k r v)
  | .off _, h => ⟨h, hr⟩
  | .tail, _ => hr

theorem step_seg {cs : List Nat} {k : Nat} (r : Rep) (h : k < cs.length) :
    step (.seg cs k r) = some (cs[k], if cs.drop (k + 1) = [] then r else .seg cs (k + 1) r) := by
  rw [step, List.drop_eq_getElem_cons h]

theorem step_adv {r : Rep} (h : WF r) {c : Nat} {s : Rep} (e : step r = some (c, s)) : Adv r [c] s := by
  cases r with
  | tl t => cases e
  | lis d r => cases e; exact ⟨rfl, h, Nat.le_refl _⟩
  | seg cs k r =>
    rw [step_seg r h.1] at e
    cases e
    have := Adv.seg (p := [_]) (List.drop_eq_getElem_cons h.1) h.2
    rwa [apply_ite (contOf cs k r)] at this

theorem step_cons {r : Rep} (h : WF r) {c : Nat} {s : Rep} (e : step r = some (c, s)) :
    (denote r).1 = c :: (denote s).1 := congrArg Prod.fst (step_adv h e).den

theorem step_none_iff {r : Rep} (h : WF r) : step r = none ↔ ∃ t, r = .tl t := by
  cases r with
  | tl t => exact ⟨fun _ => ⟨t, rfl⟩, fun _ => rfl⟩
  | lis c r => simp [step]
  | seg cs k r => simp [step_seg r h.1]

theorem denote_seg_ne_nil {cs : List Nat} {k : Nat} (r : Rep) (h : k < cs.length) :
    (denote (.seg cs k r)).1 ≠ [] := fun e =>
  absurd (List.drop_eq_nil_iff.mp (List.append_eq_nil_iff.mp e).1) (Nat.not_le_of_gt h)

/-! ### compare_pstr_segments at character level -/

theorem cmpSeg_append (p u v : List Nat) (pos : Nat) :
    cmpSeg (p ++ u) (p ++ v) pos = cmpSeg u v (pos + p.length) := by
  induction p generalizing pos with
  | nil => rfl
  | cons x p ih =>
    simp only [List.cons_append, cmpSeg, if_true, ih, List.length_cons]
    congr 1; omega

theorem cmpSeg_ended {u v : List Nat} (h : u = [] ∨ v = []) (q : Nat) :
    cmpSeg u v q = .cont (if u = [] then .tail else .off q) (if v = [] then .tail else .off q) := by
  -- both non-empty contradicts `h`; the other three cases compute
  cases u <;> cases v <;> first | rfl | simp at h

/-! ### unification and comparison -/

/-- `bindTail` sees of a representation only what it denotes. -/
theorem bindTail_den (t : Tail) {r : Rep} (h : WF r) :
    (bindTail t r).den = (bindTail t ((denote r).1.foldr .lis (.tl (denote r).2))).den := by
  cases r with
  | tl a => rfl
  | lis c s => cases t <;> simp only [bindTail, URes.den, denote, List.foldr_cons, denote_foldr]
  | seg cs k s =>
    cases t <;> simp only [bindTail, URes.den, denote, List.drop_eq_getElem_cons h.1, List.cons_append,
      List.foldr_cons, denote_foldr]

theorem bindTail_not_stuck (t : Tail) (r : Rep) : (bindTail t r).isStuck = false := by
  unfold bindTail
  split <;> (try split) <;> rfl

theorem unifyList_nil_left (t1 : Tail) (l2 : List Nat) (t2 : Tail) :
    unifyList [] t1 l2 t2 = bindTail t1 (l2.foldr .lis (.tl t2)) := by
  cases l2 <;> rfl

theorem unifyList_nil_right (x : Nat) (a : List Nat) (t1 t2 : Tail) :
    unifyList (x :: a) t1 [] t2 = bindTail t2 ((x :: a).foldr .lis (.tl t1)) := rfl

theorem unifyList_append (p a : List Nat) (t1 : Tail) (b : List Nat) (t2 : Tail) :
    unifyList (p ++ a) t1 (p ++ b) t2 = unifyList a t1 b t2 := by
  induction p with
  | nil => rfl
  | cons x p ih => simp only [List.cons_append, unifyList, if_true, ih]

theorem compareList_append (p a : List Nat) (t1 : Tail) (b : List Nat) (t2 : Tail) :
    compareList (p ++ a) t1 (p ++ b) t2 = compareList a t1 b t2 := by
  induction p with
  | nil => rfl
  | cons x p ih => simp only [List.cons_append, compareList, if_true, ih]

theorem compareList_nil_cons (t1 : Tail) (y : Nat) (b : List Nat) (t2 : Tail) :
    compareList [] t1 (y :: b) t2 = .endL t1 := rfl

theorem compareList_cons_nil (x : Nat) (a : List Nat) (t1 t2 : Tail) :
    compareList (x :: a) t1 [] t2 = .endR t2 := rfl

/-- One turn of either loop on two representations that still hold a character: a common prefix handed out by
both (as far as two segments agree, otherwise one character), or the first difference. -/
inductive Turn (r1 r2 : Rep) : Prop
  | strip (p : List Nat) (s1 s2 : Rep) (hp : p ≠ []) (a1 : Adv r1 p s1) (a2 : Adv r2 p s2)
      (hu : ∀ fuel, unify (fuel + 1) r1 r2 = unify fuel s1 s2)
      (hc : ∀ fuel, compare (fuel + 1) r1 r2 = compare fuel s1 s2)
  | diff (p : List Nat) (x y : Nat) (a b : List Nat) (ne : x ≠ y)
      (d1 : (denote r1).1 = p ++ x :: a) (d2 : (denote r2).1 = p ++ y :: b)
      (hu : ∀ fuel, unify (fuel + 1) r1 r2 = .fail)
      (hc : ∀ fuel, compare (fuel + 1) r1 r2 = if x < y then .lt else .gt)

theorem turn {r1 r2 : Rep} (h1 : WF r1) (h2 : WF r2) {c d : Nat} {s1 s2 : Rep}
    (e1 : step r1 = some (c, s1)) (e2 : step r2 = some (d, s2)) : Turn r1 r2 := by
  -- the arms that take one character off each side (`Lis`/`Lis`, `PStrLoc`/`Lis`, `Lis`/`PStrLoc`)
  have one (hu : ∀ fuel, unify (fuel + 1) r1 r2 = if c = d then unify fuel s1 s2 else .fail)
      (hc : ∀ fuel, compare (fuel + 1) r1 r2 =
        if c = d then compare fuel s1 s2 else if c < d then .lt else .gt) : Turn r1 r2 := by
    have a1 := step_adv h1 e1
    have a2 := step_adv h2 e2
    by_cases hcd : c = d
    · subst hcd
      exact .strip [c] s1 s2 (List.cons_ne_nil _ _) a1 a2 (fun f => by rw [hu, if_pos rfl])
        (fun f => by rw [hc, if_pos rfl])
    · exact .diff [] c d _ _ hcd (step_cons h1 e1) (step_cons h2 e2)
        (fun f => by rw [hu, if_neg hcd]) (fun f => by rw [hc, if_neg hcd])
  cases r1 with
  | tl t => cases e1
  | lis c' a =>
    cases r2 with
    | tl t => cases e2
    | lis d' b => cases e1; cases e2; exact one (fun _ => rfl) (fun _ => rfl)
    | seg cs k r =>
      cases e1
      exact one (fun _ => by simp only [unify, e2, eq_comm]) (fun _ => by simp only [compare, e2])
  | seg cs1 k1 r1 =>
    cases r2 with
    | tl t => cases e2
    | lis d' b =>
      cases e2
      exact one (fun _ => by simp only [unify, e1]) (fun _ => by simp only [compare, e1])
    | seg cs2 k2 r2 =>
      -- `compare_pstr_segments` runs to the end of the longest common prefix `p` of the two rests
      obtain ⟨p, u, v, e1', e2', hd⟩ := lcp_split (cs1.drop k1) (cs2.drop k2)
      have ec : cmpSeg (cs1.drop k1) (cs2.drop k2) 0 = cmpSeg u v p.length := by
        rw [e1', e2', cmpSeg_append, Nat.zero_add]
      by_cases hend : u = [] ∨ v = []
      · rw [cmpSeg_ended hend] at ec
        refine .strip p _ _ ?_ (.seg e1' h1.2) (.seg e2' h2.2) (fun _ => by simp only [unify, ec])
          (fun _ => by simp only [compare, ec])
        -- a `PStrLoc` that yields a character has text left, and one of the two rests is all of `p`
        rintro rfl
        rcases hend with rfl | rfl
        · rw [step, e1'] at e1; cases e1
        · rw [step, e2'] at e2; cases e2
      · rcases u with _ | ⟨x, u⟩
        · exact absurd (Or.inl rfl) hend
        rcases v with _ | ⟨y, v⟩
        · exact absurd (Or.inr rfl) hend
        have ne := hd x u y v rfl rfl
        refine .diff p x y (u ++ (denote r1).1) (v ++ (denote r2).1) ne
          (by simp only [denote, e1', List.append_assoc, List.cons_append])
          (by simp only [denote, e2', List.append_assoc, List.cons_append]) (fun _ => ?_) (fun _ => ?_)
        · by_cases hlt : x < y <;> simp only [unify, ec, cmpSeg, if_neg ne, hlt, ↓reduceIte]
        · by_cases hlt : x < y <;> simp only [compare, ec, cmpSeg, if_neg ne, hlt, ↓reduceIte]

/-- **Unification and comparison commute with `denote`.** `Turn` says what a turn does to both loops, so one induction
on the fuel serves both. -/
theorem loops_denote (fuel : Nat) : ∀ (r1 r2 : Rep), WF r1 → WF r2 → size r1 + size r2 ≤ fuel →
    ((unify fuel r1 r2).den =
      (unifyList (denote r1).1 (denote r1).2 (denote r2).1 (denote r2).2).den ∧
    (unify fuel r1 r2).isStuck = false) ∧
    compare fuel r1 r2 = compareList (denote r1).1 (denote r1).2 (denote r2).1 (denote r2).2 := by
  induction fuel with
  | zero =>
    intro r1 r2 _ _ hs
    cases r1 <;> simp only [size] at hs <;> omega
  | succ fuel ih =>
    intro r1 r2 h1 h2 hs
    cases e1 : step r1 with
    | none =>
      obtain ⟨t, rfl⟩ := (step_none_iff h1).mp e1
      have hu : unify (fuel + 1) (.tl t) r2 = bindTail t r2 := by cases r2 <;> rfl
      rw [hu]
      simp only [denote, unifyList_nil_left]
      refine ⟨⟨bindTail_den t h2, bindTail_not_stuck _ _⟩, ?_⟩
      cases e2 : step r2 with
      | none => obtain ⟨t2, rfl⟩ := (step_none_iff h2).mp e2; rfl
      | some q =>
        rw [step_cons h2 e2]
        -- `.tl _` has no step (`e2`); on `.lis` and `.seg` both sides compute to `.endL t`
        cases r2 <;> first | rfl | cases e2
    | some q1 =>
      have d1 := step_cons h1 e1
      cases e2 : step r2 with
      | none =>
        obtain ⟨t, rfl⟩ := (step_none_iff h2).mp e2
        have hu : unify (fuel + 1) r1 (.tl t) = bindTail t r1 := by cases r1 <;> first | rfl | cases e1
        have hc : compare (fuel + 1) r1 (.tl t) = .endR t := by cases r1 <;> first | rfl | cases e1
        rw [hu, hc, denote, d1, unifyList_nil_right, compareList_cons_nil, ← d1]
        exact ⟨⟨bindTail_den t h1, bindTail_not_stuck _ _⟩, rfl⟩
      | some q2 =>
        cases turn h1 h2 e1 e2 with
        | strip p s1 s2 hp a1 a2 hu hc =>
          have := List.length_pos_iff.mpr hp
          rw [hu, hc, a1.den, a2.den, unifyList_append, compareList_append]
          exact ih s1 s2 a1.wf a2.wf (by have := a1.le; have := a2.le; omega)
        | diff p x y a b ne d1 d2 hu hc =>
          rw [hu, hc, d1, d2, unifyList_append, compareList_append, unifyList, compareList, if_neg ne, if_neg ne]
          exact ⟨⟨rfl, rfl⟩, rfl⟩

/-! ## byte level -/

theorem utf8_ne_zero : ∀ (cs : List Nat), (∀ c ∈ cs, c ≠ 0) → ∀ b ∈ utf8 cs, b ≠ 0
  | [], _, b, hb => by simp [utf8] at hb
  | c :: cs, h, b, hb => by
    simp only [utf8, List.mem_append] at hb
    rcases hb with hb | hb
    · exact encode_ne_zero (h c (List.mem_cons_self)) b hb
    · exact utf8_ne_zero cs (fun d hd => h d (List.mem_cons_of_mem _ hd)) b hb

theorem utf8_append (a b : List Nat) : utf8 (a ++ b) = utf8 a ++ utf8 b := by
  induction a with
  | nil => rfl
  | cons x a ih => simp only [List.cons_append, utf8, ih, List.append_assoc]

theorem utf8_cons_append (c : Nat) (cs q : List Nat) : utf8 (c :: cs) ++ q = encode c ++ (utf8 cs ++ q) :=
  List.append_assoc ..

theorem scanLen_append (bs r : List Nat) (h : ∀ b ∈ bs, b ≠ 0) : scanLen (bs ++ 0 :: r) = bs.length := by
  induction bs with
  | nil => simp [scanLen]
  | cons x bs ih =>
    have hx : x ≠ 0 := h x List.mem_cons_self
    simp only [List.cons_append, scanLen, if_neg hx, List.length_cons]
    rw [ih (fun b hb => h b (List.mem_cons_of_mem _ hb))]

theorem scanTailIdx_eq (loc : Nat) (slice : List Nat) :
    scanTailIdx loc slice = pstrTailIdx (loc + scanLen slice) :=
  Scryer.Heap.scan_formula loc (scanLen slice)

theorem decodeFirst_zero (rest : List Nat) : decodeFirst (0 :: rest) = .ok 0 1 :=
  Scryer.Utf8.decode4_ascii (by decide)

theorem segChars_seg : ∀ (cs : List Nat) (fuel : Nat) (rest : List Nat),
    (∀ c ∈ cs, isScalar c = true ∧ c ≠ 0) → cs.length < fuel →
    segChars fuel (utf8 cs ++ 0 :: rest) = cs
  | [], fuel, rest, _, hf => by
    cases fuel with
    | zero => omega
    | succ f => simp [utf8, segChars, decodeFirst_zero]
  | c :: cs, fuel, rest, h, hf => by
    cases fuel with
    | zero => simp at hf
    | succ f =>
      have hc := h c List.mem_cons_self
      rw [utf8_cons_append]
      simp only [segChars, Scryer.Utf8.decodeFirst_encode hc.1, if_neg hc.2, Scryer.Utf8.drop_encode_append]
      rw [segChars_seg cs f rest (fun d hd => h d (List.mem_cons_of_mem _ hd))
        (by simp only [List.length_cons] at hf; omega)]

end Scryer.PStr
