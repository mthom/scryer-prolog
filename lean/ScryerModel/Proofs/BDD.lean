import ScryerModel.Model.BDD
/-! Reduced ordered BDDs (`Model/BDD.lean`): the invariants and what `mk`, `apply`, `restrict`, `exQ`
preserve and denote, canonicity, and the correctness of `Fm.build` including the counter network of
`card/2`. -/
namespace Scryer.BDD
open BDD

namespace BDD

/-- ordered: along every path the variables strictly increase, and all are `≥ n`. -/
def OrdAbove : Nat → BDD → Prop
  | _, leaf _ => True
  | n, node v l h => n ≤ v ∧ OrdAbove (v + 1) l ∧ OrdAbove (v + 1) h

/-- reduced: no node with equal children (sharing is implicit in the tree representation). -/
def Reduced : BDD → Prop
  | leaf _ => True
  | node _ l h => l ≠ h ∧ Reduced l ∧ Reduced h

/-- every branching variable satisfies `S`. -/
def Supp (S : Nat → Prop) : BDD → Prop
  | leaf _ => True
  | node v l h => S v ∧ Supp S l ∧ Supp S h

theorem OrdAbove.mono {m n : Nat} {b : BDD} (h : m ≤ n) (hb : OrdAbove n b) : OrdAbove m b := by
  cases b with
  | leaf _ => trivial
  | node v l r => exact ⟨Nat.le_trans h hb.1, hb.2.1, hb.2.2⟩

theorem Supp.mono {S T : Nat → Prop} (hST : ∀ v, S v → T v) {b : BDD} (hb : Supp S b) : Supp T b := by
  induction b with
  | leaf _ => trivial
  | node v l r ihl ihr => exact ⟨hST _ hb.1, ihl hb.2.1, ihr hb.2.2⟩

/-- reduced, ordered with all variables `≥ n`, and branching only on variables in `S`: what `mk`,
    `apply`, `restrict` and `exQ` keep. The level `n` is there because their recursions descend
    below a node. -/
structure GoodAbove (S : Nat → Prop) (n : Nat) (b : BDD) : Prop where
  ord : OrdAbove n b
  red : Reduced b
  supp : Supp S b

theorem GoodAbove.leaf {S : Nat → Prop} {n : Nat} {c : Bool} : GoodAbove S n (leaf c) :=
  ⟨trivial, trivial, trivial⟩

theorem GoodAbove.lower {S : Nat → Prop} {m n : Nat} {b : BDD} (hb : GoodAbove S n b) (h : m ≤ n) :
    GoodAbove S m b :=
  ⟨hb.ord.mono h, hb.red, hb.supp⟩

theorem GoodAbove.lo {S : Nat → Prop} {n v : Nat} {l h : BDD} (hb : GoodAbove S n (node v l h)) :
    GoodAbove S (v + 1) l :=
  ⟨hb.ord.2.1, hb.red.2.1, hb.supp.2.1⟩

theorem GoodAbove.hi {S : Nat → Prop} {n v : Nat} {l h : BDD} (hb : GoodAbove S n (node v l h)) :
    GoodAbove S (v + 1) h :=
  ⟨hb.ord.2.2, hb.red.2.2, hb.supp.2.2⟩

theorem GoodAbove.lift {S : Nat → Prop} {n w v : Nat} {l h : BDD} (hb : GoodAbove S n (node v l h))
    (hw : w ≤ v) : GoodAbove S w (node v l h) :=
  ⟨⟨hw, hb.ord.2⟩, hb.red, hb.supp⟩

/-! ### mk -/

theorem mk_cases {P : BDD → Prop} {v : Nat} {l h : BDD} (hl : P l) (hn : l ≠ h → P (node v l h)) :
    P (mk v l h) := by
  unfold mk
  split
  · exact hl
  · next ne => exact hn ne

@[simp] theorem eval_mk (v : Nat) (l h : BDD) (ρ : Nat → Bool) :
    (mk v l h).eval ρ = if ρ v then h.eval ρ else l.eval ρ := by
  unfold mk
  split
  · next e => subst e; simp
  · rfl

theorem goodAbove_mk {S : Nat → Prop} {n v : Nat} {l h : BDD} (hn : n ≤ v) (hv : S v)
    (hl : GoodAbove S (v + 1) l) (hh : GoodAbove S (v + 1) h) : GoodAbove S n (mk v l h) :=
  mk_cases (hl.lower (Nat.le_succ_of_le hn)) fun ne =>
    ⟨⟨hn, hl.ord, hh.ord⟩, ⟨ne, hl.red, hh.red⟩, ⟨hv, hl.supp, hh.supp⟩⟩

/-! ### apply -/

theorem shortcutL_cases {P : BDD → Prop} {op : Op} {x : Bool} {b r : BDD}
    (h : shortcutL op x b = some r) (hb : P b) (hleaf : ∀ c, P (leaf c)) : P r := by
  cases op <;> cases x <;> cases h <;> first | exact hb | exact hleaf _

theorem shortcutL_eval {op : Op} {x : Bool} {b r : BDD} (h : shortcutL op x b = some r)
    (ρ : Nat → Bool) : r.eval ρ = op.fn x (b.eval ρ) := by
  cases op <;> cases x <;> cases h <;> simp [Op.fn, eval]

theorem shortcutR_cases {P : BDD → Prop} {op : Op} {a r : BDD} {y : Bool}
    (h : shortcutR op a y = some r) (ha : P a) (hleaf : ∀ c, P (leaf c)) : P r := by
  cases op <;> cases y <;> cases h <;> first | exact ha | exact hleaf _

theorem shortcutR_eval {op : Op} {a r : BDD} {y : Bool} (h : shortcutR op a y = some r)
    (ρ : Nat → Bool) : r.eval ρ = op.fn (a.eval ρ) y := by
  cases op <;> cases y <;> cases h <;> simp [Op.fn, eval]

theorem eval_apply (op : Op) (a b : BDD) (ρ : Nat → Bool) :
    (apply op a b).eval ρ = op.fn (a.eval ρ) (b.eval ρ) := by
  -- the cases are `apply`'s clauses in order: 1 two terminals; 2, 3 a terminal on the left with and
  -- without a shortcut; 4, 5 the same on the right; 6, 7, 8 two nodes with `va <`, `=`, `>` `vb`
  fun_induction apply op a b with
  | case1 x y => rfl
  | case2 x vb lb hb r hr => exact shortcutL_eval hr ρ
  | case4 va la ha y r hr => exact shortcutR_eval hr ρ
  | case3 _ _ _ _ _ ih1 ih2 | case5 _ _ _ _ _ ih1 ih2 | case6 _ _ _ _ _ _ _ ih1 ih2
  | case7 _ _ _ _ _ _ ih1 ih2 | case8 _ _ _ _ _ _ _ _ ih1 ih2 =>
    -- the five clauses that recurse: Shannon expansion on the smaller root variable
    rw [eval_mk, ih1, ih2]
    simp only [eval]
    cases ρ _ <;> rfl

/-- The result is rebuilt with `mk` at the smaller root variable from results for the children of
    that node; the other operand, if its variable is larger, is passed down whole (`lift`). -/
theorem GoodAbove.apply {S : Nat → Prop} (op : Op) {a b : BDD} {n : Nat} (h1 : GoodAbove S n a)
    (h2 : GoodAbove S n b) : GoodAbove S n (apply op a b) := by
  fun_induction BDD.apply op a b generalizing n with
  | case1 x y => exact .leaf
  | case2 x vb lb hb r hr => exact shortcutL_cases hr h2 fun _ => .leaf
  | case3 x vb lb hb hr ih1 ih2 =>
    exact goodAbove_mk h2.ord.1 h2.supp.1 (ih1 .leaf h2.lo) (ih2 .leaf h2.hi)
  | case4 va la ha y r hr => exact shortcutR_cases hr h1 fun _ => .leaf
  | case5 va la ha y hr ih1 ih2 =>
    exact goodAbove_mk h1.ord.1 h1.supp.1 (ih1 h1.lo .leaf) (ih2 h1.hi .leaf)
  | case6 va la ha vb lb hb hlt ih1 ih2 =>
    exact goodAbove_mk h1.ord.1 h1.supp.1 (ih1 h1.lo (h2.lift hlt)) (ih2 h1.hi (h2.lift hlt))
  | case7 va la ha lb hb hlt ih1 ih2 =>
    exact goodAbove_mk h1.ord.1 h1.supp.1 (ih1 h1.lo h2.lo) (ih2 h1.hi h2.hi)
  | case8 va la ha vb lb hb hlt hne ih1 ih2 =>
    have hgt : vb < va := Nat.lt_of_le_of_ne (Nat.le_of_not_lt hlt) (Ne.symm hne)
    exact goodAbove_mk h2.ord.1 h2.supp.1 (ih1 (h1.lift hgt) h2.lo) (ih2 (h1.lift hgt) h2.hi)

/-! ### support and independence -/

theorem eval_congr_supp {S : Nat → Prop} {b : BDD} (hb : Supp S b) {ρ ρ' : Nat → Bool}
    (h : ∀ v, S v → ρ v = ρ' v) : b.eval ρ = b.eval ρ' := by
  induction b with
  | leaf _ => rfl
  | node v l r ihl ihr => simp only [eval, h v hb.1, ihl hb.2.1, ihr hb.2.2]

theorem supp_of_ordAbove {b : BDD} : ∀ {n}, OrdAbove n b → Supp (n ≤ ·) b := by
  induction b with
  | leaf _ => intros; trivial
  | node v l r ihl ihr =>
    exact fun hb => ⟨hb.1, (ihl hb.2.1).mono fun _ h => Nat.le_trans (Nat.le_succ_of_le hb.1) h,
      (ihr hb.2.2).mono fun _ h => Nat.le_trans (Nat.le_succ_of_le hb.1) h⟩

theorem GoodAbove.of {n : Nat} {b : BDD} (ho : OrdAbove n b) (hr : Reduced b) :
    GoodAbove (n ≤ ·) n b :=
  ⟨ho, hr, supp_of_ordAbove ho⟩

theorem Supp.and {S T : Nat → Prop} {b : BDD} (hs : Supp S b) (ht : Supp T b) :
    Supp (fun v => S v ∧ T v) b := by
  induction b with
  | leaf _ => trivial
  | node v l r ihl ihr => exact ⟨⟨hs.1, ht.1⟩, ihl hs.2.1 ht.2.1, ihr hs.2.2 ht.2.2⟩

theorem GoodAbove.ne_of_lt {S : Nat → Prop} {i m : Nat} {c : BDD} (hc : GoodAbove S m c)
    (hlt : i < m) : GoodAbove (fun v => S v ∧ v ≠ i) m c :=
  ⟨hc.ord, hc.red, (hc.supp.and (supp_of_ordAbove hc.ord)).mono fun _ h =>
    ⟨h.1, Nat.ne_of_gt (Nat.lt_of_lt_of_le hlt h.2)⟩⟩

theorem upd_ne {ρ : Nat → Bool} {i v : Nat} {x : Bool} (h : v ≠ i) : upd ρ i x v = ρ v :=
  if_neg h

@[simp] theorem upd_same {ρ : Nat → Bool} {i : Nat} {x : Bool} : upd ρ i x i = x :=
  if_pos rfl

theorem upd_self (ρ : Nat → Bool) (i : Nat) : upd ρ i (ρ i) = ρ := by
  funext w
  simp only [upd]
  split
  · next e => rw [e]
  · rfl

theorem eval_upd_of_ordAbove {b : BDD} {n i : Nat} (hb : OrdAbove n b) (hi : i < n) (ρ : Nat → Bool)
    (x : Bool) : b.eval (upd ρ i x) = b.eval ρ :=
  eval_congr_supp (supp_of_ordAbove hb) fun _ hv => upd_ne (Nat.ne_of_gt (Nat.lt_of_lt_of_le hi hv))

/-! ### restrict, exQ -/

@[simp] theorem restrict_node_self (v : Nat) (x : Bool) (l h : BDD) :
    restrict v x (node v l h) = if x then h else l := by
  simp [restrict]

theorem restrict_of_ordAbove {i : Nat} {b : BDD} (hb : OrdAbove (i + 1) b) (x : Bool) :
    restrict i x b = b := by
  cases b with
  | leaf _ => rfl
  | node v l h =>
    rw [restrict, if_neg (Nat.ne_of_gt hb.1), if_pos (show i < v from hb.1)]

theorem restrict_cases {P : BDD → Prop} {i v : Nat} {x : Bool} {l h : BDD}
    (heq : v = i → P (if x then h else l)) (hgt : i < v → P (node v l h))
    (hlt : v < i → P (mk v (restrict i x l) (restrict i x h))) : P (restrict i x (node v l h)) := by
  unfold restrict
  split
  · next e => exact heq e
  · split
    · next lt => exact hgt lt
    · next ne nlt => exact hlt (Nat.lt_of_le_of_ne (Nat.le_of_not_lt nlt) ne)

theorem eval_restrict {n : Nat} {b : BDD} (hb : OrdAbove n b) (i : Nat) (x : Bool) (ρ : Nat → Bool) :
    (restrict i x b).eval ρ = b.eval (upd ρ i x) := by
  induction b generalizing n with
  | leaf _ => rfl
  | node v l h ihl ihh =>
    refine restrict_cases (P := fun r => r.eval ρ = _) (fun e => ?_) (fun lt => ?_) (fun lt => ?_)
    · subst e
      simp only [eval, upd_same, eval_upd_of_ordAbove hb.2.1 (Nat.lt_succ_self v),
        eval_upd_of_ordAbove hb.2.2 (Nat.lt_succ_self v)]
      cases x <;> rfl
    · exact (eval_upd_of_ordAbove (b := node v l h) ⟨Nat.le_refl v, hb.2⟩ lt ρ x).symm
    · simp only [eval_mk, ihl hb.2.1, ihh hb.2.2, eval, upd_ne (Nat.ne_of_lt lt)]

theorem GoodAbove.restrict {S : Nat → Prop} {n : Nat} {b : BDD} (hb : GoodAbove S n b) (i : Nat) (x : Bool) :
    GoodAbove (fun v => S v ∧ v ≠ i) n (restrict i x b) := by
  induction b generalizing n with
  | leaf _ => exact .leaf
  | node v l h ihl ihh =>
    refine restrict_cases (fun e => ?_)
      (fun lt => ((hb.lift (Nat.le_refl v)).ne_of_lt lt).lower hb.ord.1)
      (fun lt => goodAbove_mk hb.ord.1 ⟨hb.supp.1, Nat.ne_of_lt lt⟩ (ihl hb.lo) (ihh hb.hi))
    subst e
    cases x
    · exact (hb.lo.ne_of_lt (Nat.lt_succ_self v)).lower (Nat.le_succ_of_le hb.ord.1)
    · exact (hb.hi.ne_of_lt (Nat.lt_succ_self v)).lower (Nat.le_succ_of_le hb.ord.1)

theorem eval_exQ {n : Nat} {b : BDD} (hb : OrdAbove n b) (i : Nat) (ρ : Nat → Bool) :
    (exQ i b).eval ρ = (b.eval (upd ρ i false) || b.eval (upd ρ i true)) := by
  rw [exQ, eval_apply, eval_restrict hb, eval_restrict hb]
  rfl

theorem GoodAbove.exQ {S : Nat → Prop} {n : Nat} {b : BDD} (hb : GoodAbove S n b) (i : Nat) :
    GoodAbove (fun v => S v ∧ v ≠ i) n (exQ i b) :=
  .apply _ (hb.restrict i false) (hb.restrict i true)

/-! ### canonicity -/

theorem eval_restrict_congr {a b : BDD} {n : Nat} (hoa : OrdAbove n a) (hob : OrdAbove n b)
    (hev : ∀ ρ, a.eval ρ = b.eval ρ) (i : Nat) (x : Bool) (ρ : Nat → Bool) :
    (restrict i x a).eval ρ = (restrict i x b).eval ρ := by
  rw [eval_restrict hoa, eval_restrict hob, hev]

theorem canonical {a b : BDD} {n : Nat} (hoa : OrdAbove n a) (hra : Reduced a) (hob : OrdAbove n b)
    (hrb : Reduced b) (hev : ∀ ρ, a.eval ρ = b.eval ρ) : a = b := by
  -- Take the cofactors at the smaller root variable `v`: those of a node at `v` are its children,
  -- anything else is its own cofactor twice. The induction hypotheses equate the cofactors, so
  -- two nodes at `v` are equal, and a node at `v` facing anything else would have equal children.
  induction a generalizing b n with
  | leaf x =>
    induction b generalizing n with
    | leaf y => exact congrArg leaf (hev fun _ => false)
    | node v l h ihl ihh =>
      have cof := eval_restrict_congr hoa hob hev v
      simp only [restrict_node_self] at cof
      exact absurd ((ihl trivial hob.2.1 hrb.2.1 (cof false)).symm.trans
        (ihh trivial hob.2.2 hrb.2.2 (cof true))) hrb.1
  | node va la ha ihl ihh =>
    induction b generalizing n with
    | leaf y =>
      have cof := eval_restrict_congr hoa hob hev va
      simp only [restrict_node_self] at cof
      exact absurd ((ihl (b := leaf y) hoa.2.1 hra.2.1 trivial trivial (cof false)).trans
        (ihh (b := leaf y) hoa.2.2 hra.2.2 trivial trivial (cof true)).symm) hra.1
    | node vb lb hb ihlb ihhb =>
      rcases Nat.lt_trichotomy va vb with hlt | rfl | hgt
      · have hb' : OrdAbove (va + 1) (node vb lb hb) := ⟨hlt, hob.2⟩
        have cof := eval_restrict_congr hoa hob hev va
        simp only [restrict_node_self, restrict_of_ordAbove hb'] at cof
        exact absurd ((ihl hoa.2.1 hra.2.1 hb' hrb (cof false)).trans
          (ihh hoa.2.2 hra.2.2 hb' hrb (cof true)).symm) hra.1
      · have cof := eval_restrict_congr hoa hob hev va
        simp only [restrict_node_self] at cof
        rw [ihl hoa.2.1 hra.2.1 hob.2.1 hrb.2.1 (cof false),
          ihh hoa.2.2 hra.2.2 hob.2.2 hrb.2.2 (cof true)]
      · have ha' : OrdAbove (vb + 1) (node va la ha) := ⟨hgt, hoa.2⟩
        have cof := eval_restrict_congr hoa hob hev vb
        simp only [restrict_node_self, restrict_of_ordAbove ha'] at cof
        exact absurd ((ihlb ha' hob.2.1 hrb.2.1 (cof false)).symm.trans
          (ihhb ha' hob.2.2 hrb.2.2 (cof true))) hrb.1

theorem eq_leaf_iff {b : BDD} {n : Nat} (ho : OrdAbove n b) (hr : Reduced b) (c : Bool) :
    b = leaf c ↔ ∀ ρ, b.eval ρ = c :=
  ⟨fun h _ => h ▸ rfl, canonical ho hr (b := leaf c) trivial trivial⟩

theorem ne_leaf_false_iff {b : BDD} {n : Nat} (ho : OrdAbove n b) (hr : Reduced b) :
    b ≠ leaf false ↔ ∃ ρ, b.eval ρ = true := by
  rw [Ne, eq_leaf_iff ho hr]
  refine ⟨fun h => Classical.byContradiction fun hne => h fun ρ => ?_, fun ⟨ρ, hρ⟩ h => ?_⟩
  · exact Bool.eq_false_iff.2 fun hb => hne ⟨ρ, hb⟩
  · exact Bool.false_ne_true ((h ρ).symm.trans hρ)

/-! ### the invariant from level `0` -/

/-- reduced, ordered, and with all branching variables in `S`: `GoodAbove S 0`. -/
structure Good (S : Nat → Prop) (b : BDD) : Prop where
  ord : OrdAbove 0 b
  red : Reduced b
  supp : Supp S b

theorem Good.above {S : Nat → Prop} {b : BDD} (hb : Good S b) : GoodAbove S 0 b :=
  ⟨hb.ord, hb.red, hb.supp⟩

theorem GoodAbove.good {S : Nat → Prop} {n : Nat} {b : BDD} (hb : GoodAbove S n b) : Good S b :=
  ⟨hb.ord.mono (Nat.zero_le n), hb.red, hb.supp⟩

theorem Good.leaf {S : Nat → Prop} {x : Bool} : Good S (leaf x) := (GoodAbove.leaf (n := 0)).good

theorem ofVar_eq (v : Nat) : ofVar v = node v (.leaf false) (.leaf true) := by
  simp [ofVar, mk]

theorem Good.ofVar {S : Nat → Prop} {v : Nat} (hv : S v) : Good S (ofVar v) :=
  (goodAbove_mk (Nat.zero_le v) hv .leaf .leaf).good

@[simp] theorem eval_ofVar (v : Nat) (ρ : Nat → Bool) : (ofVar v).eval ρ = ρ v := by
  rw [ofVar_eq]
  simp [eval]

theorem Good.apply {S : Nat → Prop} {a b : BDD} (op : Op) (ha : Good S a) (hb : Good S b) :
    Good S (apply op a b) :=
  (GoodAbove.apply op ha.above hb.above).good

theorem Good.mono {S T : Nat → Prop} {b : BDD} (hb : Good S b) (h : ∀ v, S v → T v) : Good T b :=
  ⟨hb.ord, hb.red, hb.supp.mono h⟩

theorem Good.exQ {S : Nat → Prop} {b : BDD} (hb : Good S b) (i : Nat) :
    Good (fun v => S v ∧ v ≠ i) (exQ i b) :=
  (hb.above.exQ i).good

/-- the support after the head of a list of variables to eliminate has been quantified away. -/
theorem Good.drop_head {S : Nat → Prop} {w : Nat} {ws : List Nat} {b : BDD}
    (hb : Good (fun v => (S v ∨ v ∈ w :: ws) ∧ v ≠ w) b) : Good (fun v => S v ∨ v ∈ ws) b :=
  hb.mono fun _ h => h.1.imp_right fun hm => (List.mem_cons.1 hm).resolve_left h.2

theorem Good.eval_congr {S : Nat → Prop} {b : BDD} (hb : Good S b) {ρ ρ' : Nat → Bool}
    (h : ∀ v, S v → ρ v = ρ' v) : b.eval ρ = b.eval ρ' := eval_congr_supp hb.supp h

end BDD

/-! ## `Fm.build` is correct -/

/-- `b` is a reduced ordered BDD over variables in `S` with truth function `φ`. -/
def Denotes (S : Nat → Prop) (b : BDD) (φ : (Nat → Bool) → Bool) : Prop :=
  Good S b ∧ ∀ ρ, b.eval ρ = φ ρ

/-- what is proved about `f.build fr`: `Denotes (· ∈ f.allVars) (f.build fr) f.eval` with `Denotes`
    unfolded, so a proof of either is accepted for the other as it stands. -/
def OKf (fr : Nat) (f : Fm) : Prop :=
  Good (· ∈ f.allVars) (f.build fr) ∧ ∀ ρ, (f.build fr).eval ρ = f.eval ρ

/-- what `build_ok` proves of `f`: `OKf fr f` for every `fr` above the variables of `f`. -/
def PF (f : Fm) : Prop := ∀ fr, (∀ v ∈ f.allVars, v < fr) → OKf fr f

/-- `P` of every element: the hypothesis on the list arguments in the mutual induction `build_ok`/`buildL_ok`
    (`FmL` is its own inductive, mutual with `Fm`, not a `List`). -/
def FmL.All (P : Fm → Prop) : FmL → Prop
  | .nil => True
  | .cons a r => P a ∧ FmL.All P r

theorem Denotes.apply {S : Nat → Prop} {x y : BDD} {φ ψ : (Nat → Bool) → Bool} (op : Op)
    (hx : Denotes S x φ) (hy : Denotes S y ψ) :
    Denotes S (apply op x y) fun ρ => op.fn (φ ρ) (ψ ρ) :=
  ⟨hx.1.apply op hy.1, fun ρ => by rw [eval_apply, hx.2, hy.2]⟩

theorem Denotes.congr {S : Nat → Prop} {x : BDD} {φ ψ : (Nat → Bool) → Bool} (hx : Denotes S x φ)
    (h : ∀ ρ, φ ρ = ψ ρ) : Denotes S x ψ :=
  ⟨hx.1, fun ρ => (hx.2 ρ).trans (h ρ)⟩

theorem Denotes.const {S : Nat → Prop} {c : Bool} : Denotes S (leaf c) fun _ => c :=
  ⟨Good.leaf, fun _ => rfl⟩

/-- `~P` is built as `1 # P`. -/
theorem Denotes.neg {S : Nat → Prop} {x : BDD} {φ : (Nat → Bool) → Bool} (hx : Denotes S x φ) :
    Denotes S (BDD.apply .xor (leaf true) x) fun ρ => !φ ρ :=
  (Denotes.const.apply .xor hx).congr fun ρ => by cases φ ρ <;> rfl

theorem Denotes.eq_leaf_iff {S : Nat → Prop} {x : BDD} {φ : (Nat → Bool) → Bool} (hx : Denotes S x φ)
    (c : Bool) : x = leaf c ↔ ∀ ρ, φ ρ = c :=
  (BDD.eq_leaf_iff hx.1.ord hx.1.red c).trans (forall_congr' fun ρ => by rw [hx.2])

theorem Denotes.exQ {S : Nat → Prop} {x : BDD} {φ : (Nat → Bool) → Bool} (hx : Denotes S x φ)
    (i : Nat) : Denotes S (BDD.exQ i x) fun ρ => φ (upd ρ i false) || φ (upd ρ i true) :=
  ⟨(hx.1.exQ i).mono fun _ h => h.1, fun ρ => by rw [eval_exQ hx.1.ord, hx.2, hx.2]⟩

theorem PF.denotes {a : Fm} (ha : PF a) {fr : Nat} {S : Nat → Prop}
    (hS : ∀ v ∈ a.allVars, v < fr ∧ S v) : Denotes S (a.build fr) a.eval :=
  have h := ha fr fun v hv => (hS v hv).1
  ⟨h.1.mono fun v hv => (hS v hv).2, h.2⟩

theorem bin_ok {a b f : Fm} (ha : PF a) (hb : PF b) (hvars : f.allVars = a.allVars ++ b.allVars)
    (h : ∀ {fr S}, Denotes S (a.build fr) a.eval → Denotes S (b.build fr) b.eval →
      Denotes S (f.build fr) f.eval) : PF f := by
  intro fr hv
  rw [hvars] at hv
  exact h (S := (· ∈ f.allVars))
    (ha.denotes fun v hm => ⟨hv v (List.mem_append_left _ hm), hvars ▸ List.mem_append_left _ hm⟩)
    (hb.denotes fun v hm => ⟨hv v (List.mem_append_right _ hm), hvars ▸ List.mem_append_right _ hm⟩)

/-- The `induction` tactic does not take the mutual inductive `FmL`; this is its list induction. -/
theorem FmL.induction {motive : FmL → Prop} (nil : motive .nil)
    (cons : ∀ a r, motive r → motive (.cons a r)) : ∀ l, motive l
  | .nil => nil
  | .cons a r => cons a r (FmL.induction nil cons r)

theorem FmL.All.build {fr : Nat} {S : Nat → Prop} {l : FmL} (hl : FmL.All PF l)
    (hS : ∀ v ∈ l.allVars, v < fr ∧ S v) : FmL.All (fun a => Denotes S (a.build fr) a.eval) l := by
  induction l using FmL.induction with
  | nil => trivial
  | cons a r ih =>
    exact ⟨hl.1.denotes fun v hv => hS v (List.mem_append_left _ hv),
      ih hl.2 fun v hv => hS v (List.mem_append_right _ hv)⟩

/-- `foldl(or, Ls, 0, F)` and `foldl(and, Ls, 1, F)`: `u` is the truth value of the list (`anyT`,
    `allT`), `op` is associative and `u .nil` is its unit. -/
theorem foldOp_denotes {S : Nat → Prop} {fr : Nat} {op : Op} {u : FmL → (Nat → Bool) → Bool}
    (hnil : ∀ x ρ, op.fn x (u .nil ρ) = x)
    (hcons : ∀ x a r ρ, op.fn (op.fn x (a.eval ρ)) (u r ρ) = op.fn x (u (.cons a r) ρ))
    (l : FmL) (hl : FmL.All (fun a => Denotes S (a.build fr) a.eval) l) :
    ∀ {acc : BDD} {φ : (Nat → Bool) → Bool}, Denotes S acc φ →
      Denotes S (l.foldOp fr op acc) fun ρ => op.fn (φ ρ) (u l ρ) := by
  induction l using FmL.induction with
  | nil => exact fun h => h.congr fun ρ => (hnil _ ρ).symm
  | cons a r ih => exact fun h => (ih hl.2 (h.apply op hl.1)).congr fun ρ => hcons _ a r ρ

theorem orL_ok {l : FmL} (hl : FmL.All PF l) : PF (.orL l) := fun _ hv =>
  (foldOp_denotes (op := .or) (u := FmL.anyT) (fun _ _ => Bool.or_false _) (fun _ _ _ _ => Bool.or_assoc ..) l
    (hl.build fun v hm => ⟨hv v hm, hm⟩) .const).congr fun _ => Bool.false_or _

theorem andL_ok {l : FmL} (hl : FmL.All PF l) : PF (.andL l) := fun _ hv =>
  (foldOp_denotes (op := .and) (u := FmL.allT) (fun _ _ => Bool.and_true _) (fun _ _ _ _ => Bool.and_assoc ..) l
    (hl.build fun v hm => ⟨hv v hm, hm⟩) .const).congr fun _ => Bool.true_and _

/-! ### the counter network -/

theorem pairUp_map (v : Nat) (I : Nat → BDD) : ∀ (k s : Nat),
    pairUp v ((List.range' s (k + 1)).map I) = (List.range' s k).map fun j => mk v (I j) (I (j + 1))
  | 0, _ => rfl
  | k + 1, s => congrArg (mk v (I s) (I (s + 1)) :: ·) (pairUp_map v I k (s + 1))

/-- With indicators `[I 0, …, I k]` for `φ 0, …, φ k` that sit above all of `vs`, the network selects the
    one numbered by how many of `vs` are true. -/
theorem counterNet_denotes {S : Nat → Prop} : ∀ (vs : List Nat) (I : Nat → BDD)
    (φ : Nat → (Nat → Bool) → Bool), vs.Pairwise (· > ·) → (∀ v ∈ vs, S v) →
    (∀ j, Denotes S (I j) (φ j)) → (∀ j, ∀ v ∈ vs, OrdAbove (v + 1) (I j)) →
    Denotes S (counterNet vs ((List.range' 0 (vs.length + 1)).map I)) fun ρ => φ (vs.countP ρ) ρ := by
  intro vs
  induction vs with
  | nil => exact fun I φ _ _ h _ => h 0
  | cons v vs ih =>
    intro I φ hp hv h ho
    have ⟨hpv, hps⟩ := List.pairwise_cons.1 hp
    have up : ∀ j, GoodAbove S (v + 1) (I j) := fun j =>
      ⟨ho j v List.mem_cons_self, (h j).1.red, (h j).1.supp⟩
    have g : ∀ j n, n ≤ v → GoodAbove S n (mk v (I j) (I (j + 1))) := fun j n hn =>
      goodAbove_mk hn (hv v List.mem_cons_self) (up j) (up (j + 1))
    rw [counterNet, List.length_cons, pairUp_map]
    refine (ih _ (fun j ρ => if ρ v then φ (j + 1) ρ else φ j ρ) hps
      (fun w hw => hv w (List.mem_cons_of_mem _ hw))
      (fun j => ⟨(g j 0 (Nat.zero_le v)).good, fun ρ => by rw [eval_mk, (h j).2, (h (j + 1)).2]⟩)
      fun j w hw => (g j (w + 1) (hpv w hw)).ord).congr fun ρ => ?_
    rw [List.countP_cons]
    cases ρ v <;> rfl

theorem indicators_eq (is : List (Nat × Nat)) : ∀ (k s : Nat),
    indicators is s k = (List.range' s k).map fun j => leaf (inRanges is j)
  | 0, _ => rfl
  | k + 1, s => congrArg (leaf (inRanges is s) :: ·) (indicators_eq is k (s + 1))

/-! ### auxiliary variables of `card/2` -/

theorem isVar_eq {a : Fm} {x : Nat} (h : a.isVar? = some x) : a = .var x := by
  cases a <;> cases h
  rfl

/-- the assignment after the auxiliary variables received the values of their expressions. -/
def envQ (ρ : Nat → Bool) : List (Nat × Fm) → (Nat → Bool)
  | [] => ρ
  | q :: qs => upd (envQ ρ qs) q.1 (q.2.eval ρ)

theorem envQ_low {ρ : Nat → Bool} {next v : Nat} {qs : List (Nat × Fm)} (h : ∀ q ∈ qs, next ≤ q.1)
    (hv : v < next) : envQ ρ qs v = ρ v := by
  induction qs with
  | nil => rfl
  | cons q qs ih =>
    rw [envQ, upd_ne (Nat.ne_of_lt (Nat.lt_of_lt_of_le hv (h q List.mem_cons_self)))]
    exact ih fun q' hq' => h q' (List.mem_cons_of_mem _ hq')

/-- What `elems`, started at `next` above the expressions' variables, returns: the variables `vs` and,
    behind its pairs, the list `qs` of auxiliary variables with their expressions. `P` is anything that
    holds of every element of `l`. -/
structure ElemsOK (P : Fm → Prop) (l : FmL) (next : Nat) (seen vs : List Nat) (qs : List (Nat × Fm)) : Prop where
  length : vs.length = l.length
  aux : ∀ q ∈ qs, next ≤ q.1 ∧ P q.2
  vars : ∀ v ∈ vs, (v ∈ l.allVars ∧ v ∉ seen) ∨ v ∈ qs.map Prod.fst
  nodup : vs.Nodup
  count : ∀ ρ, vs.countP (envQ ρ qs) = l.countT ρ

theorem ElemsOK.shift {P : Fm → Prop} {r : FmL} {next : Nat} {seen vs : List Nat} {qs : List (Nat × Fm)}
    (ih : ElemsOK P r (next + 1) seen vs qs) {q : Nat × Fm} (hq : q ∈ qs) : next ≤ q.1 ∧ P q.2 :=
  (ih.aux q hq).imp_left Nat.le_of_succ_le

theorem ElemsOK.above {P : Fm → Prop} {r : FmL} {next : Nat} {seen vs : List Nat} {qs : List (Nat × Fm)}
    (ih : ElemsOK P r (next + 1) seen vs qs) {v : Nat} (hm : v ∈ qs.map Prod.fst) : next < v := by
  obtain ⟨q, hq, rfl⟩ := List.mem_map.1 hm
  exact (ih.aux q hq).1

theorem ElemsOK.var_cons {P : Fm → Prop} {x : Nat} {r : FmL} {next : Nat} {seen vs : List Nat} {qs : List (Nat × Fm)}
    (ih : ElemsOK P r (next + 1) (x :: seen) vs qs) (hx : x ∉ seen) (hxn : x < next) :
    ElemsOK P (.cons (.var x) r) next seen (x :: vs) qs := by
  refine ⟨congrArg (· + 1) ih.length, fun q hq => ih.shift hq, fun v hm => ?_,
    List.nodup_cons.2 ⟨fun hm => ?_, ih.nodup⟩, fun ρ => ?_⟩
  · rcases List.mem_cons.1 hm with rfl | hm
    · exact Or.inl ⟨List.mem_cons_self, hx⟩
    · exact (ih.vars v hm).imp (fun h => ⟨List.mem_append_right _ h.1,
        fun hs => h.2 (List.mem_cons_of_mem _ hs)⟩) id
  · rcases ih.vars x hm with h | h
    · exact h.2 List.mem_cons_self
    · exact Nat.lt_irrefl _ (Nat.lt_trans hxn (ih.above h))
  · rw [List.countP_cons, ih.count, envQ_low (fun q hq => (ih.shift hq).1) hxn, Nat.add_comm]
    rfl

theorem ElemsOK.aux_cons {P : Fm → Prop} {a : Fm} {r : FmL} {next : Nat} {seen vs : List Nat} {qs : List (Nat × Fm)}
    (ih : ElemsOK P r (next + 1) seen vs qs) (ha : P a) (hr : ∀ v ∈ r.allVars, v < next) :
    ElemsOK P (.cons a r) next seen (next :: vs) ((next, a) :: qs) := by
  have hnot : next ∉ vs := fun hm =>
    (ih.vars next hm).elim (fun h => Nat.lt_irrefl _ (hr next h.1)) fun h => Nat.lt_irrefl _ (ih.above h)
  refine ⟨congrArg (· + 1) ih.length, fun q hq => ?_, fun v hm => ?_,
    List.nodup_cons.2 ⟨hnot, ih.nodup⟩, fun ρ => ?_⟩
  · rcases List.mem_cons.1 hq with rfl | hq
    · exact ⟨Nat.le_refl _, ha⟩
    · exact ih.shift hq
  · rcases List.mem_cons.1 hm with rfl | hm
    · exact Or.inr List.mem_cons_self
    · exact (ih.vars v hm).imp (fun h => ⟨List.mem_append_right _ h.1, h.2⟩) (List.mem_cons_of_mem _)
  · show (next :: vs).countP (upd (envQ ρ qs) next (a.eval ρ)) = _
    rw [List.countP_cons, upd_same, FmL.countT, ← ih.count ρ, Nat.add_comm]
    congr 1
    exact List.countP_congr fun v hm => by rw [upd_ne fun (e : v = next) => hnot (e ▸ hm)]

/-- The pairs `elems` returns are `(e, BDD of e =:= a)` for a list `qs` of `(e, a)` as in `ElemsOK`. -/
theorem elems_ok {P : Fm → Prop} (frN : Nat) (l : FmL) : ∀ (next : Nat) (seen : List Nat),
    FmL.All P l → (∀ v ∈ l.allVars, v < next) →
    ∃ qs, (l.elems frN next seen).2 = qs.map (fun q => (q.1, eqvVar q.1 (q.2.build frN))) ∧
      ElemsOK P l next seen (l.elems frN next seen).1 qs := by
  induction l using FmL.induction with
  | nil => exact fun _ _ _ _ => ⟨[], rfl, rfl, nofun, nofun, .nil, fun _ => rfl⟩
  | cons a r ih =>
    intro next seen hl hv
    have hr : ∀ v ∈ r.allVars, v < next := fun v hm => hv v (List.mem_append_right _ hm)
    have ih := fun seen => ih (next + 1) seen hl.2 fun v hm => Nat.lt_succ_of_lt (hr v hm)
    have haux : ∀ {vs qs}, ElemsOK P r (next + 1) seen vs qs →
        ElemsOK P (.cons a r) next seen (next :: vs) ((next, a) :: qs) :=
      fun ok => ok.aux_cons hl.1 hr
    rw [FmL.elems]
    -- a variable used before, and (last bullet) a non-variable, get the auxiliary `next`; a variable
    -- not yet used stands for itself
    split
    · next x hx =>
      split
      · obtain ⟨qs, e, ok⟩ := ih seen
        exact ⟨(next, a) :: qs, congrArg (List.cons _) e, haux ok⟩
      · next hs =>
        obtain ⟨qs, e, ok⟩ := ih (x :: seen)
        cases isVar_eq hx
        exact ⟨qs, e, ok.var_cons (by simpa using hs) (hv x List.mem_cons_self)⟩
    · obtain ⟨qs, e, ok⟩ := ih seen
      exact ⟨(next, a) :: qs, congrArg (List.cons _) e, haux ok⟩

/-- `exAnd` substitutes: `∃e. (e ↔ ba) ∧ nd` is `nd[e := ba]` when `ba` does not read `e`. -/
theorem exAnd_denotes {T : Nat → Prop} {e : Nat} {ba nd : BDD} (hba : Good (fun v => T v ∧ v ≠ e) ba)
    (he : T e) (hn : Good T nd) :
    Denotes (fun v => T v ∧ v ≠ e) (exAnd nd (e, eqvVar e ba))
      fun σ => nd.eval (upd σ e (ba.eval σ)) := by
  have hc : Good T (apply .and (eqvVar e ba) nd) :=
    ((Good.leaf.apply _ (Good.ofVar he)).apply _ (hba.mono fun _ h => h.1)).apply .and hn
  refine ⟨hc.exQ e, fun σ => ?_⟩
  have hind : ∀ x, ba.eval (upd σ e x) = ba.eval σ := fun x =>
    hba.eval_congr fun _ hv => upd_ne hv.2
  rw [exAnd, eval_exQ hc.ord]
  simp only [eval_apply, eqvVar, eval_ofVar, upd_same, hind]
  cases ba.eval σ <;> simp [Op.fn, eval]

theorem fold_exAnd_spec {A : Nat → Prop} {fr frN : Nat} (qs : List (Nat × Fm))
    (hq : ∀ q ∈ qs, fr ≤ q.1 ∧ Denotes (fun v => v < fr ∧ A v) (q.2.build frN) q.2.eval) :
    ∀ {nd : BDD}, Good (fun v => A v ∨ v ∈ qs.map Prod.fst) nd →
      Denotes A ((qs.map fun q => (q.1, eqvVar q.1 (q.2.build frN))).foldl exAnd nd)
        fun ρ => nd.eval (envQ ρ qs) := by
  induction qs with
  | nil => exact fun hn => ⟨hn.mono fun v h => h.resolve_right List.not_mem_nil, fun _ => rfl⟩
  | cons q qs ih =>
    intro nd hn
    have ⟨hq1, hg, hev⟩ := hq q List.mem_cons_self
    have hqs := fun q' hq' => hq q' (List.mem_cons_of_mem _ hq')
    -- the conjunction with `q.1 =:= q.2`, from which `q.1` is then quantified away
    have hs := exAnd_denotes (T := fun v => A v ∨ v ∈ (q :: qs).map Prod.fst) (e := q.1)
      (hg.mono fun v h => ⟨Or.inl h.2, Nat.ne_of_lt (Nat.lt_of_lt_of_le h.1 hq1)⟩)
      (Or.inr List.mem_cons_self) hn
    have d := ih hqs hs.1.drop_head
    refine ⟨d.1, fun ρ => (d.2 ρ).trans <| (hs.2 _).trans ?_⟩
    show nd.eval (upd _ q.1 ((q.2.build frN).eval (envQ ρ qs))) = _
    rw [hg.eval_congr (ρ' := ρ) fun v hv => envQ_low (fun q' hq' => (hqs q' hq').1) hv.1, hev]
    rfl

/-! ### sorting -/

theorem mem_insertU {x y : Nat} (l : List Nat) : y ∈ insertU x l ↔ y = x ∨ y ∈ l := by
  -- `insertU`'s clauses: 1 the empty list; 2, 3, 4 head `z` with `x < z`, `x = z`, `z < x`
  fun_induction insertU x l with
  | case1 => simp
  | case2 z r h => exact List.mem_cons
  | case3 r h => rw [List.mem_cons, or_self_left]
  | case4 z r h1 h2 ih =>
    rw [List.mem_cons, ih, List.mem_cons]
    exact or_left_comm

theorem sorted_insertU {x : Nat} (l : List Nat) (h : l.Pairwise (· < ·)) :
    (insertU x l).Pairwise (· < ·) := by
  fun_induction insertU x l with
  | case1 => exact List.pairwise_singleton _ _
  | case2 z r hlt =>
    refine List.pairwise_cons.2 ⟨fun w hw => ?_, h⟩
    rcases List.mem_cons.1 hw with rfl | hw
    · exact hlt
    · exact Nat.lt_trans hlt ((List.pairwise_cons.1 h).1 w hw)
  | case3 r _ => exact h
  | case4 z r h1 h2 ih =>
    have ⟨hz, hr⟩ := List.pairwise_cons.1 h
    refine List.pairwise_cons.2 ⟨fun w hw => ?_, ih hr⟩
    rcases (mem_insertU r).1 hw with rfl | hw
    · exact Nat.lt_of_le_of_ne (Nat.le_of_not_lt h1) (Ne.symm h2)
    · exact hz w hw

theorem perm_insertU {x : Nat} (l : List Nat) (h : x ∉ l) : (insertU x l).Perm (x :: l) := by
  fun_induction insertU x l with
  | case1 => exact List.Perm.refl _
  | case2 z r _ => exact List.Perm.refl _
  | case3 r _ => exact absurd List.mem_cons_self h
  | case4 z r _ _ ih =>
    exact ((ih fun hm => h (List.mem_cons_of_mem _ hm)).cons z).trans (List.Perm.swap x z r)

theorem mem_sortU {y : Nat} {l : List Nat} : y ∈ sortU l ↔ y ∈ l := by
  induction l with
  | nil => exact Iff.rfl
  | cons x r ih =>
    rw [sortU, List.foldr_cons, mem_insertU, List.mem_cons]
    exact or_congr_right ih

theorem sorted_sortU (l : List Nat) : (sortU l).Pairwise (· < ·) := by
  induction l with
  | nil => exact .nil
  | cons x r ih => exact sorted_insertU _ ih

theorem perm_sortU {l : List Nat} (h : l.Nodup) : (sortU l).Perm l := by
  induction l with
  | nil => exact List.Perm.refl _
  | cons x r ih =>
    have ⟨hx, hr⟩ := List.nodup_cons.1 h
    exact (perm_insertU (sortU r) fun hm => hx (mem_sortU.1 hm)).trans ((ih hr).cons x)

theorem nodup_sortU (l : List Nat) : (sortU l).Nodup :=
  (sorted_sortU l).imp (fun h => Nat.ne_of_lt h)

/-! ### `card/2`, and every formula -/

theorem card_ok (is : List (Nat × Nat)) {l : FmL} (hl : FmL.All PF l) : PF (.card is l) := by
  intro fr hv
  have hv' : ∀ v ∈ l.allVars, v < fr := hv
  -- every element is fine at the nested base `fr + l.length`, with support below `fr`
  have hel := hl.build (fr := fr + l.length) (S := fun v => v < fr ∧ v ∈ l.allVars)
    fun v h => ⟨Nat.lt_add_right _ (hv' v h), hv' v h, h⟩
  obtain ⟨qs, hps, ok⟩ := elems_ok (fr + l.length) l fr [] hel hv'
  generalize hvs : (l.elems (fr + l.length) fr []).1 = vs at ok
  have hbuild : (Fm.card is l).build fr =
      (qs.map fun q => (q.1, eqvVar q.1 (q.2.build (fr + l.length)))).foldl exAnd
        (counterNet (sortU vs).reverse (indicators is 0 (l.length + 1))) := by
    simp only [Fm.build, hvs, hps]
  have hperm : (sortU vs).reverse.Perm vs := (List.reverse_perm _).trans (perm_sortU ok.nodup)
  have hn0 := counterNet_denotes (S := (· ∈ vs)) (sortU vs).reverse (fun j => leaf (inRanges is j))
    (fun j _ => inRanges is j) (List.pairwise_reverse.2 (sorted_sortU _))
    (fun _ hm => hperm.subset hm) (fun _ => .const) fun _ _ _ => trivial
  rw [hperm.length_eq, ok.length, ← indicators_eq] at hn0
  have d := fold_exAnd_spec (A := (· ∈ l.allVars)) qs ok.aux
    (hn0.1.mono fun v hm => (ok.vars v hm).imp_left fun h => h.1)
  rw [OKf, hbuild]
  refine ⟨d.1, fun ρ => (d.2 ρ).trans ((hn0.2 _).trans ?_)⟩
  show inRanges is (List.countP _ (sortU vs).reverse) = _
  rw [hperm.countP_eq, ok.count]
  rfl

mutual
theorem build_ok : (f : Fm) → PF f
  | .const _ => fun _ _ => Denotes.const
  | .var i => fun _ _ => ⟨Good.ofVar List.mem_cons_self, eval_ofVar i⟩
  -- `OKf fr a` unfolds to the `Denotes` that `Denotes.neg` asks for
  | .not a => fun fr hv => Denotes.neg (build_ok a fr hv)
  | .and a b => bin_ok (build_ok a) (build_ok b) rfl fun da db => da.apply .and db
  | .or a b => bin_ok (build_ok a) (build_ok b) rfl fun da db => da.apply .or db
  | .xor a b => bin_ok (build_ok a) (build_ok b) rfl fun da db => da.apply .xor db
  | .neq a b => bin_ok (build_ok a) (build_ok b) rfl fun da db => da.apply .xor db
  | .eqv a b => bin_ok (build_ok a) (build_ok b) rfl fun da db =>
      (da.neg.apply .xor db).congr fun ρ => by
        show _ = (a.eval ρ == b.eval ρ)
        cases a.eval ρ <;> cases b.eval ρ <;> rfl
  | .le a b => bin_ok (build_ok a) (build_ok b) rfl fun da db => da.neg.apply .or db
  | .ge a b => bin_ok (build_ok a) (build_ok b) rfl fun da db =>
      (db.neg.apply .or da).congr (ψ := (Fm.ge a b).eval) fun ρ => Bool.or_comm ..
  | .lt a b => bin_ok (build_ok a) (build_ok b) rfl fun da db => da.neg.apply .and db
  | .gt a b => bin_ok (build_ok a) (build_ok b) rfl fun da db =>
      (db.neg.apply .and da).congr (ψ := (Fm.gt a b).eval) fun ρ => Bool.and_comm ..
  | .ex v a => fun _ hv => ((build_ok a).denotes fun w h =>
      ⟨hv w (List.mem_cons_of_mem _ h), List.mem_cons_of_mem _ h⟩).exQ v
  | .orL l => orL_ok (buildL_ok l)
  | .andL l => andL_ok (buildL_ok l)
  | .card is l => card_ok is (buildL_ok l)
theorem buildL_ok : (l : FmL) → FmL.All PF l
  | .nil => trivial
  | .cons a r => ⟨build_ok a, buildL_ok r⟩
end

end Scryer.BDD
