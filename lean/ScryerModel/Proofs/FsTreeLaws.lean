import ScryerModel.Proofs.FsTree
/-! Laws of the file-system model: what becomes of path resolution when the tree grows
(`Loc.GrowsTo`), what a path resolves to after `mkdir` and after its entry is erased, what every
level of `create_dir_all` preserves (`Grows`), and what one predicate call may do to the tree
(`Effect`). -/
namespace Scryer.FsTree

/-- `fs'` agrees with `fs` wherever `fs` has something -/
def Extends (fs fs' : Fs) : Prop := ∀ q, get fs q ≠ none → get fs' q = get fs q

theorem Extends.refl (fs : Fs) : Extends fs fs := fun _ _ => rfl

theorem Extends.trans {a b c : Fs} (h1 : Extends a b) (h2 : Extends b c) : Extends a c := by
  intro q hq
  have := h1 q hq
  rw [h2 q (by rw [this]; exact hq), this]

theorem Extends.get_some {fs fs' : Fs} (hx : Extends fs fs') {q : Path} {e : Entry}
    (hg : get fs q = some e) : get fs' q = some e := by
  rw [hx q (by rw [hg]; nofun), hg]

variable {fs fs' : Fs} {cur : Path} {comps : List Name}

/-- `l'` is what becomes of the outcome `l` of a resolution when the tree grows to `fs'`: what was
found is found, and a name that was free resolves once a directory is put there -/
def Loc.GrowsTo (fs' : Fs) : Loc → Loc → Prop
  | .found p e, l' => l' = .found p e
  | .missing par n _, l' => get fs' (par ++ [n]) = some .dir → l' = .found (par ++ [n]) .dir
  | .err _, _ => True

theorem walk_extends (hx : Extends fs fs') :
    (walk fs cur comps).GrowsTo fs' (walk fs' cur comps) := by
  -- the clauses as numbered in `walk_sound`. 6: once a directory stands at the free name the walk
  -- enters it, and only empty components follow
  fun_induction walk fs cur comps with
  | case1 => rfl
  | case2 _ _ _ hc ih => rw [walk_skip hc]; exact ih
  | case4 _ _ hcur _ ih => rw [walk_up hcur]; exact ih
  | case6 _ _ _ hc hdd hlen _ hall =>
    intro hg; rw [walk_dir hc hdd hlen hg]; exact walk_allEmpty fs' _ hall
  | case8 _ _ _ hc hdd hlen hd ih => rw [walk_dir hc hdd hlen (hx.get_some hd)]; exact ih
  | case9 _ _ hc hdd hlen _ hf => exact walk_file hc hdd hlen (hx.get_some hf)
  | _ => exact trivial

/-- what a missing outcome says in any path map, tree or not: the name is free (`walk` looked it up)
and is the last non-empty component of the text. `WF` is needed only where a directory is claimed:
for what `..` arrives at and for the parent of the missing name (`Loc.Sound`) -/
theorem walk_missing_last {par : Path} {n : Name} {sl : Bool} :
    walk fs cur comps = .missing par n sl →
      get fs (par ++ [n]) = none ∧ (comps.filter (· ≠ "")).getLast? = some n ∧ n ≠ "." ∧ n ≠ ".." := by
  have keep : ∀ {c : Name} {rest : List Name}, (rest.filter (· ≠ "")).getLast? = some n →
      ((c :: rest).filter (· ≠ "")).getLast? = some n := by
    intro c rest h
    rw [List.filter_cons]
    split
    · rw [List.getLast?_cons, h]; rfl
    · exact h
  -- 2, 4, 8 recurse on the rest of the components, 6 alone answers `missing`
  fun_induction walk fs cur comps with
  | case2 _ _ _ _ ih | case4 _ _ _ _ ih | case8 _ _ _ _ _ _ _ ih =>
    intro hw; exact ⟨(ih hw).1, keep (ih hw).2.1, (ih hw).2.2⟩
  | case6 _ c rest hc hdd _ hn hall =>
    intro hw; cases hw
    refine ⟨hn, ?_, fun h => hc (.inr h), hdd⟩
    have hr : rest.filter (· ≠ "") = [] :=
      List.filter_eq_nil_iff.2 fun a ha => by simpa using List.all_eq_true.1 hall a ha
    rw [List.filter_cons_of_pos (by simpa using fun h => hc (.inl h)), hr]; rfl
  | _ => intro hw; cases hw

variable {cwd : Path} {s : String}

theorem resolve_extends (hx : Extends fs fs') :
    (resolve fs cwd s).GrowsTo fs' (resolve fs' cwd s) := by
  rw [resolve_eq, resolve_eq]
  by_cases hc : s ≠ "" ∧ get fs (if isAbs s then [] else cwd) = some .dir
  · rw [if_pos hc, if_pos (And.intro hc.1 (hx.get_some hc.2))]; exact walk_extends hx
  · rw [if_neg hc]; exact trivial

theorem resolve_missing_last {par : Path} {n : Name} {sl : Bool} :
    resolve fs cwd s = .missing par n sl →
      get fs (par ++ [n]) = none ∧ lastRaw s = some n ∧ n ≠ "." ∧ n ≠ ".." := by
  rw [resolve_eq]
  by_cases hc : s ≠ "" ∧ get fs (if isAbs s then [] else cwd) = some .dir
  · rw [if_pos hc]; exact walk_missing_last
  · rw [if_neg hc]; nofun

theorem mkdir_then_found {par : Path} {n : Name} {sl : Bool}
    (hr : resolve fs cwd s = .missing par n sl) :
    resolve (set fs (par ++ [n]) .dir) cwd s = .found (par ++ [n]) .dir := by
  have hk := append_ne_nil par n
  have hn := (resolve_missing_last hr).1
  have hx : Extends fs (set fs (par ++ [n]) .dir) := fun q hq => by
    rw [get_set hk, if_neg fun he => hq (by rw [he]; exact hn)]
  have := resolve_extends hx (cwd := cwd) (s := s)
  rw [hr] at this
  exact this (by rw [get_set hk, if_pos rfl])

theorem mkdir_then_isDir (hm : mkdir fs cwd s = .ok fs') : isDir fs' cwd s = true := by
  obtain ⟨par, n, _, hr, rfl⟩ := mkdir_ok hm
  rw [isDir, stat, mkdir_then_found hr]

theorem erase_then_gone {p : Path} {e : Entry} (h : WF (erase fs p)) (hp : p ≠ [])
    (hr : resolve fs cwd s = .found p e) :
    isFile (erase fs p) cwd s = false ∧ isDir (erase fs p) cwd s = false := by
  -- whatever `s` resolves to sits at its lexical normal form `p`, where nothing is left
  have : stat (erase fs p) cwd s = none := by
    unfold stat
    cases hr' : resolve (erase fs p) cwd s with
    | found p' e' =>
      have hg := resolve_found h hr'
      rw [(resolve_found_lexNorm hr').trans (resolve_found_lexNorm hr).symm, get_erase hp,
        if_pos rfl] at hg
      cases hg
    | _ => rfl
  exact ⟨by rw [isFile, this], by rw [isDir, this]⟩

theorem mkdir_existing (hex : stat fs cwd s ≠ none) : mkdir fs cwd s = .error .exist := by
  revert hex
  unfold stat mkdir
  cases resolve fs cwd s with
  | found p e => intro _; rfl
  | _ => intro hex; exact absurd rfl hex

/-- only directories were added, nothing else changed -/
def DirExt (fs fs' : Fs) : Prop :=
  ∀ q, get fs' q = get fs q ∨ (get fs q = none ∧ get fs' q = some .dir)

theorem DirExt.refl (fs : Fs) : DirExt fs fs := fun _ => Or.inl rfl

theorem DirExt.trans {a b c : Fs} (h1 : DirExt a b) (h2 : DirExt b c) : DirExt a c := by
  intro q
  rcases h1 q with e1 | ⟨n1, d1⟩
  · rw [← e1]; exact h2 q
  · rcases h2 q with e2 | ⟨n2, _⟩
    · right; exact ⟨n1, by rw [e2, d1]⟩
    · rw [d1] at n2; cases n2

theorem mkdir_dirExt (h : WF fs) (hm : mkdir fs cwd s = .ok fs') : DirExt fs fs' := by
  obtain ⟨k, hk, hn, _, rfl⟩ := mkdir_spec h hm
  intro q
  rw [get_set hk]
  split
  · next hq => right; rw [hq]; exact ⟨hn, rfl⟩
  · left; rfl

variable {mk : Fs → Fs × Option Errno}

/-- `mk` keeps a tree a tree and only adds directories -/
def Grows (mk : Fs → Fs × Option Errno) : Prop := ∀ f, WF f → WF (mk f).1 ∧ DirExt f (mk f).1

theorem cdaAt_inv (hmk : Grows mk) (isRoot : Bool) (h : WF fs) (s : String) :
    WF (cdaAt cwd mk isRoot fs s).1 ∧ DirExt fs (cdaAt cwd mk isRoot fs s).1 := by
  have hp := hmk fs h
  -- `mkdir` succeeds at once (1) or after `mk` made the parent (4); `mk` fails (3), or the second
  -- `mkdir` does (5, 6): the tree is what `mk` left; in the rest (2, 7, 8) `fs` comes back
  fun_cases cdaAt cwd mk isRoot fs s with
  | case1 _ hm => exact ⟨mkdir_wf h hm, mkdir_dirExt h hm⟩
  | case4 _ _ _ he _ hm2 =>
    rw [he] at hp; exact ⟨mkdir_wf hp.1 hm2, hp.2.trans (mkdir_dirExt hp.1 hm2)⟩
  | case3 _ _ _ _ he | case5 _ _ _ he | case6 _ _ _ he => rw [he] at hp; exact hp
  | _ => exact ⟨h, DirExt.refl fs⟩

theorem cda_inv (cwd : Path) (cs : List Comp) : Grows (cda cwd cs) := by
  induction cs with
  | nil => exact fun fs h => ⟨h, DirExt.refl fs⟩
  | cons c par ih => exact fun fs h => cdaAt_inv ih _ h _

theorem createDirAll_inv (h : WF fs) (cwd : Path) (s : String) :
    WF (createDirAll fs cwd s).1 ∧ DirExt fs (createDirAll fs cwd s).1 := by
  unfold createDirAll
  split
  · exact ⟨h, DirExt.refl fs⟩
  · exact cdaAt_inv (cda_inv cwd _) _ h _

theorem cdaAt_isDir (isRoot : Bool)
    (hc : cdaAt cwd mk isRoot fs s = (fs', none)) : isDir fs' cwd s = true := by
  revert hc
  -- no error: a `mkdir` succeeded (1, 4), or failed on what `isDir` finds to be a directory (5, 7)
  fun_cases cdaAt cwd mk isRoot fs s with
  | case1 _ hm | case4 _ _ _ _ _ hm => intro hc; cases hc; exact mkdir_then_isDir hm
  | case5 _ _ _ _ _ _ hd | case7 _ _ _ hd => intro hc; cases hc; exact hd
  | _ => intro hc; cases hc

theorem cdaAt_of_isDir (isRoot : Bool) (hd : isDir fs cwd s = true) :
    cdaAt cwd mk isRoot fs s = (fs, none) := by
  have hm : mkdir fs cwd s = .error .exist :=
    mkdir_existing fun hn => by rw [isDir, hn] at hd; cases hd
  unfold cdaAt
  rw [hm]
  simp [hd]

theorem ofExcept_wf (h : WF fs) {r : Except Errno Fs} (hr : ∀ f, r = .ok f → WF f) :
    WF (ofExcept fs r).1 := by
  -- the clauses of `ofExcept`: `.ok`, `.error .outside`, any other error
  fun_cases ofExcept fs r
  · exact hr _ rfl
  · exact h
  · exact h

theorem ofExcept_unchanged {r : Except Errno Fs} : (ofExcept fs r).2 ≠ .yes → (ofExcept fs r).1 = fs := by
  -- `.ok`, `.error .outside`, any other error
  fun_cases ofExcept fs r
  · exact fun h => absurd rfl h
  · exact fun _ => rfl
  · exact fun _ => rfl

/-- what one predicate call may do to the tree: hand it back, or put in its place what a system
call, `create_dir_all` or the environment's write made of it -/
inductive Effect (cfg : Cfg) (fs : Fs) : Op → Fs × Out → Prop
  | same (op o) : Effect cfg fs op (fs, o)
  | mkdir (a s) : Effect cfg fs (.mkdir a) (ofExcept fs (mkdir fs cfg.cwd s))
  | mkdirPath (a s) {fs' e} (o) :
    createDirAll fs cfg.cwd s = (fs', e) → Effect cfg fs (.mkdirPath a) (fs', o)
  | unlink (a s) : Effect cfg fs (.deleteFile a) (ofExcept fs (unlink fs cfg.cwd s))
  | rmdir (a s) : Effect cfg fs (.deleteDir a) (ofExcept fs (rmdir fs cfg.cwd s))
  | rename (a b s t) : Effect cfg fs (.rename a b) (ofExcept fs (rename fs cfg.cwd s t))
  | copy (a b s t) : Effect cfg fs (.copy a b) (ofExcept fs (copy cfg.truncSelf fs cfg.cwd s t))
  | write (p b) : Writable fs p → Effect cfg fs (.envWrite p b) (set fs p (.file b), .yes)

/-- the only sweep over the branches of `step`: all but nine hand back `fs` -/
theorem step_effect (cfg : Cfg) (fs : Fs) (op : Op) : Effect cfg fs op (step cfg fs op) := by
  fun_cases step cfg fs op
  all_goals try with_reducible exact .same _ _
  -- what remains, in the order of `step`'s equations, one system call each
  · exact .mkdir _ _
  · exact .mkdirPath _ _ _ ‹_›  -- `create_dir_all` succeeded
  · exact .mkdirPath _ _ _ ‹_›  -- left the tree
  · exact .mkdirPath _ _ _ ‹_›  -- any other error
  · exact .unlink _ _
  · exact .rmdir _ _
  · exact .rename _ _ _ _
  · exact .copy _ _ _ _
  · next h => exact .write _ _ ⟨h.1, h.2.2, h.2.1⟩

theorem Effect.wf {cfg : Cfg} (h : WF fs) {op : Op} {x : Fs × Out}
    (he : Effect cfg fs op x) : WF x.1 := by
  cases he with
  | same => exact h
  | mkdir => exact ofExcept_wf h fun _ => mkdir_wf h
  | mkdirPath _ s _ hc => exact (congrArg Prod.fst hc) ▸ (createDirAll_inv h cfg.cwd s).1
  | unlink => exact ofExcept_wf h fun _ => unlink_wf h
  | rmdir => exact ofExcept_wf h fun _ => rmdir_wf h
  | rename => exact ofExcept_wf h fun _ => rename_wf h
  | copy => exact ofExcept_wf h fun _ => copy_wf h
  | write _ _ hw => exact wf_set h hw.1 hw.2.2 (.inr hw.2.1)

end Scryer.FsTree
