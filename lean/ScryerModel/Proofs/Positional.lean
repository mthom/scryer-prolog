/-! Positional notation, with no model in sight. `horner b v a ds` is the value of the digit string `ds`
    read from the start value `a` (Horner's rule, a left fold); `Numeral b dig n ds` says that `ds` is `n`
    written in base `b`. A printer of a model is tied to `Numeral` by one induction along its own
    recursion or fuel (`Numeral.of_eq` does it for a printer given by the plain equation); what its text
    looks like, and that the fold reads it back, is then `Numeral.spec` and `Numeral.head`; the text is
    determined by the number (`Numeral.unique`) and cut before its last `k` digits it gives the numeral of
    `n / b ^ k` and a text of value `n % b ^ k` (`Numeral.split`). -/
namespace Scryer.Positional

variable {α : Type} {b : Nat} {v : α → Nat}

/-- the digits `ds`, most significant first, read in base `b` after a number `a` already read -/
def horner (b : Nat) (v : α → Nat) (a : Nat) (ds : List α) : Nat := ds.foldl (fun a d => a * b + v d) a

theorem horner_start (b : Nat) (v : α → Nat) (a : Nat) (ds : List α) :
    horner b v a ds = a * b ^ ds.length + horner b v 0 ds := by
  induction ds generalizing a with
  | nil => simp [horner]
  | cons c cs ih =>
    simp only [horner, List.foldl_cons, List.length_cons] at ih ⊢
    rw [ih, ih (0 * b + v c), Nat.pow_succ', Nat.zero_mul, Nat.zero_add, Nat.add_mul, Nat.mul_assoc,
      Nat.add_assoc]

theorem horner_horner (b : Nat) (v : α → Nat) (a : Nat) (xs ys : List α) :
    horner b v a (xs ++ ys) = horner b v (horner b v a xs) ys := by
  induction xs generalizing a with
  | nil => rfl
  | cons c cs ih => exact ih _

theorem horner_append (b : Nat) (v : α → Nat) (xs ys : List α) :
    horner b v 0 (xs ++ ys) = horner b v 0 xs * b ^ ys.length + horner b v 0 ys :=
  (horner_horner ..).trans (horner_start ..)

theorem horner_snoc (b : Nat) (v : α → Nat) (a : Nat) (ds : List α) (c : α) :
    horner b v a (ds ++ [c]) = horner b v a ds * b + v c :=
  horner_horner ..

/-- `ds` is `n` written in base `b` with the digits `dig`, most significant digit first, no leading zero
    (so zero is the one digit `dig 0`) -/
inductive Numeral (b : Nat) (dig : Nat → α) : Nat → List α → Prop
  | small {n : Nat} : n < b → Numeral b dig n [dig n]
  | step {n : Nat} {ds : List α} : b ≤ n → Numeral b dig (n / b) ds → Numeral b dig n (ds ++ [dig (n % b)])

variable {dig : Nat → α}

theorem Numeral.of_eq {f : Nat → List α} (hb : 1 < b)
    (hf : ∀ n, f n = if n < b then [dig n] else f (n / b) ++ [dig (n % b)]) (n : Nat) :
    Numeral b dig n (f n) := by
  induction n using Nat.strongRecOn with
  | _ n ih =>
    rw [hf]
    split
    · exact .small ‹_›
    · exact .step (by omega) (ih _ (Nat.div_lt_self (by omega) hb))

/-- every character is a digit (`p`), the fold with the digit values `v` reads the number back -/
theorem Numeral.spec {p : α → Prop} {n : Nat} {ds : List α} (h : Numeral b dig n ds) (hb : 0 < b)
    (hd : ∀ m, m < b → p (dig m) ∧ v (dig m) = m) : (∀ d ∈ ds, p d) ∧ horner b v 0 ds = n ∧ ds ≠ [] := by
  induction h with
  | small h => exact ⟨List.forall_mem_singleton.2 (hd _ h).1, by simpa [horner] using (hd _ h).2,
      List.cons_ne_nil _ _⟩
  | @step n ds _ _ ih =>
    have hm := hd (n % b) (Nat.mod_lt _ hb)
    refine ⟨List.forall_mem_append.2 ⟨ih.1, List.forall_mem_singleton.2 hm.1⟩, ?_, by simp⟩
    rw [horner_snoc, ih.2.1, hm.2]
    exact Nat.div_add_mod' n b

/-- the leading digit is not `dig 0` unless the number is zero, and a number below the base is one digit -/
theorem Numeral.head {n : Nat} {ds : List α} (h : Numeral b dig n ds) (hb : 0 < b) :
    ∃ m r, ds = dig m :: r ∧ m < b ∧ (1 ≤ n → 1 ≤ m) ∧ (n < b → r = []) := by
  induction h with
  | @small n h => exact ⟨n, [], rfl, h, id, fun _ => rfl⟩
  | @step n ds h _ ih =>
    obtain ⟨m, r, rfl, hm, h1, -⟩ := ih
    exact ⟨m, r ++ [dig (n % b)], rfl, hm, fun _ => h1 (Nat.div_pos h hb), fun h' => absurd h' (by omega)⟩

theorem Numeral.lt_pow {n : Nat} {ds : List α} (h : Numeral b dig n ds) (hb : 0 < b) : n < b ^ ds.length := by
  induction h with
  | small h => rwa [List.length_singleton, Nat.pow_one]
  | step _ _ ih =>
    rw [List.length_append, List.length_singleton, Nat.pow_succ]
    exact (Nat.div_lt_iff_lt_mul hb).1 ih

theorem Numeral.unique {n : Nat} {ds ds' : List α} (h : Numeral b dig n ds) (h' : Numeral b dig n ds') :
    ds = ds' := by
  induction h generalizing ds' with
  | small hn =>
    cases h' with
    | small => rfl
    | step hle => exact absurd hn (Nat.not_lt.2 hle)
  | step hle _ ih =>
    cases h' with
    | small hn => exact absurd hn (Nat.not_lt.2 hle)
    | step _ h2 => rw [ih h2]

/-- the last `k` digits are `n % b ^ k` (zero padded), what stands before them is `n / b ^ k` written out -/
theorem Numeral.split (hb : 0 < b) (hv : ∀ m, m < b → v (dig m) = m) (k : Nat) :
    ∀ {n : Nat} {ds : List α}, Numeral b dig n ds → k < ds.length →
      ∃ hi lo, ds = hi ++ lo ∧ Numeral b dig (n / b ^ k) hi ∧ lo.length = k ∧
        horner b v 0 lo = n % b ^ k := by
  induction k with
  | zero =>
    intro n ds h _
    exact ⟨ds, [], (List.append_nil _).symm, by rwa [Nat.pow_zero, Nat.div_one], rfl, (Nat.mod_one n).symm⟩
  | succ k ih =>
    intro n ds h hk
    cases h with
    | small => exact absurd hk (by simp)
    | @step _ ds _ hds =>
      obtain ⟨hi, lo, rfl, hhi, hlen, hval⟩ := ih hds (by simpa using hk)
      refine ⟨hi, lo ++ [dig (n % b)], List.append_assoc .., ?_, by simp [hlen], ?_⟩
      · rwa [Nat.pow_succ', ← Nat.div_div_eq_div_mul]
      · rw [horner_snoc, hval, hv _ (Nat.mod_lt _ hb), Nat.pow_succ', Nat.mod_mul, Nat.mul_comm, Nat.add_comm]

/-! One digit step `a * m + x` with `x < m`: the quotient is `a`, the remainder `x` (core's
    `Nat.mul_add_mod_of_lt`), and the bound on `a` carries over; `mod_lt_lit` is the bound `x < m` for a
    digit taken as `_ % m` with a literal `m`. -/

theorem mul_add_div_of_lt {a m x : Nat} (h : x < m) : (a * m + x) / m = a := by
  rw [Nat.mul_comm, Nat.mul_add_div (Nat.zero_lt_of_lt h), Nat.div_eq_of_lt h, Nat.add_zero]

theorem mod_lt_lit (a : Nat) {m : Nat} (h : 0 < m := by decide) : a % m < m := Nat.mod_lt a h

theorem mul_add_lt {a n x m : Nat} (ha : a < n) (hx : x < m) : a * m + x < n * m :=
  calc a * m + x < a * m + m := Nat.add_lt_add_left hx _
    _ = (a + 1) * m := (Nat.succ_mul a m).symm
    _ ≤ n * m := Nat.mul_le_mul_right m ha

end Scryer.Positional
