import ScryerModel.Model.Index
import ScryerModel.Proofs.ListFacts
/-!
Invariants of the first-argument index model (`Model/Index.lean`) shared by the static
(`Proofs/Index.lean`) and the dynamic (`Proofs/IndexDyn.lean`) proofs of property C06.
Definitions, what `firstInst` and `compat` say about a head argument, and the lemmas that turn the
invariant into statements about `select`.
-/
namespace Scryer.Index

/-- A call argument as the machine can hold it: a fixnum cell holds a 56-bit value. -/
def CallArg.WF : CallArg → Prop
  | .fix n => fitsFixnum n = true
  | _ => True

def CallWF (call : Call) : Prop := ∀ a ∈ call, CallArg.WF a

/-- the keys under which a clause is filed in the constant table. -/
def ckeys : FirstArg → List CKey
  | .const l => match l.altKey with
    | some k => [l.key, k]
    | none => [l.key]
  | _ => []

/-- the keys under which a clause is filed in the structure table. -/
def skeys : FirstArg → List (String × Nat)
  | .struct n a => [(n, a)]
  | _ => []

/-- a second/third-level pointer lists clauses of the subsequence, in chain order. -/
def PtrOK (chain : List Nat) (p : Ptr) : Prop := p.ids.Sublist chain

/-- Invariant of one `c`/`s` operand of `SwitchOnTerm`. `keys id` are the keys clause `id` must
be found under. `leafKey`: a direct pointer is only used while all live keyed clauses share one
single key (this is what makes `internalize_constant/structure` correct). -/
structure SlotInv {κ : Type} [DecidableEq κ] (chain : List Nat) (alive : Nat → Bool)
    (keys : Nat → List κ) (slot : Slot κ) : Prop where
  ptrs : ∀ k, PtrOK chain (slot.look k)
  found : ∀ id, id ∈ chain → alive id = true → ∀ k, k ∈ keys id → id ∈ (slot.look k).ids
  leafKey : ∀ p, slot = .leaf p → p ≠ .fail →
    ∃ k, ∀ id, id ∈ chain → alive id = true → keys id = [] ∨ keys id = [k]

/-- Invariant of the indexing code of one subsequence. `hd id` is the head of clause `id`. -/
structure SubInv (hd : Nat → Head) (alive : Nat → Bool) (sub : Sub) : Prop where
  c : SlotInv sub.chain alive (fun id => ckeys (argAt (hd id) sub.arg)) sub.c
  s : SlotInv sub.chain alive (fun id => skeys (argAt (hd id) sub.arg)) sub.s
  l_ok : PtrOK sub.chain sub.l
  l_found : ∀ id, id ∈ sub.chain → alive id = true → argAt (hd id) sub.arg = .list → id ∈ sub.l.ids
  arg : ∀ id, id ∈ sub.chain → firstInst (hd id) = some sub.arg

/-- head of clause `id` as recorded in the store. -/
def Index.hd (idx : Index) (id : Nat) : Head := (headOf idx.store id).getD []

/-- Invariant of a predicate's code. -/
structure Inv (idx : Index) : Prop where
  nodup : idx.order.Nodup
  order_lt : ∀ id, id ∈ idx.order → id < idx.next
  store_lt : ∀ p, p ∈ idx.store → p.1 < idx.next
  dead_lt : ∀ id, id ∈ idx.dead → id < idx.next
  subs : ∀ sub, Seg.indexed sub ∈ idx.segs → SubInv idx.hd idx.alive sub

/-! ### the keys of a clause -/

theorem altKey_ne_key (l : Lit) (k : CKey) (h : l.altKey = some k) : k ≠ l.key := by
  cases l <;> simp [Lit.altKey, Lit.key] at h ⊢
  · obtain ⟨_, rfl⟩ := h; simp
  · obtain ⟨_, _, rfl⟩ := h; simp

theorem ckeys_nodup (fa : FirstArg) : (ckeys fa).Nodup := by
  cases fa with
  | const l =>
    simp only [ckeys]
    cases h : l.altKey with
    | none => simp
    | some k => simpa using (altKey_ne_key l k h).symm
  | _ => simp [ckeys]

theorem skeys_nodup (fa : FirstArg) : (skeys fa).Nodup := by
  cases fa <;> simp [skeys]

/-! ### `compatHead`, argument by argument -/

theorem compat_argAt (h : Head) (call : Call) (arg : Nat) (hc : compatHead h call = true) :
    compat (argAt h arg) (call.getD arg .var) = true := by
  induction h generalizing call arg with
  | nil => rfl
  | cons a r ih =>
    cases call with
    | nil =>
      have hc := Bool.and_eq_true_iff.1 hc
      cases arg with
      | zero => exact hc.1
      | succ n => exact ih [] n hc.2
    | cons c cs =>
      have hc := Bool.and_eq_true_iff.1 hc
      cases arg with
      | zero => exact hc.1
      | succ n => exact ih cs n hc.2

/-! ### from the invariant to `select`: a sublist of the chain -/

theorem SubInv.sel_sublist {hd alive sub} (inv : SubInv hd alive sub) (a : CallArg) :
    (sub.selectWith false a).Sublist sub.chain := by
  cases a <;> simp [Sub.selectWith]
  -- `var` and `arenaNum` take the whole chain; left are `atom`, `fix`, `flt`, then `list`, `struct`
  · exact inv.c.ptrs _
  · exact inv.c.ptrs _
  · exact inv.c.ptrs _
  · exact inv.l_ok
  · exact inv.s.ptrs _

/-! ### the first non-variable argument -/

theorem firstInstFrom_spec (h : Head) (i p : Nat) (hh : firstInstFrom h i = some p) :
    ∃ q, p = i + q ∧ h.getD q .var ≠ .var := by
  induction h generalizing i with
  | nil => cases hh
  | cons x r ih =>
    by_cases hx : x = .var
    · rw [firstInstFrom, if_pos hx] at hh
      obtain ⟨q, rfl, hq⟩ := ih (i + 1) hh
      exact ⟨q + 1, Nat.add_right_comm i 1 q, hq⟩
    · rw [firstInstFrom, if_neg hx] at hh
      cases hh
      exact ⟨0, rfl, hx⟩

theorem argAt_ne_var (h : Head) (p : Nat) (hh : firstInst h = some p) : argAt h p ≠ .var := by
  obtain ⟨q, rfl, hq⟩ := firstInstFrom_spec h 0 p hh
  rwa [Nat.zero_add]

theorem firstInstFrom_none (h : Head) (i : Nat) (hh : firstInstFrom h i = none) (p : Nat) :
    h.getD p .var = .var := by
  induction h generalizing i p with
  | nil => rfl
  | cons x r ih =>
    by_cases hx : x = .var
    · rw [firstInstFrom, if_pos hx] at hh
      cases p with
      | zero => exact hx
      | succ n => exact ih (i + 1) hh n
    · rw [firstInstFrom, if_neg hx] at hh; cases hh

/-! ### what a head argument that could unify with a call argument looks like -/

theorem compat_atom {fa : FirstArg} {s : String} (h : compat fa (.atom s) = true) :
    fa = .var ∨ fa = .const (.atom s) := by
  cases fa <;> simp [compat] at h ⊢; exact h

theorem compat_flt {fa : FirstArg} {b : Nat} (h : compat fa (.flt b) = true) :
    fa = .var ∨ fa = .const (.flt b) := by
  cases fa <;> simp [compat] at h ⊢; exact h

theorem compat_fix {fa : FirstArg} {n : Int} (h : compat fa (.fix n) = true) :
    fa = .var ∨ ∃ l, fa = .const l ∧ l.val = some (n, 1) := by
  cases fa <;> simp [compat] at h ⊢; exact h

theorem compat_list {fa : FirstArg} (h : compat fa .list = true) : fa = .var ∨ fa = .list := by
  cases fa <;> simp [compat] at h ⊢

theorem compat_struct {fa : FirstArg} {n : String} {a : Nat} (h : compat fa (.struct n a) = true) :
    fa = .var ∨ fa = .struct n a := by
  cases fa <;> simp [compat] at h ⊢; exact h

/-- a literal with the value of a fixnum is filed under that fixnum: as its own key, or as the
alternative key of an arena integer or of a rational with denominator 1. -/
theorem fix_mem_ckeys {l : Lit} {n : Int} (hv : l.val = some (n, 1)) (hf : fitsFixnum n = true) :
    CKey.fix n ∈ ckeys (.const l) := by
  cases l <;> simp [Lit.val] at hv
  · subst hv; simp [ckeys, Lit.altKey, Lit.key]
  · subst hv; simp [ckeys, Lit.altKey, Lit.key, hf]
  · obtain ⟨rfl, rfl⟩ := hv; simp [ckeys, Lit.altKey, Lit.key, hf]

/-! ### from the invariant to `select`: nothing dropped, and the property -/

theorem SubInv.sel_complete {hd alive sub} (inv : SubInv hd alive sub) (a : CallArg)
    (wf : CallArg.WF a) (id : Nat) (hm : id ∈ sub.chain) (hal : alive id = true)
    (hc : compat (argAt (hd id) sub.arg) a = true) : id ∈ sub.selectWith false a := by
  have hnv : argAt (hd id) sub.arg ≠ .var := argAt_ne_var _ _ (inv.arg id hm)
  cases a with
  | var => exact hm
  | arenaNum addr n d => exact hm
  | list => exact inv.l_found id hm hal ((compat_list hc).resolve_left hnv)
  | struct n ar =>
    refine inv.s.found id hm hal _ ?_
    rw [(compat_struct hc).resolve_left hnv]; exact List.mem_singleton.2 rfl
  | atom s =>
    refine inv.c.found id hm hal _ ?_
    rw [(compat_atom hc).resolve_left hnv]; exact List.mem_singleton.2 rfl
  | flt b =>
    refine inv.c.found id hm hal _ ?_
    rw [(compat_flt hc).resolve_left hnv]; exact List.mem_singleton.2 rfl
  | fix n =>
    obtain ⟨l, hl, hv⟩ := (compat_fix hc).resolve_left hnv
    refine inv.c.found id hm hal _ ?_
    rw [hl]; exact fix_mem_ckeys hv wf

/-- **order, no additions**: what the index hands over is a sublist of the live clauses. -/
theorem Inv.select_sublist {idx : Index} (inv : Inv idx) (call : Call) :
    (select idx call).Sublist idx.live := by
  unfold select Index.selectWith Index.live Index.order
  apply List.Sublist.filter
  refine sublist_flatMap (.refl _) fun seg hseg => ?_
  cases seg with
  | plain ch => simp [Seg.selectWith, Seg.chain]
  | indexed sub =>
    simp only [Seg.selectWith, Seg.chain]
    exact (inv.subs sub hseg).sel_sublist _

/-- **no drops**: every live clause whose head could unify with the call is handed over. -/
theorem Inv.select_complete {idx : Index} (inv : Inv idx) (call : Call) (wf : CallWF call)
    (id : Nat) (hl : id ∈ idx.live) (hc : compatHead (idx.hd id) call = true) :
    id ∈ select idx call := by
  unfold Index.live Index.order at hl
  rw [List.mem_filter, List.mem_flatMap] at hl
  obtain ⟨⟨seg, hseg, hid⟩, hal⟩ := hl
  unfold select Index.selectWith
  rw [List.mem_filter, List.mem_flatMap]
  refine ⟨⟨seg, hseg, ?_⟩, hal⟩
  cases seg with
  | plain ch => simpa [Seg.selectWith, Seg.chain] using hid
  | indexed sub =>
    simp only [Seg.selectWith]
    simp only [Seg.chain] at hid
    exact (inv.subs sub hseg).sel_complete _ (forall_getD wf (by trivial) _) id hid hal
      (compat_argAt _ _ _ hc)

theorem Inv.live_nodup {idx : Index} (inv : Inv idx) : idx.live.Nodup :=
  List.Pairwise.sublist List.filter_sublist inv.nodup

theorem filter_eq_of_sublist {α : Type} [DecidableEq α] (P : α → Bool) :
    ∀ (l₁ l₂ : List α), l₁.Sublist l₂ → l₂.Nodup →
      (∀ x, x ∈ l₂ → P x = true → x ∈ l₁) → l₁.filter P = l₂.filter P := by
  intro l₁ l₂ hs
  induction hs with
  | slnil => intros; rfl
  | @cons l₁ l₂ a hs ih =>
    intro nd hall
    have nd' := List.nodup_cons.1 nd
    rw [List.filter_cons_of_neg fun hp => nd'.1 (hs.subset (hall a (List.mem_cons_self ..) hp))]
    exact ih nd'.2 fun x hx hp => hall x (List.mem_cons_of_mem _ hx) hp
  | @cons_cons l₁ l₂ a hs ih =>
    intro nd hall
    have nd' := List.nodup_cons.1 nd
    rw [List.filter_cons, List.filter_cons, ih nd'.2 fun x hx hp =>
      (List.mem_cons.1 (hall x (List.mem_cons_of_mem _ hx) hp)).resolve_left fun e => nd'.1 (e ▸ hx)]

/-- **the property on an index that satisfies the invariant**: the clauses handed over by the
index, filtered by head unification, are exactly the live clauses whose head unifies, in textual
order and without duplicates. -/
theorem Inv.select_exact {idx : Index} (inv : Inv idx) (call : Call) (wf : CallWF call) :
    (select idx call).filter (fun id => compatHead (idx.hd id) call)
      = idx.live.filter (fun id => compatHead (idx.hd id) call) :=
  filter_eq_of_sublist _ _ _ (inv.select_sublist call) inv.live_nodup
    (fun id hl hc => inv.select_complete call wf id hl hc)

end Scryer.Index
