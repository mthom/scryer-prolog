import ScryerModel.Proofs.ArithFloat
import ScryerModel.Proofs.ArithInt
import ScryerModel.Model.ArithMixed
import ScryerModel.Proofs.ListFacts
/-! Lemmas about the mixed-type evaluator (`Model/ArithMixed.lean`): the classification trichotomy
and `classify` in front of a continuation (`classify_bind`, from which `Props/C02` reads its outcome
tables), finiteness of every float an operator can return (`applyUn_fin`, `applyBin_fin`), and the
integer rounding functions. -/
namespace Scryer.ArithMixed
open Scryer.ArithFloat

/-! ### `classify` -/

/-- the three classes of a bit pattern and what `classify_float` does with each. -/
theorem classify_cases (f : F64) :
    (f.isNaN = true ∧ f.isInf = false ∧ f.isFinite = false ∧ classify f = .error .undefined) ∨
    (f.isNaN = false ∧ f.isInf = true ∧ f.isFinite = false ∧ classify f = .error .floatOverflow) ∨
    (f.isNaN = false ∧ f.isInf = false ∧ f.isFinite = true ∧ classify f = .ok f) := by
  unfold classify F64.isNaN F64.isInf F64.isFinite
  rcases Nat.lt_trichotomy f.mag INF_MAG with h | h | h
  · right; right; simp [h, Nat.lt_asymm h, Nat.ne_of_lt h]
  · right; left; simp [h]
  · left; simp [h, Nat.lt_asymm h, Nat.ne_of_gt h]

theorem fin_not_nan_inf {f : F64} (h : f.isFinite = true) : f.isNaN = false ∧ f.isInf = false := by
  rcases classify_cases f with ⟨_, _, h3, _⟩ | ⟨_, _, h3, _⟩ | ⟨h1, h2, _⟩
  · rw [h3] at h; cases h
  · rw [h3] at h; cases h
  · exact ⟨h1, h2⟩

theorem classify_ok {f r : F64} (h : classify f = .ok r) : r = f ∧ f.isFinite = true := by
  rcases classify_cases f with ⟨_, _, _, h4⟩ | ⟨_, _, _, h4⟩ | ⟨_, _, h3, h4⟩ <;> rw [h4] at h <;> cases h
  exact ⟨rfl, h3⟩

theorem classify_ok_fin {f r : F64} (h : classify f = .ok r) : r.isFinite = true := by
  obtain ⟨h1, h2⟩ := classify_ok h; rw [h1]; exact h2

theorem classify_bind {β : Type} (f : F64) (k : F64 → Except Err β) :
    (classify f >>= k) =
      if f.isNaN then .error .undefined else if f.isInf then .error .floatOverflow else k f := by
  unfold classify
  split
  · rfl
  · split <;> rfl

/-! ### `addF`, `divF` on finite operands

In these two names `_fin` is about the operands (the operation is then `rne` of the exact result); in all
the later ones it says that the result is finite. -/

theorem addF_fin {x y : F64} (hx : x.isFinite = true) (hy : y.isFinite = true)
    (hs : x.scaledInt + y.scaledInt ≠ 0) :
    addF x y = rne (decide (x.scaledInt + y.scaledInt < 0)) (x.scaledInt + y.scaledInt).natAbs P := by
  obtain ⟨a1, a2⟩ := fin_not_nan_inf hx
  obtain ⟨b1, b2⟩ := fin_not_nan_inf hy
  simp only [addF, a1, a2, b1, b2, Bool.or_self, Bool.false_eq_true, if_false, hs]

theorem divF_fin {x y : F64} (hx : x.isFinite = true) (hy : y.isFinite = true)
    (hy0 : y.isZero = false) : divF x y = rne (x.sign != y.sign) x.scaled y.scaled := by
  obtain ⟨a1, a2⟩ := fin_not_nan_inf hx
  obtain ⟨b1, b2⟩ := fin_not_nan_inf hy
  simp only [divF, a1, a2, b1, b2, hy0, Bool.or_self, Bool.false_eq_true, if_false]

/-! ### every float an operator returns is finite -/

/-- what the operators keep (`applyUn_fin`, `applyBin_fin`): no NaN, no infinity among the values. -/
def Number.fin : Number → Prop
  | .flt f => f.isFinite = true
  | _ => True

/-- all float literals of an expression are finite doubles. -/
def Expr.finLits : Expr → Prop
  | .int _ => True
  | .flt b => (F64.mk b).isFinite = true
  | .un _ e => e.finLits
  | .bin _ l r => l.finLits ∧ r.finLits

theorem negF_fin {f : F64} (h : f.isFinite = true) : (negF f).isFinite = true := by
  unfold negF F64.isFinite at *; rw [mk_mag _ _ (mag_lt f)]; exact h

theorem absF_fin {f : F64} (h : f.isFinite = true) : (absF f).isFinite = true := by
  unfold absF F64.isFinite at *; rw [mk_mag _ _ (mag_lt f)]; exact h

theorem one_mag : one.mag = 1023 * 2 ^ 52 := by
  unfold one; exact mk_mag _ _ (by norm_num)

theorem signumF_fin {f : F64} (h : f.isFinite = true) : (signumF f).isFinite = true := by
  unfold signumF
  rw [(fin_not_nan_inf h).1, if_neg Bool.false_ne_true]
  unfold F64.isFinite
  rw [mk_mag _ _ (by rw [one_mag]; norm_num), one_mag]
  unfold INF_MAG; simp

theorem posZero_fin : posZero.isFinite = true := by
  unfold posZero F64.isFinite; rw [mk_mag _ _ (by norm_num)]; unfold INF_MAG; simp

theorem divFc_fin {a b r : F64} (h : divFc a b = .ok r) : r.isFinite = true := by
  unfold divFc at h
  split at h
  · cases h
  · exact classify_ok_fin h

theorem template_fin {n : Number} {g : F64 → Except Err F64} {r : F64}
    (h : template n g = .ok r) : r.isFinite = true := by
  unfold template at h
  obtain ⟨f1, _, h2⟩ := bind_ok h
  obtain ⟨p, _, h4⟩ := bind_ok h2
  exact classify_ok_fin h4

/-- `unary_float_fn_template`: the argument's class decides first, then `g`'s result is classified. -/
theorem template_eq (n : Number) (g : F64 → Except Err F64) :
    template n g =
      if (rndF n).isNaN then .error .undefined
      else if (rndF n).isInf then .error .floatOverflow
      else g (rndF n) >>= classify :=
  classify_bind (rndF n) _

/-- the last step of every float-valued function. -/
theorem flt_pure_fin {x : Except Err F64} {v : Number}
    (hx : ∀ {r}, x = .ok r → r.isFinite = true)
    (h : (x >>= fun r => pure (Number.flt r)) = .ok v) : v.fin := by
  obtain ⟨r, h1, h2⟩ := bind_ok h
  cases h2
  exact hx h1

theorem classify_flt_fin {p : F64} {v : Number}
    (h : (classify p >>= fun r => pure (Number.flt r)) = .ok v) : v.fin :=
  flt_pure_fin classify_ok_fin h

theorem bind_fin {α : Type} {x : Except Err α} {k : α → R} {v : Number}
    (hk : ∀ {a}, k a = .ok v → v.fin) (h : (x >>= k) = .ok v) : v.fin := by
  obtain ⟨a, _, h2⟩ := bind_ok h
  exact hk h2

theorem add_fin {a b v : Number} (h : add a b = .ok v) : v.fin := by
  cases a <;> cases b <;> simp only [add] at h
  case flt.flt => exact classify_flt_fin h
  case int.flt | flt.int | rat.flt | flt.rat => exact bind_fin classify_flt_fin h
  -- no float operand: the result is an integer or a rational
  all_goals cases h; trivial

theorem mul_fin {a b v : Number} (h : mul a b = .ok v) : v.fin := by
  cases a <;> cases b <;> simp only [mul] at h
  case flt.flt => exact classify_flt_fin h
  case int.flt | flt.int | rat.flt | flt.rat => exact bind_fin classify_flt_fin h
  -- no float operand: the result is an integer or a rational
  all_goals cases h; trivial

theorem neg_fin {a : Number} (h : a.fin) : (neg a).fin := by
  cases a <;> simp only [neg, Number.fin] at * ; exact negF_fin h

theorem abs_fin {a : Number} (h : a.fin) : (abs a).fin := by
  cases a <;> simp only [abs, Number.fin] at * ; exact absF_fin h

theorem div_fin {a b v : Number} (h : div a b = .ok v) : v.fin := by
  unfold div at h
  split at h
  · cases h
  · exact bind_fin (bind_fin (flt_pure_fin divFc_fin)) h

theorem template_flt_fin {n : Number} {g : F64 → Except Err F64} {v : Number}
    (h : (template n g >>= fun r => pure (Number.flt r)) = .ok v) : v.fin :=
  flt_pure_fin template_fin h

theorem sign_fin {a : Number} (h : a.fin) : (sign a).fin := by
  cases a with
  | flt f =>
      simp only [sign]
      split
      · exact posZero_fin
      · exact signumF_fin h
  | int n => simp only [sign]; split <;> (try split) <;> trivial
  | rat n d => simp only [sign]; split <;> (try split) <;> trivial

theorem floatPow_fin {c : Cfg} {a b v : Number} (h : floatPow c a b = .ok v) : v.fin := by
  unfold floatPow at h
  exact bind_fin (bind_fin (bind_fin classify_flt_fin)) h

theorem maxmin_fin_aux {n1 n2 : Number} {v : Number} (h1 : n1.fin) (h2 : n2.fin)
    {k : F64 → F64 → Ordering → Number}
    (hk : ∀ f1 f2 o, f1.isFinite = true → f2.isFinite = true →
      (k f1 f2 o = n1 ∨ k f1 f2 o = n2 ∨ k f1 f2 o = .flt f1 ∨ k f1 f2 o = .flt f2))
    (h : (resultF n1 >>= fun f1 => resultF n2 >>= fun f2 => pure (k f1 f2 (cmpF f1 f2))) = .ok v) :
    v.fin := by
  obtain ⟨f1, e1, h3⟩ := bind_ok h
  obtain ⟨f2, e2, h4⟩ := bind_ok h3
  cases h4
  rcases hk f1 f2 (cmpF f1 f2) (classify_ok_fin e1) (classify_ok_fin e2) with e | e | e | e <;> rw [e]
  · exact h1
  · exact h2
  · exact classify_ok_fin e1
  · exact classify_ok_fin e2

/-! ### the integer rounding functions -/

theorem ofIntChecked_spec (z : Int) : (ofIntChecked z).val = z ∧ (ofIntChecked z).wf :=
  Arith.ofI64_spec z

theorem rndIFloat_val (c : Cfg) (z : Int) : (rndIFloat c z).val = z := by
  unfold rndIFloat; split <;> split <;> rfl

/-- the repaired range test of `rnd_i` is `Fixnum::build_with_checked`. -/
theorem rndIFloat_eq (c : Cfg) (hc : c.pinnedRndI = false) (z : Int) :
    rndIFloat c z = ofIntChecked z := by
  unfold rndIFloat ofIntChecked
  rw [hc, if_neg Bool.false_ne_true]
  by_cases h : Arith.inFix z = true
  · rw [if_pos h, if_pos (by rw [Arith.inFix_iff] at h; omega)]
  · rw [if_neg h, if_neg (by rw [Arith.inFix_iff] at h; omega)]

/-- `rnd_i` of a finite float with the repaired test: the exact floor, built as for a bignum or a
rational (a fixnum exactly when `−2^55 ≤ ⌊x⌋ < 2^55`); no panic. -/
theorem rndI_flt (c : Cfg) (hc : c.pinnedRndI = false) (f : F64) (hf : f.isFinite = true) :
    rndI c (.flt f) = .ok (.int (ofIntChecked (floorZ f))) := by
  obtain ⟨h1, h2⟩ := fin_not_nan_inf hf
  simp only [rndI, h1, h2, Bool.false_eq_true, if_false, rndIFloat_eq c hc]
  unfold ofIntChecked
  by_cases h : Arith.inFix (floorZ f) = true
  · simp only [if_pos h]
  · simp only [if_neg h]

theorem floor_of_rndI {c : Cfg} {n : Number} {r : Number} (h : rndI c n = .ok r) :
    floor c n = .ok r := by
  unfold floor; rw [h]

theorem rndI_is_int {c : Cfg} {n r : Number} (h : rndI c n = .ok r) : ∃ k, r = .int k := by
  cases n <;> simp only [rndI] at h
  -- int, rat, flt in turn; for a float the NaN, the infinity and the `debug_assert!` panic are errors
  · rename_i n; cases n <;> simp only [] at h <;> cases h <;> exact ⟨_, rfl⟩
  · cases h; exact ⟨_, rfl⟩
  · split at h
    · cases h
    · split at h
      · cases h
      · split at h
        · split at h <;> cases h; exact ⟨_, rfl⟩
        · cases h; exact ⟨_, rfl⟩

theorem floor_is_int {c : Cfg} {n r : Number} (h : floor c n = .ok r) : ∃ k, r = .int k := by
  unfold floor at h; split at h
  · rename_i r' hr; cases h; exact rndI_is_int hr
  · cases h

/-! ### `applyUn`, `applyBin` -/

theorem applyUn_fin (c : Cfg) (op : UnOp) (a v : Number) (ha : a.fin)
    (h : applyUn c op a = .ok v) : v.fin := by
  cases op <;> simp only [applyUn] at h
  case neg => cases h; exact neg_fin ha
  case plus => cases h; exact ha
  case abs => cases h; exact abs_fin ha
  case sign => cases h; exact sign_fin ha
  case float => exact flt_pure_fin classify_ok_fin h
  case sqrt =>
    unfold sqrt at h; split at h
    · cases h
    · exact template_flt_fin h
  case fip => exact template_flt_fin h
  case ffp => exact template_flt_fin h
  case floor => obtain ⟨k, rfl⟩ := floor_is_int h; trivial
  case ceiling =>
    unfold ceiling at h
    obtain ⟨r, h1, h2⟩ := bind_ok h
    cases h2
    obtain ⟨k, rfl⟩ := floor_is_int h1; trivial
  case truncate =>
    unfold truncate at h; split at h
    · obtain ⟨r, h1, h2⟩ := bind_ok h
      cases h2
      obtain ⟨k, rfl⟩ := floor_is_int h1; trivial
    · obtain ⟨k, rfl⟩ := floor_is_int h; trivial
  case round =>
    cases a <;> simp only [round] at h <;> obtain ⟨k, rfl⟩ := rndI_is_int h <;> trivial
  case fn f => exact template_flt_fin h

theorem applyBin_fin (c : Cfg) (op : BinOp) (a b v : Number) (ha : a.fin) (hb : b.fin)
    (h : applyBin c op a b = .ok v) : v.fin := by
  cases op <;> simp only [applyBin] at h
  case add => exact add_fin h
  case sub => exact add_fin h
  case mul => exact mul_fin h
  case div => exact div_fin h
  case pow =>
    unfold pow at h; split at h
    · cases h
    · exact floatPow_fin h
  case ipow =>
    unfold intPow at h; split at h
    · cases h
    -- the three arms of `int_pow`: int/int through `Arith.intPow`, a bignum exponent, everything else
    · split at h
      · rename_i x y hneg
        cases hx : Arith.intPow x y with
        | ok n => rw [hx] at h; simp only [liftArith] at h; cases h; trivial
        | error e => rw [hx] at h; cases e <;> simp only [liftArith] at h <;> cases h
      · exact bind_fin (bind_fin template_flt_fin) h
      · refine bind_fin (fun {f2} h2 => ?_) h
        split at h2
        · cases h2
        · exact bind_fin template_flt_fin h2
  case atan2 =>
    unfold atan2 at h; split at h
    · cases h
    · exact bind_fin (bind_fin template_flt_fin) h
  -- `max`, `min`: int/int, rat/rat, else `cmpF` of the converted operands picks an argument, on `.eq` a float
  case max =>
    unfold max at h; split at h
    · cases h; trivial
    · cases h; split <;> trivial
    · obtain ⟨f1, e1, h2⟩ := bind_ok h
      obtain ⟨f2, e2, h3⟩ := bind_ok h2
      cases hc : cmpF f1 f2 <;> rw [hc] at h3 <;> cases h3
      · exact hb
      · exact classify_ok_fin e2
      · exact ha
  case min =>
    unfold min at h; split at h
    · cases h; trivial
    · cases h; split <;> trivial
    · obtain ⟨f1, e1, h2⟩ := bind_ok h
      obtain ⟨f2, e2, h3⟩ := bind_ok h2
      cases hc : cmpF f1 f2 <;> rw [hc] at h3 <;> cases h3
      · exact ha
      · exact classify_ok_fin e1
      · exact hb
  case rdiv =>
    unfold rdiv at h
    obtain ⟨⟨n1, d1⟩, _, h2⟩ := bind_ok h
    obtain ⟨⟨n2, d2⟩, _, h3⟩ := bind_ok h2
    simp only [] at h3
    split at h3
    · cases h3
    · cases h3; unfold ratDiv mkRat; split <;> trivial

/-! ### `div` by zero, `floor` and `round` of a rational -/

theorem div_zero {a b : Number} (h : b.isZero = true) : div a b = .error .zeroDivisor := by
  unfold div; rw [if_pos h]

theorem floor_rat (c : Cfg) (n : Int) (d : Nat) :
    floor c (.rat n d) = .ok (.int (ofIntChecked (Int.fdiv n d))) := rfl

theorem round_rat (c : Cfg) (n : Int) (d : Nat) :
    round c (.rat n d) = .ok (.int (ofIntChecked (ratRoundZ n d))) := rfl

end Scryer.ArithMixed
