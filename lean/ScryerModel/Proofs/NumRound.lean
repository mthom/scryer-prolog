import ScryerModel.Model.NumLex
import ScryerModel.Proofs.Binary64
/-! The binary64 grid `V` (`Binary64.val` at `two52`, which supplies its order) and the specification
`rneOK` of round-to-nearest-even on it: `rneOK` is monotone in the rational rounded (so it determines
its pattern), and it holds of the grid point
below or above the rational, found by `floorBits`, according to the side of their midpoint. -/
namespace Scryer.NumLex

/-- `a ≤ x/d ≤ y/d' ≤ a'`, cross-multiplied; when `a' ≤ a` both outer bounds are attained. -/
theorem sandwich {a a' d d' x y : Nat} (hd : 0 < d) (hd' : 0 < d') (hL : a * d ≤ x)
    (hxy : x * d' ≤ y * d) (hU : y ≤ a' * d') : a ≤ a' ∧ (a' ≤ a → a * d = x ∧ y = a' * d') := by
  have h1 : a * d * d' ≤ x * d' := Nat.mul_le_mul_right d' hL
  have h2 : y * d ≤ a' * d * d' := Nat.mul_right_comm a' d' d ▸ Nat.mul_le_mul_right d hU
  have hle : a ≤ a' :=
    Nat.le_of_mul_le_mul_right (Nat.le_of_mul_le_mul_right (h1.trans (hxy.trans h2)) hd') hd
  refine ⟨hle, fun hge => ?_⟩
  obtain rfl := Nat.le_antisymm hle hge
  exact ⟨Nat.eq_of_mul_eq_mul_right hd' (Nat.le_antisymm h1 (hxy.trans h2)),
    Nat.eq_of_mul_eq_mul_right hd
      (Nat.mul_right_comm a d' d ▸ Nat.le_antisymm h2 (h1.trans hxy))⟩

theorem mid_lt {u v d X : Nat} (hd : 0 < d) (huv : u < v) (h : v * d ≤ X) : (u + v) * d < 2 * X := by
  have := Nat.mul_lt_mul_of_pos_right huv hd
  rw [Nat.add_mul]; omega

theorem lt_mid {u v d X : Nat} (hd : 0 < d) (huv : u < v) (h : X ≤ u * d) : 2 * X < (u + v) * d := by
  have := Nat.mul_lt_mul_of_pos_right huv hd
  rw [Nat.add_mul]; omega

theorem two52_pos : 0 < two52 := by decide

theorem scale_pos : 0 < scale := by
  unfold scale; apply Nat.two_pow_pos  -- `exact` would have the unifier try to evaluate `2 ^ 1074`

theorem V_subnormal {b : Nat} (h : b < two52) : V b = b := if_pos h

theorem V_eq_val (b : Nat) : V b = Binary64.val two52 b := rfl

/-- The value of a normal pattern with exponent field `s + 1`; `m = 2·2^52` is the next binade's
first pattern, so the lemma also speaks of the successor of a binade's last pattern. -/
theorem V_normal (s m : Nat) (h1 : two52 ≤ m) (h2 : m ≤ 2 * two52) :
    V (s * two52 + m) = m * 2 ^ s :=
  Binary64.val_um two52_pos h2 fun _ => h1

theorem V_lt_succ (b : Nat) : V b < V (b + 1) := Binary64.val_lt_succ two52_pos b

theorem V_strictMono {a b : Nat} (h : a < b) : V a < V b := Binary64.val_strictMono two52_pos h

theorem V_mono {a b : Nat} (h : a ≤ b) : V a ≤ V b := Binary64.val_mono two52_pos h

/-- the bound of a rounding interval: a tie belongs to the even pattern -/
theorem tie_iff {p : Prop} [Decidable p] {a b : Nat} :
    (if p then a ≤ b else a < b) ↔ a ≤ b ∧ (a = b → p) := by
  by_cases hp : p <;> simp [hp, Nat.lt_iff_le_and_ne]

theorem tie_of_lt {p : Prop} {a b : Nat} (h : a < b) : a ≤ b ∧ (a = b → p) :=
  ⟨h.le, fun e => absurd e h.ne⟩

theorem rneOK_iff (n d b : Nat) : rneOK n d b = true ↔
    b ≤ infBits ∧
    (b ≠ 0 → (V (b - 1) + V b) * d ≤ 2 * (n * scale) ∧
      ((V (b - 1) + V b) * d = 2 * (n * scale) → b % 2 = 0)) ∧
    (b ≠ infBits → 2 * (n * scale) ≤ (V b + V (b + 1)) * d ∧
      (2 * (n * scale) = (V b + V (b + 1)) * d → b % 2 = 0)) := by
  simp only [rneOK, beq_iff_eq, Bool.and_eq_true, decide_eq_true_eq, Bool.or_eq_true,
    Bool.ite_eq_true_distrib, tie_iff, or_iff_not_imp_left, and_assoc, ne_eq]

theorem rneOK_mono {n d n' d' b b' : Nat} (hd : 0 < d) (hd' : 0 < d')
    (hxy : n * d' ≤ n' * d) (h : rneOK n d b = true) (h' : rneOK n' d' b' = true) : b ≤ b' := by
  obtain ⟨hb, hL, -⟩ := (rneOK_iff n d b).1 h
  obtain ⟨-, -, hU⟩ := (rneOK_iff n' d' b').1 h'
  by_contra hlt
  obtain ⟨hL, hLtie⟩ := hL fun h0 => hlt (h0 ▸ Nat.zero_le _)
  obtain ⟨hU, hUtie⟩ := hU fun e => hlt (e ▸ hb)
  have hxy2 : 2 * (n * scale) * d' ≤ 2 * (n' * scale) * d := by
    rw [Nat.mul_assoc, Nat.mul_assoc 2, Nat.mul_right_comm n, Nat.mul_right_comm n']
    exact Nat.mul_le_mul_left 2 (Nat.mul_le_mul_right scale hxy)
  -- the midpoint below `b` is at most the midpoint above `b'`: the two are the same midpoint,
  -- a tie, which cannot belong to both of two adjacent patterns
  obtain ⟨hm, htie⟩ := sandwich hd hd' hL hxy2 hU
  rcases Nat.lt_or_ge (b' + 1) b with hgap | hadj
  · exact absurd hm (Nat.not_le.2 (Nat.add_lt_add
      (V_strictMono (Nat.lt_sub_of_add_lt hgap)) (V_strictMono hgap)))
  · obtain rfl : b = b' + 1 := Nat.le_antisymm hadj (Nat.lt_of_not_le hlt)
    obtain ⟨e1, e2⟩ := htie (Nat.le_refl _)
    have := hLtie e1
    have := hUtie e2
    omega

theorem rneOK_of_le {n d b : Nat} (hd : 0 < d) (hb : b ≤ infBits) (hlo : V b * d ≤ n * scale)
    (hup : b ≠ infBits → 2 * (n * scale) ≤ (V b + V (b + 1)) * d ∧
      (2 * (n * scale) = (V b + V (b + 1)) * d → b % 2 = 0)) : rneOK n d b = true :=
  (rneOK_iff n d b).2
    ⟨hb, fun h0 => tie_of_lt (mid_lt hd (V_strictMono (Nat.pred_lt h0)) hlo), hup⟩

theorem rneOK_of_ge {n d b : Nat} (hd : 0 < d) (hb : b + 1 ≤ infBits)
    (hhi : n * scale ≤ V (b + 1) * d)
    (hlo : (V b + V (b + 1)) * d ≤ 2 * (n * scale) ∧
      ((V b + V (b + 1)) * d = 2 * (n * scale) → (b + 1) % 2 = 0)) : rneOK n d (b + 1) = true :=
  (rneOK_iff n d (b + 1)).2
    ⟨hb, fun _ => hlo, fun _ => tie_of_lt (lt_mid hd (V_lt_succ _) hhi)⟩

/-- `b = infBits` included: the overflow threshold `2^1024` -/
theorem rneOK_exact (b : Nat) (hb : b ≤ infBits) : rneOK (V b) scale b = true :=
  rneOK_of_le scale_pos hb (Nat.le_refl _)
    fun _ => tie_of_lt (lt_mid scale_pos (V_lt_succ b) (Nat.le_refl _))

theorem floor_normal {N s : Nat} (h1 : two52 * 2 ^ s ≤ N) (h2 : N < 2 * two52 * 2 ^ s) :
    V (s * two52 + N / 2 ^ s) ≤ N ∧ N < V (s * two52 + N / 2 ^ s + 1) := by
  have hp : 0 < 2 ^ s := Nat.pow_pos (by decide)
  have hm1 : two52 ≤ N / 2 ^ s := (Nat.le_div_iff_mul_le hp).2 h1
  have hm2 : N / 2 ^ s < 2 * two52 := (Nat.div_lt_iff_lt_mul hp).2 h2
  rw [Nat.add_assoc, V_normal s _ hm1 hm2.le, V_normal s _ (by omega) hm2]
  exact ⟨Nat.div_mul_le_self N _, Nat.mul_comm _ _ ▸ Nat.lt_mul_div_succ N hp⟩

theorem floorBits_spec (N : Nat) : V (floorBits N) ≤ N ∧ N < V (floorBits N + 1) := by
  unfold floorBits
  split
  · next h =>
    have := V_lt_succ N
    rw [V_subnormal h] at this ⊢
    exact ⟨Nat.le_refl _, this⟩
  · next h =>
    -- `N.log2 = 52 + s`, that is `2^52 · 2^s ≤ N < 2 · 2^52 · 2^s`: the values of exponent field `s + 1`
    have hN0 : N ≠ 0 := fun h0 => h (h0 ▸ two52_pos)
    have e52 : two52 = 2 ^ 52 := by decide
    obtain ⟨s, hs⟩ : ∃ s, N.log2 = 52 + s :=
      Nat.exists_eq_add_of_le ((Nat.le_log2 hN0).2 (e52 ▸ Nat.le_of_not_lt h))
    have hlo := Nat.log2_self_le hN0
    have hhi := Nat.lt_log2_self (n := N)
    rw [hs, Nat.pow_succ, Nat.pow_add, ← e52] at hhi
    rw [hs, Nat.pow_add, ← e52] at hlo
    rw [hs, Nat.add_sub_cancel_left]
    exact floor_normal hlo (by rw [Nat.mul_comm 2, Nat.mul_right_comm]; exact hhi)

end Scryer.NumLex
