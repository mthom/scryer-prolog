import ScryerModel.Model.Toplevel
/-! Lemmas for C29. Protocol: while no key is consulted, the transcript of a trace is the indentation followed
    by `allAnswers` (`run_auto`); what `answersOf`, `hasNo` and `parse` read back is read off that list.
    Answer construction: `select_all/5` is a pair of filters, and the facts
    about `gather_equations/3` go by the induction principle of its own definition. -/
namespace Scryer
namespace Toplevel

variable {α ε : Type}

/-- `write(false)` occurs in the transcript. -/
def hasNo : List (Tok α ε) → Bool
  | [] => false
  | .no :: _ => true
  | _ :: ts => hasNo ts

/-- the keyboard is not consulted while `'$report_all'` is set, and answers `;` once it is exhausted:
    either way `read_input/2` writes the separator and continues. -/
theorem readInput_auto (a : α) (st : St) (ks : List Key) (h : st.all = true ∨ ks = []) :
    readInput (ε := ε) a st ks = ([.sep], (if st.all then st else if st.nMore > 1 then { st with nMore := st.nMore - 1 } else st), ks, true) := by
  unfold readInput
  by_cases ha : st.all <;> simp [ha]
  obtain rfl := h.resolve_left ha
  by_cases h2 : 1 < st.nMore <;> simp [h2, readKeys]

theorem answersOf_first (st : St) (l : List (Tok α ε)) : answersOf (first st ++ l) = answersOf l := by
  unfold first; split <;> rfl

/-- the transcript after the indentation when no key is typed: every answer, followed by `;` while a choice
    point is left and by `.` when none is; `false` and `.` when the query or the last retry fails, the error
    when it raises. -/
def allAnswers : Trace α ε → List (Tok α ε)
  | .sol a false _ => [.ans a false, .dot]
  | .sol a true rest => .ans a false :: .sep :: allAnswers rest
  | .fail => [.no, .dot]
  | .exc e => [.err e]

theorem run_auto (t : Trace α ε) (st : St) (ks : List Key) (h : st.all = true ∨ ks = []) :
    run t st ks = first st ++ allAnswers t := by
  induction t generalizing st with
  | sol a cp rest ih =>
    cases cp
    · rfl
    · rw [run, readInput_auto a { st with count := st.count + 1 } ks h, ih _ (h.imp_left fun ha => by simp [ha])]
      -- the count is positive from the first answer on, so the `first` of the rest writes nothing
      simp [first, allAnswers, apply_ite St.count]
  | fail => rfl
  | exc e => rfl

theorem answersOf_allAnswers (t : Trace α ε) : answersOf (allAnswers t) = t.sols := by
  induction t with
  | sol a cp rest ih => cases cp <;> simp [allAnswers, answersOf, Trace.sols, ih]
  | fail => rfl
  | exc e => rfl

theorem hasNo_allAnswers (t : Trace α ε) : hasNo (allAnswers t) = t.endsFail := by
  induction t with
  | sol a cp rest ih => cases cp <;> simp [allAnswers, hasNo, Trace.endsFail, ih]
  | fail => rfl
  | exc e => rfl

theorem parse_allAnswers (t : Trace α ε) : parse (allAnswers t) = some t.canon := by
  induction t with
  | sol a cp rest ih => cases cp <;> simp [allAnswers, parse, Trace.canon, ih]
  | fail => rfl
  | exc e => rfl

/-- with the case `sols = []` in the statement the hypothesis for `rest` applies whether or not `rest` has a solution. -/
theorem lastCp_of_endsFail (t : Trace α ε) (h : t.endsFail = true) :
    t.lastCp = if t.sols = [] then none else some true := by
  induction t with
  | sol a cp rest ih =>
    cases cp
    · cases h
    · rw [Trace.lastCp, ih h]
      by_cases hr : rest.sols = [] <;> simp [hr, Trace.sols]
  | fail => rfl
  | exc e => cases h

/-! ## answer construction -/

open List

theorem containsName_eq_false_iff (vl : VarList) (m : String) :
    containsName vl m = false ↔ ∀ p ∈ vl, p.1 ≠ m := by
  induction vl with
  | nil => simp [containsName]
  | cons p vl ih =>
    obtain ⟨n, t⟩ := p
    simp [containsName, ih]

theorem length_le_sumLen {vl : VarList} {p : String × Term} (h : p ∈ vl) : p.1.length ≤ sumLen vl := by
  induction vl with
  | nil => cases h
  | cons q vl ih =>
    obtain ⟨n, t⟩ := q
    cases h with
    | head => simp [sumLen]
    | tail _ h' => have := ih h'; simp [sumLen]; omega

theorem longName_fresh (vl : VarList) : containsName vl (longName vl) = false := by
  rw [containsName_eq_false_iff]
  intro p hp heq
  have h1 := length_le_sumLen hp
  have h2 : (longName vl).length = sumLen vl + 1 := by simp [longName]
  rw [heq] at h1
  omega

theorem makeNewVarName_fresh (fuel n : Nat) (vl : VarList) :
    containsName vl (makeNewVarName fuel n vl).1 = false := by
  induction fuel generalizing n with
  | zero => simp [makeNewVarName, longName_fresh]
  | succ f ih =>
    simp only [makeNewVarName]
    split
    · exact ih _
    · simp_all

theorem extendVarList__entry (vars : List String) (n : Nat) (vl : VarList) :
    ∀ p ∈ extendVarList_ vars n vl,
      containsName vl p.1 = false ∧ ∃ v, p.2 = .var v ∧ containsVar vl v = false ∧ v ∈ vars := by
  fun_induction extendVarList_ vars n vl with
  -- no variable left; `v` has a name in `vl` already and is passed over; `v` gets a fabricated name
  | case1 => simp
  | case2 v vs n vl _ ih =>
    intro p hp
    obtain ⟨hf, w, h1, h2, h3⟩ := ih p hp
    exact ⟨hf, w, h1, h2, List.mem_cons_of_mem _ h3⟩
  | case3 v vs n vl hc r ih =>
    intro p hp
    rcases List.mem_cons.mp hp with rfl | hp
    · exact ⟨makeNewVarName_fresh _ _ _, v, rfl, by simpa using hc, List.mem_cons_self⟩
    · obtain ⟨hf, w, h1, h2, h3⟩ := ih p hp
      exact ⟨hf, w, h1, h2, List.mem_cons_of_mem _ h3⟩

/-- the entry's value is the variable `v`: the test that `selectAll` (like `containsVar` and `nameOf`) writes out
    as a `match`, named so that `selectAll_eq` can state `select_all/5` as two filters. -/
def holds (v : String) (p : String × Term) : Bool :=
  match p.2 with
  | .var w => w == v
  | _ => false

theorem holds_iff {v : String} {p : String × Term} : holds v p = true ↔ p.2 = .var v := by
  obtain ⟨n, t⟩ := p
  cases t <;> simp [holds]

theorem selectAll_eq (ps : VarList) (v : String) :
    selectAll ps v = (ps.filter (holds v), ps.filter (fun p => !holds v p)) := by
  induction ps with
  | nil => rfl
  | cons q ps ih =>
    obtain ⟨n, t⟩ := q
    cases t with
    | var w =>
      simp only [selectAll, ih, filter_cons, holds]
      by_cases h : (w == v) = true <;> simp [h]
    | _ => simp only [selectAll, ih, filter_cons, holds]; rfl

theorem gatherEquations_mem (fuel : Nat) (ps : VarList) (orig : List String) :
    ∀ p ∈ gatherEquations fuel ps orig, p ∈ ps ∧ ∀ v, p.2 = .var v → orig.contains v = true := by
  fun_induction gatherEquations fuel ps orig with
  -- 1, 2: no fuel, no entry. By the head entry `n = t`: 3, `t` a variable of `orig` that the further entries
  -- `e :: varEqs` hold too (the head and `varEqs` are equations, the walk goes on in `rest`); 4, `t` a variable of
  -- `orig` that no other entry holds; 5, `t` a variable not in `orig`; 6, `t` not a variable
  | case1 | case2 => simp
  | case3 fuel n ps orig w hc e varEqs rest heq ih =>
    rw [selectAll_eq, Prod.mk.injEq] at heq
    obtain ⟨h1, rfl⟩ := heq
    intro p hp
    rcases mem_cons.mp hp with rfl | hp
    · exact ⟨mem_cons_self, fun v hv => by cases hv; exact hc⟩
    · rcases mem_append.mp hp with h | h
      · have hm := mem_filter.mp (h1 ▸ mem_cons_of_mem e h)
        exact ⟨mem_cons_of_mem _ hm.1, fun v hv => by cases (holds_iff.mp hm.2).symm.trans hv; exact hc⟩
      · exact ⟨mem_cons_of_mem _ (mem_filter.mp (ih p h).1).1, (ih p h).2⟩
  | case4 fuel n ps orig w _ _ _ ih => exact fun p hp => ⟨mem_cons_of_mem _ (ih p hp).1, (ih p hp).2⟩
  | case5 fuel n ps orig w _ ih => exact fun p hp => ⟨mem_cons_of_mem _ (ih p hp).1, (ih p hp).2⟩
  | case6 fuel n t ps orig hnv ih =>
    intro p hp
    rcases mem_cons.mp hp with rfl | hp
    · exact ⟨mem_cons_self, fun v hv => (hnv v hv).elim⟩
    · exact ⟨mem_cons_of_mem _ (ih p hp).1, (ih p hp).2⟩

theorem gatherEquations_keeps (fuel : Nat) (ps : VarList) (orig : List String) (hl : ps.length ≤ fuel)
    (p : String × Term) (hp : p ∈ ps) (hnv : ∀ w, p.2 ≠ .var w) : p ∈ gatherEquations fuel ps orig := by
  fun_induction gatherEquations fuel ps orig with
  -- the cases as in `gatherEquations_mem`; without fuel `hl` leaves no entry for `hp`
  | case1 ps => cases ps <;> simp_all
  | case2 => cases hp
  | case3 fuel n ps orig w _ e varEqs rest heq ih =>
    rw [selectAll_eq, Prod.mk.injEq] at heq
    obtain ⟨_, rfl⟩ := heq
    rcases mem_cons.mp hp with rfl | hp
    · exact absurd rfl (hnv w)
    · refine mem_cons_of_mem _ (mem_append.mpr (Or.inr (ih ?_ ?_)))
      · exact Nat.le_trans (length_filter_le _ _) (Nat.le_of_succ_le_succ hl)
      · exact mem_filter.mpr ⟨hp, by simpa using mt holds_iff.mp (hnv w)⟩
  | case4 fuel n ps orig w _ _ _ ih =>
    rcases mem_cons.mp hp with rfl | hp
    · exact absurd rfl (hnv w)
    · exact ih (Nat.le_of_succ_le_succ hl) hp
  | case5 fuel n ps orig w _ ih =>
    rcases mem_cons.mp hp with rfl | hp
    · exact absurd rfl (hnv w)
    · exact ih (Nat.le_of_succ_le_succ hl) hp
  | case6 fuel n t ps orig _ ih =>
    rcases mem_cons.mp hp with rfl | hp
    · exact mem_cons_self
    · exact mem_cons_of_mem _ (ih (Nat.le_of_succ_le_succ hl) hp)

theorem containsVar_of_mem_gatherQueryVars (vl : VarList) (v : String) :
    v ∈ gatherQueryVars vl → containsVar vl v = true := by
  induction vl with
  | nil => simp [gatherQueryVars]
  | cons q vl ih =>
    obtain ⟨n, t⟩ := q
    cases t <;> simp [gatherQueryVars, containsVar] <;> intro h
    -- `t` a variable: `v` is it, or comes later; every other `t` adds nothing to either side
    · rcases h with h | h
      · exact Or.inl h.symm
      · exact Or.inr (ih h)
    all_goals exact ih h

end Toplevel
end Scryer
