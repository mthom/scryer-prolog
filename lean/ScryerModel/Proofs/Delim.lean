import ScryerModel.Model.Delim
/-!
Lemmas about the frame-stack machine of `Model/Delim.lean` (C38 part A): one step on each control
construct, and stack locality (a run on the frames `F` is a run on `F ++ K`).
-/
namespace Scryer.Delim
open Scryer.Solve

/-- marker-free frames: goals only -/
abbrev goals (gs : List Term) : List Frame := gs.map Frame.goal

inductive Steps (tf : Nat) (P : Prog) : Cfg → Cfg → Prop where
  | refl (c : Cfg) : Steps tf P c c
  | head {c c' c'' : Cfg} : step tf P c = .next c' → Steps tf P c' c'' → Steps tf P c c''

theorem Steps.trans {tf : Nat} {P : Prog} {a b c : Cfg} (h1 : Steps tf P a b) (h2 : Steps tf P b c) :
    Steps tf P a c := by
  induction h1 with
  | refl => exact h2
  | head hs _ ih => exact .head hs (ih h2)

theorem Steps.single {tf : Nat} {P : Prog} {a b : Cfg} (h : step tf P a = .next b) : Steps tf P a b :=
  .head h (.refl b)

theorem splitAtMarker_goals (gs : List Term) (b c : Term) (K : List Frame) :
    splitAtMarker (goals gs ++ .marker b c :: K) = some (gs, b, c, K) := by
  induction gs with
  | nil => simp [goals, splitAtMarker]
  | cons g gs ih =>
      simp only [goals, List.map_cons, List.cons_append, splitAtMarker] at ih ⊢
      rw [ih]

theorem splitAtMarker_none (gs : List Term) : splitAtMarker (goals gs) = none := by
  induction gs with
  | nil => simp [goals, splitAtMarker]
  | cons g gs ih =>
      simp only [goals, List.map_cons, splitAtMarker] at ih ⊢
      rw [ih]

theorem splitAtMarker_append {F : List Frame} {k : List Term} {b c : Term} {rest : List Frame}
    (h : splitAtMarker F = some (k, b, c, rest)) (K : List Frame) :
    splitAtMarker (F ++ K) = some (k, b, c, rest ++ K) := by
  induction F generalizing k with
  | nil => cases h
  | cons f F ih =>
      cases f with
      | marker b' c' => cases h; rfl
      | goal g =>
          rw [splitAtMarker] at h
          split at h
          · cases h
          · rename_i hs
            cases h
            rw [List.cons_append, splitAtMarker, ih hs]

theorem decode_encode : ∀ (gs : List Term) (tf : Nat), gs.length < tf →
    decodeGoals tf (encodeGoals gs) = some gs
  | _, 0, h => absurd h (Nat.not_lt_zero _)
  | [], _ + 1, _ => rfl
  | g :: gs, n + 1, h => by
      simp [encodeGoals, Term.cons, decodeGoals, decode_encode gs n (Nat.lt_of_succ_lt_succ h)]

/-! ### one step on each control construct

With fuel, `walk` returns a non-variable goal as it is, so each step is an evaluation. -/

section
variable {tf : Nat} (h : 0 < tf) (P : Prog) (K : List Frame) (st : St)
include h

theorem step_true : step tf P ⟨.goal (.atom "true") :: K, st⟩ = .next ⟨K, st⟩ :=
  match tf, h with | _ + 1, _ => rfl

theorem step_conj (a b : Term) :
    step tf P ⟨.goal (.str "," [a, b]) :: K, st⟩ = .next ⟨.goal a :: .goal b :: K, st⟩ :=
  match tf, h with | _ + 1, _ => rfl

theorem step_reset (g b c : Term) :
    step tf P ⟨.goal (.str "reset" [g, b, c]) :: K, st⟩ = .next ⟨.goal g :: .marker b c :: K, st⟩ :=
  match tf, h with | _ + 1, _ => rfl

theorem step_shift (t : Term) :
    step tf P ⟨.goal (.str "shift" [t]) :: K, st⟩ =
      match splitAtMarker K with
      | none => .fail
      | some (k, b, c, rest) =>
          .next ⟨.goal (mkUnify c (contTerm k)) :: .goal (mkUnify b t) :: rest, st⟩ :=
  match tf, h with | _ + 1, _ => rfl

theorem step_cont (l : Term) :
    step tf P ⟨.goal (.str "$cont" [l]) :: K, st⟩ =
      match decodeGoals tf l with
      | none => .oom
      | some gs => .next ⟨goals gs ++ K, st⟩ :=
  match tf, h with | _ + 1, _ => rfl

end

/-! ### stack locality -/

section
variable {tf : Nat} {P : Prog} {F F' : List Frame} {st st' : St}

theorem callPred_append {f : String} {args : List Term}
    (h : callPred tf P f args F st = .next ⟨F', st'⟩) (K : List Frame) :
    callPred tf P f args (F ++ K) st = .next ⟨F' ++ K, st'⟩ := by
  unfold callPred at h ⊢
  -- two branches step on, a builtin that succeeds and a predicate with exactly one matching clause;
  -- neither reads the frames
  split at h
  · cases h; rfl
  · cases h
  · cases h
  · cases h
  · split at h
    · rw [if_pos ‹_›]
      split at h
      · cases h
      · cases h
      · cases h; rfl
      · cases h
    · cases h

/-- No rule looks below the nearest marker, and only `shift` looks below the top frame at all. -/
theorem stepGoal_append {g : Term} {k : GK} (h : stepGoal tf P g F st k = .next ⟨F', st'⟩)
    (K : List Frame) : stepGoal tf P g (F ++ K) st k = .next ⟨F' ++ K, st'⟩ := by
  cases k with
  | var | fal | bad => cases h
  | tru | conj | call | reset => cases h; rfl
  | shift t =>
      simp only [stepGoal] at h ⊢
      split at h
      · cases h
      · rename_i hs
        cases h
        rw [splitAtMarker_append hs]
        rfl
  | cont l =>
      simp only [stepGoal] at h ⊢
      split at h
      · cases h
      · cases h
        rw [List.append_assoc]
  | ite c t e =>
      simp only [stepGoal] at h ⊢
      split at h
      · cases h
      · cases h; rfl
      · cases h; rfl
  | pred f args => exact callPred_append h K

theorem step_append (h : step tf P ⟨F, st⟩ = .next ⟨F', st'⟩) (K : List Frame) :
    step tf P ⟨F ++ K, st⟩ = .next ⟨F' ++ K, st'⟩ := by
  match F with
  | [] => cases h
  | .marker b c :: F => cases h; rfl
  | .goal g :: F =>
      simp only [step, List.cons_append] at h ⊢
      split at h
      · cases h
      · exact stepGoal_append h K

end

theorem steps_append {tf : Nat} {P : Prog} {c c' : Cfg} (h : Steps tf P c c') (K : List Frame) :
    Steps tf P ⟨c.frames ++ K, c.st⟩ ⟨c'.frames ++ K, c'.st⟩ := by
  induction h with
  | refl => exact .refl _
  | head hs _ ih => exact .head (step_append hs K) ih

end Scryer.Delim
