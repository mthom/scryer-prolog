import ScryerModel.Proofs.Quote
/-! C55: the token reader on one printed token followed by more text — where the token ends, for each
    kind of token. -/
namespace Scryer.Quote
open Scryer.CharClass

variable {u : UC}

/-- the following text does not go on with a character of the class `p` -/
def stops (p : Char → Bool) : List Char → Prop
  | [] => True
  | c :: _ => p c = false

theorem spanP_append {p : Char → Bool} {r k : List Char} (h : ∀ d ∈ r, p d = true) (hk : stops p k) :
    spanP p (r ++ k) = (r, k) := by
  induction r with
  | nil =>
    cases k with
    | nil => simp [spanP]
    | cons c k => simp [spanP, stops] at *; simp [hk]
  | cons d r ih =>
    have hd : p d = true := h d (by simp)
    have := ih (fun x hx => h x (by simp [hx]))
    simp [spanP, hd, this]

theorem scanLayout_id {c : Char} {r : List Char} (ins : Bool) (h1 : layout_char u c = false) (h2 : c ≠ '%')
    (h3 : c = '/' → ∀ r', r ≠ '*' :: r') : scanLayout u .top ins (c :: r) = some (ins, c :: r) := by
  unfold scanLayout
  simp only [h1, end_line_comment_char, comment_1_char, comment_2_char]
  by_cases hc : c = '/'
  · subst hc
    cases r with
    | nil => simp
    | cons d r' =>
      have : d ≠ '*' := fun hd => h3 rfl r' (by rw [hd])
      simp [this]
  · simp [h2, hc]

/-- `layout_char` does not look at its `UC` argument, so the test made with `asciiUC` serves every `u` -/
theorem scan_concrete (c : Char) (r : List Char) (ins : Bool) (h1 : layout_char asciiUC c = false)
    (h2 : c ≠ '%') (h3 : c ≠ '/') : scanLayout u .top ins (c :: r) = some (ins, c :: r) :=
  scanLayout_id ins h1 h2 (fun e => absurd e h3)

/-- `next_token` entered with the layout flag `b` (`true`: the text follows a space); `nextTok` is `b = false` -/
def nextTokFrom (u : UC) (b : Bool) (cs : List Char) : Res :=
  match scanLayout u .top b cs with
  | none => .err
  | some (lay, rest) => nextTokAt u lay rest

theorem nextTok_eq (cs : List Char) : nextTok u cs = nextTokFrom u false cs := rfl

theorem nextTokFrom_space (b : Bool) (k : List Char) : nextTokFrom u b (' ' :: k) = nextTokFrom u true k := by
  have : scanLayout u .top b (' ' :: k) = scanLayout u .top true k := by
    conv => lhs; unfold scanLayout
    simp [layout_char]
  simp only [nextTokFrom, this]

theorem nextTokAt_name {c : Char} {r : List Char} {lay : Bool} (h1 : capital_letter_char u c = false)
    (h2 : c ∉ specials) (h3 : c.isDigit = false) : nextTokAt u lay (c :: r) = nameToken u c r := by
  simp [specials] at h2
  simp [nextTokAt, h1, variable_indicator_char, decimal_digit_char, h3, h2]

theorem nextTokFrom_name {c : Char} {r : List Char} {b : Bool} (h : NameStart u c)
    (h3 : c = '/' → ∀ r', r ≠ '*' :: r') : nextTokFrom u b (c :: r) = nameToken u c r := by
  rw [nextTokFrom, scanLayout_id b h.1 h.2.1 h3]
  exact nextTokAt_name h.2.2.1 h.2.2.2.1 h.2.2.2.2

theorem nextTokAt_dot (hu : UCWF u) {d : Char} {r : List Char} {lay : Bool} (h1 : layout_char u d = false)
    (h2 : d ≠ '%') : nextTokAt u lay ('.' :: d :: r) = nameToken u '.' (d :: r) := by
  have hc := cap_false hu '.' (by decide) (by decide)
  simp [nextTokAt, hc, variable_indicator_char, h1, h2]

theorem nextTokFrom_small (hu : UCWF u) (b : Bool) {c : Char} {r k : List Char}
    (h : small_letter_char u c = true) (hr : ∀ d ∈ r, alpha_numeric_char u d = true)
    (hk : stops (alpha_numeric_char u) k) : nextTokFrom u b (c :: r ++ k) = .tok (.name (c :: r)) k := by
  rw [List.cons_append, nextTokFrom_name (small_nameStart hu h)
    (fun e => absurd e (small_ne hu h _ (by decide) (by decide)))]
  simp [nameToken, h, spanP_append hr hk]

theorem nextTokFrom_graphic (hu : UCWF u) (b : Bool) {s k : List Char} (hne : s ≠ [])
    (hs : ∀ d ∈ s, graphic_token_char u d = true) (h1 : ¬ ∃ r, s = '/' :: '*' :: r) (h2 : s ≠ ['.'])
    (hk : stops (graphic_token_char u) k) : nextTokFrom u b (s ++ k) = .tok (.name s) k := by
  cases s with
  | nil => exact absurd rfl hne
  | cons c r =>
  obtain ⟨h, hr⟩ := List.forall_mem_cons.1 hs
  obtain ⟨g1, _, g4, g5, _, g7⟩ := gt_facts hu h
  have hn : nameToken u c (r ++ k) = .tok (.name (c :: r)) k := by
    simp [nameToken, g1, h, spanP_append hr hk]
  rw [List.cons_append]
  by_cases hd : c = '.'
  · subst hd
    cases r with
    | nil => exact absurd rfl h2
    | cons d r' =>
      obtain ⟨_, _, d4, d5, _⟩ := gt_facts hu (hr d (by simp))
      rw [nextTokFrom, scanLayout_id b g4 g5 (fun e => absurd e (by decide))]
      exact (nextTokAt_dot hu d4 d5).trans hn
  · rw [nextTokFrom_name (g7 hd), hn]
    -- `/` followed by `*` would open a comment: excluded inside the atom by `h1`, after it by `hk`
    rintro rfl r' e
    cases r with
    | nil =>
      rw [List.nil_append] at e
      subst e
      exact absurd (show graphic_token_char u '*' = true from rfl) (by rw [show _ = false from hk]; simp)
    | cons d r'' => exact h1 ⟨r'', by rw [(List.cons.inj e).1]⟩

theorem nextTokFrom_solo_name (hu : UCWF u) (b : Bool) (c : Char) (hc : c ∈ ['!', ';']) (k : List Char) :
    nextTokFrom u b (c :: k) = .tok (.name [c]) k := by
  have : ∀ x ∈ ['!', ';'], x.toNat < 128 ∧ NameStart asciiUC x ∧ x ≠ '/' ∧ x.isLower = false ∧
      graphic_token_char asciiUC x = false ∧ (cut_char asciiUC x || semicolon_char asciiUC x) = true := by
    decide
  obtain ⟨h1, h2, h3, h4, h5, h6⟩ := this c hc
  rw [nextTokFrom_name (.of_ascii hu h1 h2) (fun e => absurd e h3)]
  simp only [nameToken, small_false hu c h1 h4, show graphic_token_char u c = false from h5,
    show (cut_char u c || semicolon_char u c) = true from h6, if_true, Bool.false_eq_true, if_false]

/-- the punctuation characters that are tokens by themselves (not `(`, whose token depends on layout) -/
def punctList : List Char := [',', ')', ']', '[', '|', '{', '}']

theorem nextTokFrom_punct (hu : UCWF u) (b : Bool) (c : Char) (hc : c ∈ punctList) (k : List Char) :
    nextTokFrom u b (c :: k) = .tok (.punct c) k := by
  have : ∀ x ∈ punctList, layout_char asciiUC x = false ∧ x ≠ '%' ∧ x ≠ '/' ∧ x.toNat < 128 ∧ x.isUpper = false := by
    decide
  obtain ⟨h1, h2, h3, h4, h5⟩ := this c hc
  have hcap := cap_false hu c h4 h5
  rw [nextTokFrom, scan_concrete _ _ _ h1 h2 h3]
  simp only [punctList, List.mem_cons, List.not_mem_nil, or_false] at hc
  rcases hc with rfl | rfl | rfl | rfl | rfl | rfl | rfl <;>
    simp [nextTokAt, hcap, variable_indicator_char, decimal_digit_char]

theorem nextTokFrom_open (hu : UCWF u) (b : Bool) (k : List Char) :
    nextTokFrom u b ('(' :: k) = .tok (if b then .punct '(' else .openCT) k := by
  rw [nextTokFrom, scan_concrete _ _ _ (by decide) (by decide) (by decide)]
  have hc := cap_false hu '(' (by decide) (by decide)
  cases b <;> simp [nextTokAt, hc, variable_indicator_char]

theorem digit_facts : ∀ c : Char, c.toNat < 128 → c.isDigit = true →
    layout_char asciiUC c = false ∧ c ≠ '%' ∧ c ≠ '/' ∧ c.isUpper = false ∧ c ∉ specials :=
  ascii_all _ (by decide +kernel)

theorem nextTokFrom_digit (hu : UCWF u) (b : Bool) {c : Char} (hc : c.isDigit = true) (r : List Char) :
    nextTokFrom u b (c :: r) = numberToken (c :: r) := by
  obtain ⟨g1, g2, g3, g4, g5⟩ := digit_facts c (digit_ascii hc) hc
  rw [nextTokFrom, scan_concrete _ _ _ g1 g2 g3]
  simp [specials] at g5
  unfold nextTokAt
  simp [cap_false hu c (digit_ascii hc) g4, variable_indicator_char, decimal_digit_char, hc, g5]

/-- the text after an integer does not start with `.` and a digit (it would be read as a float) -/
def NoDotDigit (k : List Char) : Prop := ∀ d k', k = '.' :: d :: k' → d.isDigit = false

/-- `_` is the digit separator; after a lone `0`, `x` `o` `b` select a radix and `'` a character code -/
theorem numberToken_int {ds k : List Char} (hds : ∀ d ∈ ds, d.isDigit = true) (hst : stops Char.isDigit k)
    (hk : ∀ c k', k = c :: k' → c ≠ '_' ∧ (ds = ['0'] → c ≠ 'x' ∧ c ≠ 'o' ∧ c ≠ 'b' ∧ c ≠ '\''))
    (hd : NoDotDigit k) : numberToken (ds ++ k) = .tok (.int (digitsVal ds)) k := by
  unfold numberToken
  simp only [spanP_append hds hst]
  cases k with
  | nil => rfl
  | cons c r =>
    obtain ⟨n1, hz⟩ := hk c r rfl
    simp only [n1, beq_iff_eq, if_false]
    by_cases hdot : c = '.'
    · subst hdot
      cases r with
      | nil => simp
      | cons d r' => simp [hd d r' rfl]
    · simp only [hdot, if_false]
      by_cases h0 : ds = ['0']
      · simp [h0, hz h0]
      · simp [h0]

end Scryer.Quote
