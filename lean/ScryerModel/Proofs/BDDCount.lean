import ScryerModel.Proofs.BDD
import ScryerModel.Proofs.ListFacts
/-! For C46: `bdd_count/3` counts the satisfying rows, the rows `labeling/1` enumerates, the
conjunction of a store with an expression, and quantifying a list of variables away. -/
namespace Scryer.BDD
open BDD

/-! ### `fresh`, `apply`, `Supp`: single facts -/

theorem fresh_spec (f : Fm) : ∀ v ∈ f.allVars, v < f.fresh := by
  unfold Fm.fresh
  generalize f.allVars = l
  induction l with
  | nil => nofun
  | cons x r ih =>
    intro v h
    rw [List.foldr_cons]
    rcases List.mem_cons.1 h with rfl | h
    · exact Nat.le_max_left ..
    · exact Nat.lt_of_lt_of_le (ih v h) (Nat.le_max_right ..)

theorem apply_and_true (b : BDD) : apply .and (leaf true) b = b := by
  cases b with
  | leaf y => simp [apply, Op.fn]
  | node v l h => simp [apply, shortcutL]

theorem supp_vars {S : Nat → Prop} {b : BDD} (hb : Supp S b) : ∀ v ∈ b.vars, S v := by
  induction b with
  | leaf _ => nofun
  | node w l r ihl ihr =>
    intro v h
    rcases List.mem_cons.1 h with rfl | h
    · exact hb.1
    · exact (List.mem_append.1 h).elim (ihl hb.2.1 v) (ihr hb.2.2 v)

theorem supp_self : ∀ (b : BDD), Supp (· ∈ b.vars) b
  | .leaf _ => trivial
  | .node _ l h => ⟨List.mem_cons_self,
      (supp_self l).mono fun _ hw => List.mem_cons_of_mem _ (List.mem_append_left _ hw),
      (supp_self h).mono fun _ hw => List.mem_cons_of_mem _ (List.mem_append_right _ hw)⟩

/-! ### counting -/

/-- assignment of the levels `k, k+1, …` from a bit row. -/
def envFrom (k : Nat) (bits : List Bool) : Nat → Bool := fun i => bits.getD (i - k) false

/-- number of rows of length `m` (levels `k … k+m-1`) that satisfy `b`. -/
def cntFrom (k m : Nat) (b : BDD) : Nat := (allBits m).countP fun bits => b.eval (envFrom k bits)

theorem allBits_length (m : Nat) : (allBits m).length = 2 ^ m := by
  induction m with
  | zero => rfl
  | succ m ih => rw [allBits, List.length_append, List.length_map, List.length_map, ih, Nat.pow_succ, Nat.mul_two]

theorem cntFrom_succ (k m : Nat) (b : BDD) :
    cntFrom k (m + 1) b = ((allBits m).countP fun bits => b.eval (envFrom k (false :: bits)))
      + ((allBits m).countP fun bits => b.eval (envFrom k (true :: bits))) := by
  simp only [cntFrom, allBits, List.countP_append, List.countP_map]
  rfl

theorem envFrom_cons_gt {k i : Nat} (x : Bool) (bits : List Bool) (h : k < i) :
    envFrom k (x :: bits) i = envFrom (k + 1) bits i := by
  rw [envFrom, ← Nat.succ_pred_eq_of_pos (Nat.sub_pos_of_lt h)]
  rfl

theorem envFrom_cons_self (k : Nat) (x : Bool) (bits : List Bool) : envFrom k (x :: bits) k = x := by
  rw [envFrom, Nat.sub_self]
  rfl

theorem eval_envFrom_skip {k : Nat} {b : BDD} (hb : OrdAbove (k + 1) b) (x : Bool) (bits : List Bool) :
    b.eval (envFrom k (x :: bits)) = b.eval (envFrom (k + 1) bits) :=
  eval_congr_supp (supp_of_ordAbove hb) fun _ hv => envFrom_cons_gt x bits hv

theorem cntFrom_skip {b : BDD} (j : Nat) : ∀ (k m : Nat), OrdAbove (k + j) b →
    cntFrom k (m + j) b = 2 ^ j * cntFrom (k + j) m b := by
  induction j with
  | zero => exact fun _ _ _ => (Nat.one_mul _).symm
  | succ j ih =>
    intro k m hb
    have e : k + 1 + j = k + (j + 1) := Nat.add_right_comm k 1 j
    have ih := ih (k + 1) m (e ▸ hb)
    rw [e] at ih
    rw [← Nat.add_assoc, cntFrom_succ]
    simp only [eval_envFrom_skip (hb.mono (Nat.succ_le_succ (Nat.le_add_right k j)) : OrdAbove (k + 1) b)]
    rw [← Nat.two_mul, ← cntFrom, ih, Nat.pow_succ, Nat.mul_assoc, Nat.mul_left_comm]

theorem cntFrom_node {k m : Nat} {l h : BDD} (hl : OrdAbove (k + 1) l) (hh : OrdAbove (k + 1) h) :
    cntFrom k (m + 1) (node k l h) = cntFrom (k + 1) m l + cntFrom (k + 1) m h := by
  rw [cntFrom_succ]
  simp only [eval, envFrom_cons_self, eval_envFrom_skip hl, eval_envFrom_skip hh]
  rfl

theorem cntFrom_leaf (k m : Nat) (x : Bool) : cntFrom k m (leaf x) = if x then 2 ^ m else 0 := by
  cases x <;> simp [cntFrom, eval, allBits_length]

/-- `bdd_count/3` is right: with levels `k … n`, `2^(var_u(b) - k) * bdd_count(b)` rows satisfy `b`. -/
theorem count_spec (n : Nat) (b : BDD) : ∀ (k m : Nat), k + m = n + 1 → OrdAbove k b →
    Supp (· ≤ n) b → cntFrom k m b = 2 ^ (b.varU (n + 1) - k) * b.count (n + 1) := by
  induction b with
  | leaf x =>
    intro k m hk _ _
    rw [cntFrom_leaf, varU, Nat.sub_eq_of_eq_add (Nat.add_comm k m ▸ hk).symm, count]
    cases x
    · rfl
    · exact (Nat.mul_one _).symm
  | node v l h ihl ihh =>
    intro k m hk ho hs
    have hvn : v ≤ n := hs.1
    -- skip the levels `k … v-1`, split on level `v`, recurse from level `v+1`
    obtain ⟨j, rfl⟩ := Nat.exists_eq_add_of_le ho.1
    obtain ⟨m', rfl⟩ := Nat.exists_eq_add_of_le hvn
    obtain rfl : m = m' + 1 + j := by omega
    have e : k + j + 1 + m' = k + j + m' + 1 := Nat.add_right_comm ..
    rw [cntFrom_skip (b := node (k + j) l h) j k (m' + 1) ⟨Nat.le_refl _, ho.2⟩, cntFrom_node ho.2.1 ho.2.2,
      ihl (k + j + 1) m' e ho.2.1 hs.2.1, ihh (k + j + 1) m' e ho.2.2 hs.2.2,
      varU, Nat.add_sub_cancel_left, count, Nat.sub_sub, Nat.sub_sub]

@[simp] theorem eval_renumber (r : Nat → Nat) (b : BDD) (σ : Nat → Bool) :
    (b.renumber r).eval σ = b.eval (fun v => σ (r v)) := by
  induction b with
  | leaf _ => rfl
  | node v l h ihl ihh => simp only [renumber, eval, ihl, ihh]

theorem ordAbove_renumber {vs : List Nat} {r : Nat → Nat}
    (hmono : ∀ a ∈ vs, ∀ b ∈ vs, a < b → r a < r b) : ∀ (b : BDD) (k j : Nat), OrdAbove k b →
    Supp (· ∈ vs) b → (∀ w ∈ vs, k ≤ w → j ≤ r w) → OrdAbove j (b.renumber r) := by
  intro b
  induction b with
  | leaf _ => intros; trivial
  | node v l h ihl ihh =>
    intro k j ho hs hj
    have hstep : ∀ w ∈ vs, v + 1 ≤ w → r v + 1 ≤ r w := fun w hw hle => hmono v hs.1 w hw hle
    exact ⟨hj v hs.1 ho.1, ihl _ _ ho.2.1 hs.2.1 hstep, ihh _ _ ho.2.2 hs.2.2 hstep⟩

theorem supp_renumber {S T : Nat → Prop} {r : Nat → Nat} (h : ∀ v, S v → T (r v)) {b : BDD}
    (hs : Supp S b) : Supp T (b.renumber r) := by
  induction b with
  | leaf _ => trivial
  | node v l hh ihl ihh => exact ⟨h v hs.1, ihl hs.2.1, ihh hs.2.2⟩

theorem idxOf_lt_of_sorted {vs : List Nat} (hp : vs.Pairwise (· < ·)) : ∀ a ∈ vs, ∀ b ∈ vs, a < b →
    vs.idxOf a < vs.idxOf b := by
  induction vs with
  | nil => nofun
  | cons x r ih =>
    intro a ha b hb hab
    have ⟨hx, hr⟩ := List.pairwise_cons.1 hp
    rcases List.mem_cons.1 ha with rfl | ha
    · rw [List.idxOf_cons_self, idxOf_cons_ne _ (Nat.ne_of_lt hab)]
      exact Nat.succ_pos _
    · have hxa := hx a ha
      rw [idxOf_cons_ne _ (Nat.ne_of_lt hxa), idxOf_cons_ne _ (Nat.ne_of_lt (Nat.lt_trans hxa hab))]
      rcases List.mem_cons.1 hb with rfl | hb
      · exact absurd (Nat.lt_trans hxa hab) (Nat.lt_irrefl _)
      · exact Nat.succ_lt_succ (ih hr a ha b hb hab)

/-! ### labeling -/

/-- lexicographic order on rows, `false` before `true`. -/
abbrev RowLt : List Bool → List Bool → Prop := List.Lex (fun a b => a < b)

theorem nodup_of_sorted {L : List (List Bool)} (h : L.Pairwise RowLt) : L.Nodup :=
  nodup_of_pairwise h (List.lex_irrefl Bool.lt_irrefl)

theorem sorted_append_bits {L0 L1 : List (List Bool)} (h0 : L0.Pairwise RowLt) (h1 : L1.Pairwise RowLt) :
    (L0.map (false :: ·) ++ L1.map (true :: ·)).Pairwise RowLt := by
  refine List.pairwise_append.2 ⟨List.pairwise_map.2 (h0.imp .cons), List.pairwise_map.2 (h1.imp .cons),
    fun a ha c hc => ?_⟩
  obtain ⟨_, _, rfl⟩ := List.mem_map.1 ha
  obtain ⟨_, _, rfl⟩ := List.mem_map.1 hc
  exact .rel (by decide)

theorem restrict_sat_iff {n v : Nat} {b : BDD} (ho : OrdAbove n b) {vs : List Nat} (hv : v ∉ vs)
    (x : Bool) (r : List Bool) :
    (∃ ρ, (restrict v x b).eval ρ = true ∧ r = vs.map ρ) ↔
      ∃ ρ, b.eval ρ = true ∧ x :: r = (v :: vs).map ρ := by
  simp only [eval_restrict ho]
  constructor
  · rintro ⟨ρ, hρ, rfl⟩
    refine ⟨upd ρ v x, hρ, ?_⟩
    rw [List.map_cons, upd_same, List.map_congr_left fun w hw => upd_ne fun (e : w = v) => hv (e ▸ hw)]
  · rintro ⟨ρ, hρ, e⟩
    rw [List.map_cons, List.cons.injEq] at e
    exact ⟨ρ, by rwa [e.1, upd_self], e.2⟩

theorem mem_labelRows {S : Nat → Prop} {n : Nat} (vs : List Nat) (b : BDD) (hb : GoodAbove S n b)
    (hnd : vs.Nodup) (row : List Bool) :
    row ∈ labelRows vs b ↔ ∃ ρ, b.eval ρ = true ∧ row = vs.map ρ := by
  fun_induction labelRows vs b generalizing row S with
  -- 1, 3: `b` is `0`, with no variable left or some: no row and no model; 2: no variable left and
  -- `b ≠ 0`: the empty row; 4: the rows of the two restrictions
  | case1 | case3 => exact ⟨nofun, fun ⟨_, h, _⟩ => absurd h Bool.false_ne_true⟩
  | case2 b ne =>
    obtain ⟨ρ, hρ⟩ := (ne_leaf_false_iff hb.ord hb.red).1 ne
    exact ⟨fun h => ⟨ρ, hρ, List.mem_singleton.1 h⟩, fun ⟨_, _, e⟩ => List.mem_singleton.2 e⟩
  | case4 v vs b ne ih0 ih1 =>
    have ⟨hv, hvs⟩ := List.nodup_cons.1 hnd
    rw [List.mem_append, List.mem_map, List.mem_map]
    constructor
    · rintro (⟨r, hm, rfl⟩ | ⟨r, hm, rfl⟩)
      · exact (restrict_sat_iff hb.ord hv false r).1 ((ih0 (hb.restrict v _) hvs r).1 hm)
      · exact (restrict_sat_iff hb.ord hv true r).1 ((ih1 (hb.restrict v _) hvs r).1 hm)
    · rintro ⟨ρ, hρ, rfl⟩
      have key := (restrict_sat_iff hb.ord hv (ρ v) (vs.map ρ)).2 ⟨ρ, hρ, rfl⟩
      rw [List.map_cons]
      cases hx : ρ v <;> rw [hx] at key
      · exact Or.inl ⟨_, (ih0 (hb.restrict v _) hvs _).2 key, rfl⟩
      · exact Or.inr ⟨_, (ih1 (hb.restrict v _) hvs _).2 key, rfl⟩

theorem sorted_labelRows (vs : List Nat) (b : BDD) : (labelRows vs b).Pairwise RowLt := by
  fun_induction labelRows vs b with
  | case1 | case3 => exact .nil
  | case2 => exact List.pairwise_singleton _ _
  | case4 _ _ _ _ ih0 ih1 => exact sorted_append_bits ih0 ih1

theorem nodup_labelRows (vs : List Nat) (b : BDD) : (labelRows vs b).Nodup :=
  nodup_of_sorted (sorted_labelRows vs b)

theorem getD_map_idxOf (ρ : Nat → Bool) {v : Nat} {sv : List Nat} (hv : v ∈ sv) :
    (sv.map ρ).getD (sv.idxOf v) false = ρ v := by
  rw [List.getD_eq_getElem?_getD, List.getElem?_map,
    List.getElem?_eq_getElem (List.idxOf_lt_length_of_mem hv), List.getElem_idxOf]
  rfl

theorem map_getD_sortU (vs : List Nat) (ρ : Nat → Bool) :
    (vs.map fun v => ((sortU vs).map ρ).getD ((sortU vs).idxOf v) false) = vs.map ρ :=
  List.map_congr_left fun _ hv => getD_map_idxOf ρ (mem_sortU.2 hv)

/-! ### the store: sat/1 and taut/2 with posted constraints -/

theorem conj_denotes {S : Nat → Prop} {fr : Nat} {st : BDD} {f : Fm} (hst : Good S st)
    (hv : ∀ v ∈ f.allVars, v < fr) :
    Denotes (fun v => S v ∨ v ∈ f.allVars) (apply .and st (f.build fr))
      fun ρ => st.eval ρ && f.eval ρ :=
  Denotes.apply .and ⟨hst.mono fun _ => Or.inl, fun _ => rfl⟩
    ((build_ok f).denotes fun v hm => ⟨hv v hm, Or.inr hm⟩)

theorem conj_unsat_iff {S : Nat → Prop} {fr : Nat} {st : BDD} {f : Fm} (hst : Good S st)
    (hv : ∀ v ∈ f.allVars, v < fr) :
    apply .and st (f.build fr) = leaf false ↔ ∀ ρ, ¬ (st.eval ρ = true ∧ f.eval ρ = true) :=
  ((conj_denotes hst hv).eq_leaf_iff false).trans <| forall_congr' fun ρ => by
    rw [← Bool.and_eq_true, Bool.not_eq_true]

/-! ### sat_count/2 with posted constraints -/

theorem eval_exQ_iff {n : Nat} {b : BDD} (hb : OrdAbove n b) (i : Nat) (ρ : Nat → Bool) :
    (exQ i b).eval ρ = true ↔ ∃ x, b.eval (upd ρ i x) = true := by
  rw [eval_exQ hb, Bool.or_eq_true]
  exact ⟨fun h => h.elim (fun h => ⟨_, h⟩) fun h => ⟨_, h⟩, fun ⟨x, h⟩ => by cases x <;> simp [h]⟩

/-- Quantifying away variables outside `S` projects the models onto `S`. -/
theorem foldl_exQ_spec {S : Nat → Prop} (others : List Nat) (hd : ∀ w ∈ others, ¬ S w) : ∀ (b : BDD),
    Good (fun v => S v ∨ v ∈ others) b →
    Good S (others.foldl (fun b v => exQ v b) b) ∧
    ∀ ρ, ((others.foldl (fun b v => exQ v b) b).eval ρ = true ↔
      ∃ ρ', (∀ v, S v → ρ' v = ρ v) ∧ b.eval ρ' = true) := by
  induction others with
  | nil =>
    intro b hb
    have hb' := hb.mono fun v h => h.resolve_right List.not_mem_nil
    exact ⟨hb', fun ρ => ⟨fun h => ⟨ρ, fun _ _ => rfl, h⟩, fun ⟨_, h1, h2⟩ => hb'.eval_congr h1 ▸ h2⟩⟩
  | cons w ws ih =>
    intro b hb
    have ih := ih (fun v hv => hd v (List.mem_cons_of_mem _ hv)) (exQ w b) (hb.exQ w).drop_head
    refine ⟨ih.1, fun ρ => (ih.2 ρ).trans ?_⟩
    simp only [eval_exQ_iff hb.ord]
    constructor
    · rintro ⟨ρ1, h1, x, h2⟩
      exact ⟨upd ρ1 w x, fun v hv =>
        (upd_ne fun (e : v = w) => hd w List.mem_cons_self (e ▸ hv)).trans (h1 v hv), h2⟩
    · rintro ⟨ρ', h1, h2⟩
      exact ⟨ρ', h1, ρ' w, by rwa [upd_self]⟩

end Scryer.BDD
