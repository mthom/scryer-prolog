import ScryerModel.Model.Solve
/-!
Lemmas about `Scryer.Solve`: every fuelled function is monotone in the fuel for the order "equal
unless the left side is undefined" (`Le` on the flat result types, `Res.Le` on results), the result
combinators are monotone in their arguments, and what the interpreter does on each form of goal.
-/
namespace Scryer.Solve

/-- `y` is `x` unless `x` is the undefined value `b` (out of fuel, out of model).  A goal
`Le b (f n) (f (n + k))` has the definedness of `f n` as its own premise, so a proof follows `f` arm
by arm and carries no hypothesis: an undefined scrutinee makes `f n` undefined (`Le.bot`), a defined
one is the same on both sides. -/
def Le {α : Type} (b x y : α) : Prop := x ≠ b → y = x

namespace Le
variable {α : Type} {b x y : α}

@[refl] theorem refl (x : α) : Le b x x := fun _ => rfl

theorem bot : Le b b y := fun h => absurd rfl h

/-- case analysis on a scrutinee that only grows: it is undefined on the left, or the same on both
sides. -/
@[elab_as_elim]
theorem elim {o o' : Option α} {P : Option α → Option α → Prop} (h : Le none o o')
    (h0 : ∀ y, P .none y) (h1 : ∀ a, P (.some a) (.some a)) : P o o' := by
  cases o with
  | none => exact h0 _
  | some a => rw [h nofun]; exact h1 a

end Le

section
variable {k : Nat} {σ : Subst}

theorem walk_le : ∀ (n : Nat) (t : Term), Le none (walk n σ t) (walk (n + k) σ t)
  | 0, _ => .bot
  | n + 1, t => by
    rw [Nat.succ_add]
    cases t with
    | var v =>
      unfold walk
      cases lookup σ v with
      | none => rfl
      | some t' => exact walk_le n t'
    | _ => rfl

theorem resolve_le_aux : ∀ n,
    (∀ t, Le none (resolve n σ t) (resolve (n + k) σ t)) ∧
    (∀ ts, Le none (resolveList n σ ts) (resolveList (n + k) σ ts))
  | 0 => ⟨fun _ => .bot, fun _ => .bot⟩
  | n + 1 => by
    obtain ⟨ih1, ih2⟩ := resolve_le_aux n
    rw [Nat.succ_add]
    constructor
    · intro t
      cases t with
      | var v =>
        unfold resolve
        cases lookup σ v with
        | none => rfl
        | some t' => exact ih1 t'
      | str f args =>
        unfold resolve
        exact (ih2 args).elim (fun _ => .bot) fun _ => .refl _
      | _ => rfl
    · intro ts
      cases ts with
      | nil => rfl
      | cons t ts =>
        unfold resolveList
        refine (ih1 t).elim (fun _ => .bot) fun t' => ?_
        exact (ih2 ts).elim (fun _ => .bot) fun _ => .refl _

theorem resolve_le (n : Nat) (t : Term) : Le none (resolve n σ t) (resolve (n + k) σ t) :=
  (resolve_le_aux n).1 t

theorem occurs_le {v : String} : ∀ n,
    (∀ t, Le none (occurs n σ v t) (occurs (n + k) σ v t)) ∧
    (∀ ts, Le none (occursList n σ v ts) (occursList (n + k) σ v ts))
  | 0 => ⟨fun _ => .bot, fun _ => .bot⟩
  | n + 1 => by
    obtain ⟨ih1, ih2⟩ := occurs_le n
    rw [Nat.succ_add]
    constructor
    · intro t
      cases t with
      | var w =>
        unfold occurs
        cases lookup σ w with
        | none => rfl
        | some t' => exact ih1 t'
      | str f args => exact ih2 args
      | _ => rfl
    · intro ts
      cases ts with
      | nil => rfl
      | cons t ts =>
        unfold occursList
        refine (ih1 t).elim (fun _ => .bot) fun b => ?_
        cases b with
        | true => rfl
        | false => exact ih2 ts

theorem bindVar_le {n : Nat} {v : String} {t : Term} :
    Le none (bindVar n σ v t) (bindVar (n + k) σ v t) := by
  unfold bindVar
  exact ((occurs_le n).1 t).elim (fun _ => .bot) fun _ => .refl _
end

theorem unify_le_aux {k : Nat} : ∀ n,
    (∀ σ a b, Le none (unify n σ a b) (unify (n + k) σ a b)) ∧
    (∀ σ as bs, Le none (unifyList n σ as bs) (unifyList (n + k) σ as bs))
  | 0 => ⟨fun _ _ _ => .bot, fun _ _ _ => .bot⟩
  | n + 1 => by
    obtain ⟨ih1, ih2⟩ := unify_le_aux n
    rw [Nat.succ_add]
    constructor
    · intro σ a b
      unfold unify
      refine (walk_le n a).elim (fun _ => .bot) fun a' => ?_
      refine (walk_le n b).elim (fun _ => .bot) fun b' => ?_
      dsimp only
      -- the five arms of `unify` on the dereferenced pair, in order
      split
      · rfl
      · exact bindVar_le
      · exact bindVar_le
      · split
        · exact ih2 _ _ _
        · rfl
      · rfl
    · intro σ as bs
      cases as with
      | nil => cases bs <;> rfl
      | cons a as =>
        cases bs with
        | nil => rfl
        | cons b bs =>
          unfold unifyList
          refine (ih1 σ a b).elim (fun _ => .bot) fun o => ?_
          cases o with
          | none => rfl
          | some σ' => exact ih2 σ' as bs

section
variable {k : Nat} {σ : Subst}

theorem unify_le (n : Nat) (σ : Subst) (a b : Term) :
    Le none (unify n σ a b) (unify (n + k) σ a b) :=
  (unify_le_aux n).1 σ a b

theorem ofUnify_unify_le {n : Nat} {a b : Term} :
    Le Det.oof (ofUnify (unify n σ a b)) (ofUnify (unify (n + k) σ a b)) :=
  (unify_le n σ a b).elim (fun _ => .bot) fun _ => .refl _

/-- a sub-expression under an operator: its error or lack of fuel is the result. -/
theorem Le.evalOk {e e' : EvalR} {f f' : Arith.Num → EvalR} (h : Le .oof e e')
    (hf : ∀ a, Le .oof (f a) (f' a)) :
    Le EvalR.oof (match (generalizing := false) e with | .ok a => f a | x => x)
      (match (generalizing := false) e' with | .ok a => f' a | x => x) := by
  cases e with
  | oof => exact .bot
  | err t => rw [h nofun]
  | ok a => rw [h nofun]; exact hf a

theorem evalArith_le : ∀ (n : Nat) (t : Term),
    Le EvalR.oof (evalArith n σ t) (evalArith (n + k) σ t)
  | 0, _ => .bot
  | n + 1, t => by
    rw [Nat.succ_add]
    unfold evalArith
    refine (walk_le n t).elim (fun _ => .bot) fun a' => ?_
    -- the arms of `evalArith` in order; only the fifth (unary) and sixth (binary operator) recurse
    split
    · rfl
    · rfl
    · rfl
    · rfl
    · split
      · rfl
      · exact (evalArith_le n _).evalOk fun _ => .refl _
    · split
      · rfl
      · exact (evalArith_le n _).evalOk fun _ => (evalArith_le n _).evalOk fun _ => .refl _
    · rfl
    · rfl

theorem isList_le : ∀ (n : Nat) (t : Term), Le none (isList n σ t) (isList (n + k) σ t)
  | 0, _ => .bot
  | n + 1, t => by
    rw [Nat.succ_add]
    unfold isList
    refine (walk_le n t).elim (fun _ => .bot) fun a' => ?_
    -- the arms of `isList` in order; the third is the list cell
    split
    · rfl
    · rfl
    · exact isList_le n _
    · rfl

theorem builtinArg_le {n : Nat} {i t a : Term} :
    Le Det.oof (builtinArg n σ i t a) (builtinArg (n + k) σ i t a) := by
  unfold builtinArg
  refine (walk_le n i).elim (fun _ => .bot) fun i' => ?_
  refine (walk_le n t).elim (fun _ => .bot) fun t' => ?_
  -- the arms of `builtinArg` in order; only the fifth (integer index into a compound term) unifies
  split
  · rfl
  · rfl
  · rfl
  · rfl
  · split
    · rfl
    · split
      · rfl
      · split
        · exact ofUnify_unify_le
        · rfl
  · rfl
  · rfl

theorem isPartialList_le : ∀ (n : Nat) (t : Term),
    Le none (isPartialList n σ t) (isPartialList (n + k) σ t)
  | 0, _ => .bot
  | n + 1, t => by
    rw [Nat.succ_add]
    unfold isPartialList
    refine (walk_le n t).elim (fun _ => .bot) fun a' => ?_
    -- the arms of `isPartialList` in order; the fourth is the list cell
    split
    · rfl
    · rfl
    · rfl
    · exact isPartialList_le n _
    · rfl

omit σ in
theorem bodyOk_le : ∀ (n : Nat) (t : Term), Le none (bodyOk n t) (bodyOk (n + k) t)
  | 0, _ => .bot
  | n + 1, t => by
    rw [Nat.succ_add]
    unfold bodyOk
    -- the arms of `bodyOk` in order; the third is a binary term, a control construct or not
    split
    · rfl
    · rfl
    · split
      · rename_i a b _
        refine (bodyOk_le n a).elim (fun _ => .bot) fun x => ?_
        exact (bodyOk_le n b).elim (fun _ => .bot) fun _ => .refl _
      · rfl
    · rfl
    · rfl

/-- two unifications in a row, as `functor/3` on a non-variable term does them. -/
theorem unify₂_le {n : Nat} {a b c d : Term} :
    Le Det.oof
      (match unify n σ a b with
      | some (some σ') => ofUnify (unify n σ' c d)
      | r => ofUnify r)
      (match unify (n + k) σ a b with
      | some (some σ') => ofUnify (unify (n + k) σ' c d)
      | r => ofUnify r) := by
  refine (unify_le n σ a b).elim (fun _ => .bot) fun o => ?_
  cases o with
  | none => rfl
  | some σ' => exact ofUnify_unify_le

theorem builtinFunctor_le {n c : Nat} {t nm ar : Term} :
    Le Det.oof (builtinFunctor n σ c t nm ar) (builtinFunctor (n + k) σ c t nm ar) := by
  unfold builtinFunctor
  refine (walk_le n t).elim (fun _ => .bot) fun t' => ?_
  cases t' with
  | var v =>
    dsimp only
    refine (walk_le n nm).elim (fun _ => .bot) fun nm' => ?_
    exact (walk_le n ar).elim (fun _ => .bot) fun _ => .refl _
  | _ => exact unify₂_le

/-- an evaluated operand of `is/2` or of a comparison. -/
theorem Le.evalDet {e e' : EvalR} {f f' : Arith.Num → Det} (h : Le .oof e e')
    (hf : ∀ a, Le .oof (f a) (f' a)) :
    Le Det.oof
      (match (generalizing := false) e with
        | .oof => .oof | .err t => .err t | .ok a => f a)
      (match (generalizing := false) e' with
        | .oof => .oof | .err t => .err t | .ok a => f' a) := by
  cases e with
  | oof => exact .bot
  | err t => rw [h nofun]
  | ok a => rw [h nofun]; exact hf a

theorem runB_le {n c : Nat} : ∀ b : BI, Le Det.oof (runB n σ c b) (runB (n + k) σ c b)
  | .unif a b => ofUnify_unify_le
  | .notUnif a b => by
    simp only [runB]
    exact (unify_le n σ a b).elim (fun _ => .bot) fun _ => .refl _
  | .eq a b | .neq a b => by
    simp only [runB]
    refine (resolve_le n a).elim (fun _ => .bot) fun a' => ?_
    exact (resolve_le n b).elim (fun _ => .bot) fun _ => .refl _
  | .isList a => by
    simp only [runB]
    exact (isList_le n a).elim (fun _ => .bot) fun _ => .refl _
  | .is x e => (evalArith_le n e).evalDet fun _ => ofUnify_unify_le
  | .functor t nm ar => builtinFunctor_le
  | .arg i t a => builtinArg_le
  | .typeTest p a => by
    simp only [runB]
    exact (walk_le n a).elim (fun _ => .bot) fun _ => .refl _
  | .cmp p a b => (evalArith_le n a).evalDet fun _ => (evalArith_le n b).evalDet fun _ => .refl _
  | .none => .refl _

end

@[simp] theorem oofR_oof : Res.oofR.oof = true := rfl

/-- `r'` is `r` unless `r` ran out of fuel (the order `Le` for results, whose undefined values are
marked by the flag): more fuel only turns "out of fuel" into a result. -/
def Res.Le (r r' : Res) : Prop := r.oof = false → r' = r

@[refl] theorem Res.Le.refl (r : Res) : Res.Le r r := fun _ => rfl

theorem Res.Le.oofR {r : Res} : Res.Le Res.oofR r := fun h => nomatch h

theorem Res.Le.trans {a b c : Res} (h1 : Res.Le a b) (h2 : Res.Le b c) : Res.Le a c := fun ho => by
  rw [h1 ho] at h2
  exact h2 ho

/-- every combinator first propagates "out of fuel"; past that test the argument is the same on
both sides. -/
theorem Res.Le.strict {r r' a a' : Res} (h : Res.Le r r') (hf : r' = r → Res.Le a a') :
    Res.Le (if r.oof then Res.oofR else a) (if r'.oof then Res.oofR else a') := by
  intro ho
  cases hr : r.oof with
  | true => rw [hr] at ho; exact nomatch ho
  | false => rw [h hr, hr]; rw [hr] at ho; exact hf (h hr) ho

variable {run run' : St → Res}

theorem seqLoop_congr (hx : ∀ s, Res.Le (run s) (run' s)) :
    ∀ l, Res.Le (seqLoop run l) (seqLoop run' l)
  | [] => .refl _
  | s :: rest => (hx s).strict fun e => by
      rw [e]; split
      · rfl
      · exact (seqLoop_congr hx rest).strict fun e => by rw [e]

theorem conjRes_congr {rA rA' : Res} (hA : Res.Le rA rA') (hx : ∀ s, Res.Le (run s) (run' s)) :
    Res.Le (conjRes rA run) (conjRes rA' run') :=
  hA.strict fun e => by
    subst e; exact (seqLoop_congr hx rA'.sols).strict fun e => by rw [e]

theorem disjRes_congr {rA rA' : Res} {kB kB' : Unit → Res} (hA : Res.Le rA rA')
    (hB : Res.Le (kB ()) (kB' ())) :
    Res.Le (disjRes rA kB) (disjRes rA' kB') :=
  hA.strict fun e => by
    rw [e]; split
    · rfl
    · exact hB.strict fun e => by rw [e]

theorem iteRes_congr {rC rC' : Res} {runT runT' : St → Res} {kE kE' : Unit → Res}
    (hC : Res.Le rC rC') (hT : ∀ s, Res.Le (runT s) (runT' s)) (hE : Res.Le (kE ()) (kE' ())) :
    Res.Le (iteRes rC runT kE) (iteRes rC' runT' kE') :=
  hC.strict fun e => by
    subst e; split
    · exact hT _
    · split
      · rfl
      · exact hE

theorem nafRes_congr {r r' : Res} (s : St) (hr : Res.Le r r') : Res.Le (nafRes r s) (nafRes r' s) :=
  hr.strict fun e => by rw [e]

theorem raise_mono {k n : Nat} {s : St} {b : Term} : Res.Le (raise n s b) (raise (n + k) s b) := by
  unfold raise
  exact (resolve_le n b).elim (fun _ => .oofR) fun _ => .refl _

theorem instances_le {k n : Nat} {t : Term} : ∀ (l : List St) (c : Nat),
    Le none (instances n t c l) (instances (n + k) t c l)
  | [], _ => .refl _
  | s :: rest, c => by
    unfold instances
    refine (resolve_le n t).elim (fun _ => .bot) fun ti => ?_
    exact (instances_le rest (c + 1)).elim (fun _ => .bot) fun _ => .refl _

/-- `rec'` is above `rec` at every goal and state. -/
def RExt (rec rec' : Term → St → Res) : Prop := ∀ g s, Res.Le (rec g s) (rec' g s)

section
variable {rec rec' : Term → St → Res} (hx : RExt rec rec') {k n : Nat} {s : St}
include hx

theorem callBody_mono {g' : Term} {extra : List Term} :
    Res.Le (callBody rec n s g' extra) (callBody rec' (n + k) s g' extra) := by
  unfold callBody
  split
  · exact raise_mono
  · refine (bodyOk_le n _).elim (fun _ => .oofR) fun b => ?_
    cases b with
    | false => exact raise_mono
    | true => exact (hx _ s).strict fun e => by rw [e]

theorem callGoal_mono {g : Term} {extra : List Term} :
    Res.Le (callGoal rec n s g extra) (callGoal rec' (n + k) s g extra) := by
  unfold callGoal
  refine (resolve_le n g).elim (fun _ => .oofR) fun g' => ?_
  cases g' with
  | var v => exact raise_mono
  | _ => exact callBody_mono hx

omit hx in
theorem throwRes_mono {b : Term} : Res.Le (throwRes n s b) (throwRes (n + k) s b) := by
  unfold throwRes
  refine (resolve_le n b).elim (fun _ => .oofR) fun b' => ?_
  cases b' with
  | var v => exact raise_mono
  | _ => rfl

theorem catchRes_mono {g c r : Term} :
    Res.Le (catchRes rec n s g c r) (catchRes rec' (n + k) s g c r) :=
  (callGoal_mono hx).strict fun e => by
    rw [e]; split
    · rfl
    · refine (unify_le n s.σ c _).elim (fun _ => .oofR) fun o => ?_
      cases o with
      | none => rfl
      | some σ' => exact (callGoal_mono hx).strict fun e => by rw [e]

theorem findallRes_mono {t g l : Term} :
    Res.Le (findallRes rec n s t g l) (findallRes rec' (n + k) s t g l) :=
  (callGoal_mono hx).strict fun e => by
    rw [e]; split
    · rfl
    · refine (instances_le _ s.ctr).elim (fun _ => .oofR) fun ts => ?_
      dsimp only
      refine (isPartialList_le n l).elim (fun _ => .oofR) fun b => ?_
      cases b with
      | false => exact raise_mono
      | true => exact (unify_le n s.σ l _).elim (fun _ => .oofR) fun _ => .refl _

theorem clauseLoop_mono {goal : Term} : ∀ cls : List Clause,
    Res.Le (clauseLoop rec n goal s cls) (clauseLoop rec' (n + k) goal s cls)
  | [] => .refl _
  | cl :: rest => by
    unfold clauseLoop
    refine (unify_le n s.σ goal _).elim (fun _ => .oofR) fun o => ?_
    cases o with
    | none => exact clauseLoop_mono rest
    | some σ' =>
      exact (hx _ _).strict fun e => by
        rw [e]; split
        · rfl
        · exact (clauseLoop_mono rest).strict fun e => by rw [e]

theorem step_mono {prog : Prog} {g : Term} :
    Res.Le (step prog rec n g s) (step prog rec' (n + k) g s) := by
  unfold step
  cases classify g with
  | tru | fal | cut => rfl
  | conj a b => exact conjRes_congr (hx a s) (hx b)
  | disj a b => exact disjRes_congr (hx a s) (hx b s)
  | ite c t e => exact iteRes_congr (hx c s) (hx t) (hx e s)
  | ifThen c t => exact iteRes_congr (hx c s) (hx t) (.refl _)
  | naf g1 => exact nafRes_congr s (callGoal_mono hx)
  | once g1 => exact iteRes_congr (callGoal_mono hx) (fun _ => .refl _) (.refl _)
  | call g1 extra => exact callGoal_mono hx
  | var v => exact callGoal_mono hx
  | num t => exact raise_mono
  | «catch» g1 c r => exact catchRes_mono hx
  | findall t g1 l => exact findallRes_mono hx
  | «throw» b => exact throwRes_mono
  | pred name args =>
    dsimp only
    have hb : Le Det.oof (builtin n name args s.σ s.ctr) (builtin (n + k) name args s.σ s.ctr) :=
      runB_le _
    generalize builtin n name args s.σ s.ctr = d at hb ⊢
    cases d with
    | oof => exact .oofR
    | fail | ok σ' => rw [hb nofun]
    | err f => rw [hb nofun]; exact raise_mono
    | none =>
      rw [hb nofun]
      dsimp only [userCall]
      split
      · exact raise_mono
      · exact clauseLoop_mono hx _

end

theorem solve_mono (prog : Prog) (k : Nat) : ∀ (n : Nat) (g : Term) (s : St),
    Res.Le (solve n prog g s) (solve (n + k) prog g s)
  | 0, _, _ => .oofR
  | n + 1, g, s => by rw [Nat.succ_add]; exact step_mono (solve_mono prog k n)

/-- a result indexed by fuel that stays once it is there. -/
def Stable (d : Nat → Res) : Prop := ∀ n k, Res.Le (d n) (d (n + k))

theorem Stable.unique {d : Nat → Res} (hd : Stable d) {n1 n2 : Nat} (h1 : (d n1).oof = false)
    (h2 : (d n2).oof = false) : d n1 = d n2 :=
  (hd n1 n2 h1).symm.trans ((congrArg d (Nat.add_comm n1 n2)).trans (hd n2 n1 h2))

theorem Stable.conj {dA : Nat → Res} {dB : St → Nat → Res} (hA : Stable dA)
    (hB : ∀ s', Stable (dB s')) : Stable fun n => conjRes (dA n) fun s' => dB s' n :=
  fun n k => conjRes_congr (hA n k) fun s' => hB s' n k

theorem Stable.disj {dA dB : Nat → Res} (hA : Stable dA) (hB : Stable dB) :
    Stable fun n => disjRes (dA n) fun _ => dB n :=
  fun n k => disjRes_congr (hA n k) (hB n k)

theorem Stable.ite {dC dE : Nat → Res} {dT : St → Nat → Res} (hC : Stable dC)
    (hT : ∀ s', Stable (dT s')) (hE : Stable dE) :
    Stable fun n => iteRes (dC n) (fun s' => dT s' n) fun _ => dE n :=
  fun n k => iteRes_congr (hC n k) (fun s' => hT s' n k) (hE n k)

theorem stable_solve {prog : Prog} {s : St} {g : Term} : Stable fun n => solve n prog g s :=
  fun n k => solve_mono prog k n g s

theorem stable_call {prog : Prog} {s : St} {c : Term} {extra : List Term} :
    Stable fun n => callGoal (solve n prog) n s c extra :=
  fun n k => callGoal_mono (solve_mono prog k n)

/-! ### the interpreter on each form of goal

`classify` is decided by evaluation on the constant functor; only the overlap of `;` with
`( -> ; )` and the arity bound of `call/N` need an argument.  `classify.eq_9` is the equation Lean
generates for the ninth arm of `classify` (`;` whose left side is not `->`): the number follows the
order of the arms. -/

variable (n : Nat) (prog : Prog) (s : St)

theorem solve_zero (g : Term) : (solve 0 prog g s).oof = true := rfl

theorem solve_disj (a b : Term) (ha : ∀ c t, a ≠ .str "->" [c, t]) :
    solve (n + 1) prog (.str ";" [a, b]) s =
      disjRes (solve n prog a s) (fun _ => solve n prog b s) := by
  rw [solve, step, classify.eq_9 a b ha]

theorem solve_true : solve (n + 1) prog (.atom "true") s = Res.one s := rfl

theorem solve_fail : solve (n + 1) prog (.atom "fail") s = Res.none := rfl

theorem solve_cut : solve (n + 1) prog (.atom "!") s = ⟨[s], true, .none, false⟩ := rfl

theorem solve_var (v : String) :
    solve (n + 1) prog (.var v) s = callGoal (solve n prog) n s (.var v) [] := rfl

theorem solve_conj (a b : Term) :
    solve (n + 1) prog (.str "," [a, b]) s = conjRes (solve n prog a s) (solve n prog b) := rfl

theorem solve_ite (c t e : Term) :
    solve (n + 1) prog (.str ";" [.str "->" [c, t], e]) s =
      iteRes (solve n prog c s) (solve n prog t) (fun _ => solve n prog e s) := rfl

theorem solve_ifThen (c t : Term) :
    solve (n + 1) prog (.str "->" [c, t]) s =
      iteRes (solve n prog c s) (solve n prog t) (fun _ => Res.none) := rfl

theorem solve_naf (g : Term) :
    solve (n + 1) prog (.str "\\+" [g]) s = nafRes (callGoal (solve n prog) n s g []) s := rfl

theorem solve_once (g : Term) :
    solve (n + 1) prog (.str "once" [g]) s =
      iteRes (callGoal (solve n prog) n s g []) Res.one (fun _ => Res.none) := rfl

theorem solve_call (g : Term) (extra : List Term) (h : extra.length ≤ 7) :
    solve (n + 1) prog (.str "call" (g :: extra)) s = callGoal (solve n prog) n s g extra := by
  have : classify (.str "call" (g :: extra)) = .call g extra := if_pos h
  rw [solve, step, this]

theorem solve_catch (g c r : Term) :
    solve (n + 1) prog (.str "catch" [g, c, r]) s = catchRes (solve n prog) n s g c r := rfl

theorem solve_findall (t g l : Term) :
    solve (n + 1) prog (.str "findall" [t, g, l]) s = findallRes (solve n prog) n s t g l := rfl

end Scryer.Solve
