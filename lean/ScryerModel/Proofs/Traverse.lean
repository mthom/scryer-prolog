import ScryerModel.Model.Traverse
/-!
Lemmas for C34: the explicit-stack walkers of `Model/Traverse.lean` (the pre-order machine `run`,
`foldIter`, the pair iterator `cmpIter`) compute the recursive definitions, take exactly `size`
iterations and never hold more than `size` work-list entries.
-/
namespace Scryer.Traverse

/-! ### the recursive definitions: `size`, `preorder`, `depth` -/

theorem sizeL_append (a b : List Tree) : sizeL (a ++ b) = sizeL a + sizeL b := by
  induction a with
  | nil => exact (Nat.zero_add _).symm
  | cons t ts ih => simp only [List.cons_append, sizeL, ih, Nat.add_assoc]

theorem preorderL_append (a b : List Tree) : preorderL (a ++ b) = preorderL a ++ preorderL b := by
  induction a with
  | nil => rfl
  | cons t ts ih => simp only [List.cons_append, preorderL, ih, List.append_assoc]

theorem Tree.size_eq (t : Tree) : t.size = 1 + sizeL t.args := by
  cases t <;> simp only [Tree.size, Tree.args, sizeL]

theorem Tree.size_pos (t : Tree) : 0 < t.size := by
  rw [Tree.size_eq]; exact Nat.lt_add_right _ Nat.one_pos

theorem preorder_eq (t : Tree) : preorder t = t.head :: preorderL t.args := by
  cases t <;> simp only [preorder, Tree.args, Tree.head, preorderL]

theorem length_le_sizeL (l : List Tree) : l.length ≤ sizeL l := by
  induction l with
  | nil => exact Nat.le_refl _
  | cons t ts ih =>
    rw [sizeL, Nat.add_comm]
    exact Nat.add_le_add ih t.size_pos

theorem nil_of_sizeL_le_zero {l : List Tree} (h : sizeL l ≤ 0) : l = [] :=
  List.length_eq_zero_iff.mp (Nat.le_zero.mp (Nat.le_trans (length_le_sizeL l) h))

theorem sizeL_cons (t : Tree) (ts : List Tree) :
    sizeL (t :: ts) = 1 + sizeL (t.args ++ ts) := by
  rw [sizeL, sizeL_append, t.size_eq, Nat.add_assoc]

@[simp] theorem sizeL_single (t : Tree) : sizeL [t] = t.size := by simp [sizeL]

theorem preorderL_cons (t : Tree) (ts : List Tree) :
    preorderL (t :: ts) = t.head :: preorderL (t.args ++ ts) := by
  rw [preorderL, preorderL_append, preorder_eq, List.cons_append]

mutual
  theorem preorder_length (t : Tree) : (preorder t).length = t.size := by
    match t with
    | .var _ => rfl
    | .atom _ => rfl
    | .node f as => rw [preorder, Tree.size, List.length_cons, preorderL_length as, Nat.add_comm]
  theorem preorderL_length (ts : List Tree) : (preorderL ts).length = sizeL ts := by
    match ts with
    | [] => rfl
    | t :: r => rw [preorderL, sizeL, List.length_append, preorder_length t, preorderL_length r]
end

mutual
  theorem depth_le_size (t : Tree) : t.depth ≤ t.size := by
    match t with
    | .var _ => exact Nat.le_refl _
    | .atom _ => exact Nat.le_refl _
    | .node f as => rw [Tree.depth, Tree.size]; exact Nat.add_le_add_left (depthL_le_sizeL as) 1
  theorem depthL_le_sizeL (ts : List Tree) : depthL ts ≤ sizeL ts := by
    match ts with
    | [] => exact Nat.le_refl _
    | t :: r =>
      rw [depthL, sizeL]
      exact Nat.max_le.mpr ⟨Nat.le_trans (depth_le_size t) (Nat.le_add_right _ _),
        Nat.le_trans (depthL_le_sizeL r) (Nat.le_add_left _ _)⟩
end

/-! ### the pre-order machine -/

theorem run_nil (fuel : Nat) (s : PState) (h : s.stack = []) : run fuel s = s := by
  cases fuel with
  | zero => rfl
  | succ n => simp [run, h]

theorem step_cons (s : PState) (t : Tree) (r : List Tree) (h : s.stack = t :: r) :
    step s = { stack := t.args ++ r, len := s.len - 1 + t.args.length, out := t.head :: s.out,
               steps := s.steps + 1, maxStack := max s.maxStack (s.len - 1 + t.args.length) } := by
  simp [step, h]

theorem step_nil (s : PState) (h : s.stack = []) : step s = s := by
  rw [step, h]

/-- `step` leaves a state with an empty work-list alone, so the loop is plain iteration of `step`. -/
theorem run_succ (n : Nat) (s : PState) : run (n + 1) s = run n (step s) := by
  match hst : s.stack with
  | [] => rw [step_nil s hst, run_nil _ s hst, run_nil _ s hst]
  | t :: r => simp [run, hst]

theorem step_steps_le (s : PState) : (step s).steps ≤ s.steps + 1 := by
  rw [step]; split
  · exact Nat.le_succ _
  · exact Nat.le_refl _

theorem run_steps_le : ∀ (fuel : Nat) (s : PState), (run fuel s).steps ≤ s.steps + fuel
  | 0, _ => Nat.le_refl _
  | n + 1, s => by
    rw [run_succ, ← Nat.add_assoc, Nat.add_right_comm]
    exact Nat.le_trans (run_steps_le n _) (Nat.add_le_add_right (step_steps_le s) n)

@[simp] theorem init_stack (t : Tree) : (PState.init t).stack = [t] := rfl
@[simp] theorem init_len (t : Tree) : (PState.init t).len = 1 := rfl
@[simp] theorem init_out (t : Tree) : (PState.init t).out = [] := rfl
@[simp] theorem init_steps (t : Tree) : (PState.init t).steps = 0 := rfl
@[simp] theorem init_maxStack (t : Tree) : (PState.init t).maxStack = 1 := rfl

theorem step_sizeL (s : PState) : sizeL (step s).stack = sizeL s.stack - 1 := by
  match hst : s.stack with
  | [] => rw [step_nil s hst, hst]; rfl
  | t :: r => rw [step_cons s t r hst, sizeL_cons]; exact (Nat.add_sub_cancel_left ..).symm

theorem run_sizeL : ∀ (n : Nat) (s : PState), sizeL (run n s).stack = sizeL s.stack - n
  | 0, _ => rfl
  | n + 1, s => by rw [run_succ, run_sizeL n, step_sizeL, Nat.sub_sub, Nat.add_comm]

theorem run_add (a b : Nat) : ∀ s : PState, run (a + b) s = run b (run a s) := by
  induction a with
  | zero => intro s; rw [Nat.zero_add]; rfl
  | succ a ih => intro s; rw [Nat.add_right_comm, run_succ, run_succ, ih]

/-- what holds of every state the walk of `t` passes through: the heads emitted so far followed by
the pre-order of what is still on the work-list is the pre-order of `t`, and likewise for the counts. -/
structure Walk (t : Tree) (s : PState) : Prop where
  len : s.len = s.stack.length
  out : s.out.reverse ++ preorderL s.stack = preorder t
  steps : s.steps + sizeL s.stack = t.size
  max : s.maxStack ≤ t.size

theorem Walk.init (t : Tree) : Walk t (PState.init t) :=
  ⟨rfl, (List.append_nil _), (Nat.zero_add _).trans (Nat.add_zero _), t.size_pos⟩

theorem Walk.step {t : Tree} {s : PState} (w : Walk t s) : Walk t (step s) := by
  match hst : s.stack with
  | [] => rwa [step_nil s hst]
  | u :: r =>
    obtain ⟨h1, h2, h3, h4⟩ := w
    rw [hst] at h1 h2 h3
    rw [preorderL_cons] at h2
    rw [sizeL_cons] at h3
    have hlen : s.len - 1 + u.args.length = (u.args ++ r).length := by
      rw [h1, List.length_append, Nat.add_comm]; rfl
    rw [step_cons s u r hst]
    refine ⟨hlen, ?_, ?_, Nat.max_le.mpr ⟨h4, ?_⟩⟩
    · rw [List.reverse_cons, List.append_assoc]; exact h2
    · rw [Nat.add_assoc]; exact h3
    · -- the new length is at most what is left to visit, which `steps` bounds by the size
      rw [hlen, ← h3]
      exact Nat.le_trans (length_le_sizeL _) (Nat.le_trans (Nat.le_add_left _ 1) (Nat.le_add_left _ _))

theorem Walk.run {t : Tree} : ∀ (n : Nat) {s : PState}, Walk t s → Walk t (run n s)
  | 0, _, w => w
  | n + 1, s, w => run_succ n s ▸ Walk.run n w.step

theorem run_done {n : Nat} {s : PState} (h : sizeL s.stack ≤ n) : (run n s).stack = [] :=
  nil_of_sizeL_le_zero (Nat.le_of_eq ((run_sizeL n s).trans (Nat.sub_eq_zero_of_le h)))

/-! ### fold version -/

/-- `foldIter` is the same walk: it folds over what `run` emits, whatever the fuel. -/
theorem foldIter_run {α : Type} (f : α → Head → α) (acc : α) : ∀ (n : Nat) (s : PState),
    foldIter f n s.stack (s.out.reverse.foldl f acc) = (run n s).out.reverse.foldl f acc
  | 0, s => by cases s.stack <;> rfl
  | n + 1, s => by
    match hst : s.stack with
    | [] => rw [run_nil _ s hst]; rfl
    | u :: r =>
      rw [run_succ, ← foldIter_run f acc n (Traverse.step s), step_cons s u r hst,
        List.reverse_cons, List.foldl_append]
      rfl

/-! ### pair iterator -/

theorem cmpRecL_zip (as bs : List Tree) : cmpRecL as bs = cmpPairs (as.zip bs) := by
  induction as generalizing bs with
  | nil => simp [cmpRecL, cmpPairs]
  | cons a as ih =>
    cases bs with
    | nil => simp [cmpRecL, cmpPairs]
    | cons b bs => simp [cmpRecL, cmpPairs, ih]

theorem cmpPairs_append (u w : List (Tree × Tree)) :
    cmpPairs (u ++ w) = (cmpPairs u).then (cmpPairs w) := by
  induction u with
  | nil => simp [cmpPairs, Ordering.then]
  | cons p u ih =>
    obtain ⟨a, b⟩ := p
    simp [cmpPairs, ih]
    cases cmpRec a b <;> simp [Ordering.then]

theorem cmpRec_unfold (a b : Tree) :
    cmpRec a b = (headCmp a.head b.head).then (cmpPairs (a.args.zip b.args)) := by
  cases a <;> cases b <;> simp [cmpRec, Tree.head, Tree.args, cmpPairs, cmpRecL_zip, headCmp]

theorem sizeL_zip_le (as bs : List Tree) : sizeL ((as.zip bs).map (·.1)) ≤ sizeL as := by
  induction as generalizing bs with
  | nil => exact Nat.le_refl _
  | cons a as ih =>
    cases bs with
    | nil => exact Nat.zero_le _
    | cons b bs => exact Nat.add_le_add_left (ih bs) _

/-- the measure is the number of nodes of the left components. -/
theorem cmpIter_spec : ∀ (fuel : Nat) (w : List (Tree × Tree)), sizeL (w.map (·.1)) ≤ fuel →
    cmpIter fuel w = some (cmpPairs w) := by
  intro fuel
  induction fuel with
  | zero =>
    intro w h
    rw [List.map_eq_nil_iff.mp (nil_of_sizeL_le_zero h)]
    rfl
  | succ n ih =>
    intro w h
    match w with
    | [] => rfl
    | (a, b) :: w =>
      simp only [cmpIter, cmpPairs]
      rw [cmpRec_unfold]
      have hsz : sizeL ((a.args.zip b.args ++ w).map (·.1)) ≤ n := by
        have := sizeL_zip_le a.args b.args
        rw [List.map_cons, sizeL, a.size_eq] at h
        rw [List.map_append, sizeL_append]; omega
      cases hh : headCmp a.head b.head with
      | eq => simp [ih _ hsz, cmpPairs_append, Ordering.then]
      | lt => simp [Ordering.then]
      | gt => simp [Ordering.then]

mutual
  theorem cmpRec_refl (t : Tree) : cmpRec t t = .eq := by
    match t with
    | .var i => simp [cmpRec, Tree.head, headCmp]
    | .atom i => simp [cmpRec, Tree.head, headCmp]
    | .node f as => simp [cmpRec, headCmp, cmpRecL_refl as]
  theorem cmpRecL_refl (ts : List Tree) : cmpRecL ts ts = .eq := by
    match ts with
    | [] => rfl
    | t :: r => rw [cmpRecL, cmpRec_refl t, cmpRecL_refl r]; rfl
end

/-! ### shapes -/

/-- used with `Tree.size` and `Tree.depth` for `m`. -/
theorem wrapN_add (m : Tree → Nat) (w : Tree → Tree) (k : Nat) (hw : ∀ t, m (w t) = m t + k) :
    ∀ n t, m (wrapN n w t) = m t + n * k := by
  intro n
  induction n with
  | zero => intro t; rw [Nat.zero_mul]; rfl
  | succ n ih => intro t; rw [wrapN, ih, hw, Nat.succ_mul, Nat.add_assoc, Nat.add_comm k]

end Scryer.Traverse
