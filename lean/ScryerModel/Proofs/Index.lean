import ScryerModel.Proofs.IndexInv
/-!
Whole-predicate compilation (`build`, i.e. `compile_predicate`: `split_predicate` +
`compile_pred_subseq` + `compute_indices`) establishes the invariant `Inv` of the first-argument
index model (property C06, static part): `inv_build`, `live_build`, `hd_build`, and with
`Inv.select_exact` the property itself, `build_select_exact`.
-/
namespace Scryer.Index

/-! ### insertion-ordered maps key ↦ clauses -/
section gmaps
variable {κ : Type}

/-- every key of the map has at least one clause. -/
def GNE (m : List (κ × List Nat)) : Prop := ∀ p, p ∈ m → p.2 ≠ []

theorem switchOnList_ids (l : List Nat) : (switchOnList l).ids = l := by
  match l with
  | [] => rfl
  | [i] => rfl
  | _ :: _ :: _ => rfl

theorem secondLevel_eq_map (m : List (κ × List Nat)) (h : GNE m) :
    secondLevel m = m.map fun p => (p.1, switchOnList p.2) := by
  induction m with
  | nil => rfl
  | cons x r ih =>
    have ih := ih fun p hp => h p (List.mem_cons_of_mem _ hp)
    match x, h x List.mem_cons_self with
    | (k, [i]), _ => exact congrArg _ ih
    | (k, _ :: _ :: _), _ => exact congrArg _ ih

theorem switchOn_singleton (k : κ) {l : List Nat} (hl : l ≠ []) :
    switchOn [(k, l)] = .leaf (switchOnList l) := by
  match l, hl with
  | [i], _ => rfl
  | _ :: _ :: _, _ => rfl

theorem switchOn_many (a b : κ × List Nat) (r : List (κ × List Nat)) (hne : GNE (a :: b :: r)) :
    switchOn (a :: b :: r) = .table (secondLevel (a :: b :: r)) := by
  unfold switchOn
  exact if_pos (by rw [secondLevel_eq_map _ hne]; exact Nat.succ_lt_succ (Nat.zero_lt_succ _))

theorem nodup_all_eq {l : List κ} (nd : l.Nodup) (k : κ) (h : ∀ x, x ∈ l → x = k) :
    l = [] ∨ l = [k] :=
  (Nat.le_one_iff_eq_zero_or_eq_one.1
    (length_le_one_of_nodup nd fun a ha b hb => (h a ha).trans (h b hb).symm)).imp
    List.length_eq_zero_iff.1 fun h1 => by
      obtain ⟨a, rfl⟩ := List.length_eq_one_iff.1 h1
      rw [h a (List.mem_singleton.2 rfl)]

variable [DecidableEq κ]

/-- look-up in a `CodeOffsets` map: first match, `[]` on a miss. -/
def glookup : List (κ × List Nat) → κ → List Nat
  | [], _ => []
  | (k', l) :: r, k => if k' = k then l else glookup r k

theorem glookup_ginsert (m : List (κ × List Nat)) (k k' : κ) (id : Nat) :
    glookup (ginsert m k id) k' = if k' = k then glookup m k ++ [id] else glookup m k' := by
  induction m with
  | nil => by_cases h : k' = k <;> simp [ginsert, glookup, h, eq_comm (a := k)]
  | cons x r ih =>
    obtain ⟨k0, l⟩ := x
    by_cases h0 : k0 = k
    · subst h0; by_cases h : k' = k0 <;> simp [ginsert, glookup, h, eq_comm (a := k0)]
    · by_cases h : k' = k
      · subst h; simp [ginsert, glookup, h0, ih]
      · simp [ginsert, glookup, h0, ih, h]

theorem GNE.ginsert {m : List (κ × List Nat)} (h : GNE m) (k : κ) (id : Nat) :
    GNE (ginsert m k id) := by
  induction m with
  | nil => intro p hp; simp [Scryer.Index.ginsert] at hp; subst hp; simp
  | cons x r ih =>
    obtain ⟨k0, l⟩ := x
    have hr : GNE r := fun p hp => h p (by simp [hp])
    intro p hp
    simp only [Scryer.Index.ginsert] at hp
    split at hp
    · rcases List.mem_cons.1 hp with e | e
      · subst e; simp
      · exact hr p e
    · rcases List.mem_cons.1 hp with e | e
      · subst e; exact h _ (by simp)
      · exact ih hr p e

theorem secondLevel_look (m : List (κ × List Nat)) (h : GNE m) (k : κ) :
    ((tlookup (secondLevel m) k).getD .fail).ids = glookup m k := by
  rw [secondLevel_eq_map m h]
  induction m with
  | nil => rfl
  | cons x r ih =>
    simp only [List.map_cons, tlookup, glookup]
    split
    · exact switchOnList_ids _
    · exact ih fun p hp => h p (List.mem_cons_of_mem _ hp)

/-- **`switch_on`** of a map that files every clause of the chain under each of its keys, in
chain order, satisfies the slot invariant. -/
theorem slotInv_switchOn (chain : List Nat) (alive : Nat → Bool) (keys : Nat → List κ)
    (G : List (κ × List Nat)) (hne : GNE G)
    (h1 : ∀ k, (glookup G k).Sublist chain)
    (h2 : ∀ id, id ∈ chain → ∀ k, k ∈ keys id → id ∈ glookup G k)
    (h3 : ∀ id, id ∈ chain → (keys id).Nodup) :
    SlotInv chain alive keys (switchOn G) := by
  match G, hne, h1, h2 with
  | [], _, _, h2 =>
    exact ⟨fun k => List.nil_sublist _, fun id hi _ k hk => (nomatch h2 id hi k hk),
      fun p hp hpf => absurd (Slot.leaf.inj hp).symm hpf⟩
  | [(k0, l)], hne, h1, h2 =>
    rw [switchOn_singleton k0 (hne (k0, l) (List.mem_singleton.2 rfl))]
    have hk0 : ∀ id, id ∈ chain → ∀ k, k ∈ keys id → k = k0 ∧ id ∈ l := by
      intro id hi k hk
      have := h2 id hi k hk
      simp only [glookup] at this
      split at this
      · next e => exact ⟨e.symm, this⟩
      · cases this
    refine ⟨fun k => ?_, fun id hi _ k hk => ?_, fun p _ _ => ⟨k0, fun id hi _ => ?_⟩⟩
    · show (switchOnList l).ids.Sublist chain
      have := h1 k0
      rwa [switchOnList_ids, ← show glookup [(k0, l)] k0 = l from if_pos rfl]
    · show id ∈ (switchOnList l).ids
      rw [switchOnList_ids]; exact (hk0 id hi k hk).2
    · exact nodup_all_eq (h3 id hi) k0 (fun x hx => (hk0 id hi x hx).1)
  | a :: b :: r, hne, h1, h2 =>
    rw [switchOn_many a b r hne]
    refine ⟨fun k => ?_, fun id hi _ k hk => ?_, fun p hp _ => nomatch hp⟩
    · simp only [PtrOK, Slot.look, secondLevel_look _ hne]; exact h1 k
    · simp only [Slot.look, secondLevel_look _ hne]; exact h2 id hi k hk

end gmaps

/-! ### `compile_pred_subseq` -/

/-- the index collected over the clauses of a subsequence. -/
def collect (arg : Nat) (ms : List (Nat × Head)) (o : Offsets) : Offsets :=
  ms.foldl (fun o m => indexTerm o (argAt m.2 arg) m.1) o

theorem collect_cons (arg : Nat) (m : Nat × Head) (ms : List (Nat × Head)) (o : Offsets) :
    collect arg (m :: ms) o = collect arg ms (indexTerm o (argAt m.2 arg) m.1) := rfl

theorem indexTerm_consts (o : Offsets) (fa : FirstArg) (id : Nat) (k : CKey) :
    glookup (indexTerm o fa id).consts k
      = glookup o.consts k ++ (if k ∈ ckeys fa then [id] else []) := by
  cases fa with
  | const l =>
    cases h : l.altKey with
    | none =>
      simp only [indexTerm, ckeys, h, glookup_ginsert]
      by_cases e : k = l.key <;> simp [e]
    | some k2 =>
      have hne := altKey_ne_key l k2 h
      simp only [indexTerm, ckeys, h, glookup_ginsert]
      by_cases e : k = l.key
      · subst e
        have : ¬ l.key = k2 := fun e => hne e.symm
        simp [this]
      · by_cases e2 : k = k2
        · subst e2; simp [e]
        · simp [e, e2]
  | _ => simp [indexTerm, ckeys]

theorem indexTerm_structs (o : Offsets) (fa : FirstArg) (id : Nat) (k : String × Nat) :
    glookup (indexTerm o fa id).structs k
      = glookup o.structs k ++ (if k ∈ skeys fa then [id] else []) := by
  cases fa with
  | struct n a =>
    simp only [indexTerm, skeys, glookup_ginsert]
    by_cases e : k = (n, a) <;> simp [e]
  | const l => simp only [indexTerm, skeys]; split <;> simp
  | _ => simp [indexTerm, skeys]

theorem indexTerm_lists (o : Offsets) (fa : FirstArg) (id : Nat) :
    (indexTerm o fa id).lists = o.lists ++ (if fa = .list then [id] else []) := by
  cases fa with
  | const l => simp only [indexTerm]; split <;> simp
  | _ => simp [indexTerm]

theorem indexTerm_gne (o : Offsets) (fa : FirstArg) (id : Nat) (hc : GNE o.consts)
    (hs : GNE o.structs) : GNE (indexTerm o fa id).consts ∧ GNE (indexTerm o fa id).structs := by
  cases fa with
  | const l =>
    simp only [indexTerm]; split
    · exact ⟨(hc.ginsert _ _).ginsert _ _, hs⟩
    · exact ⟨hc.ginsert _ _, hs⟩
  | struct n a => exact ⟨hc, hs.ginsert _ _⟩
  | _ => exact ⟨hc, hs⟩

theorem collect_gne (arg : Nat) (ms : List (Nat × Head)) (o : Offsets) (hc : GNE o.consts)
    (hs : GNE o.structs) : GNE (collect arg ms o).consts ∧ GNE (collect arg ms o).structs := by
  induction ms generalizing o with
  | nil => exact ⟨hc, hs⟩
  | cons m r ih =>
    rw [collect_cons]
    have := indexTerm_gne o (argAt m.2 arg) m.1 hc hs
    exact ih _ this.1 this.2

/-- what the run of clauses files in one place `obs` of the index (the entry of a key, the list
clauses): if `index_term` adds a clause there exactly when `p` holds of its argument, the clauses
of the run with `p`, in order. -/
theorem collect_obs (obs : Offsets → List Nat) (p : FirstArg → Prop) [DecidablePred p]
    (h : ∀ o fa id, obs (indexTerm o fa id) = obs o ++ if p fa then [id] else [])
    (arg : Nat) (ms : List (Nat × Head)) (o : Offsets) :
    obs (collect arg ms o)
      = obs o ++ (ms.filter (fun m => decide (p (argAt m.2 arg)))).map (·.1) := by
  induction ms generalizing o with
  | nil => simp [collect]
  | cons m r ih =>
    rw [collect_cons, ih, h]
    by_cases hp : p (argAt m.2 arg) <;> simp [hp]

theorem collect_allvar (arg : Nat) (ms : List (Nat × Head)) (o : Offsets)
    (h : ∀ m, m ∈ ms → argAt m.2 arg = .var) : collect arg ms o = o := by
  induction ms generalizing o with
  | nil => rfl
  | cons m r ih =>
    rw [collect_cons, h m (by simp)]
    exact ih _ (fun m' hm' => h m' (by simp [hm']))

/-- the code of a subsequence, when index code is emitted for it. -/
def subOf (arg : Nat) (ms : List (Nat × Head)) : Sub :=
  let o := collect arg ms Offsets.empty
  { arg := arg, chain := ms.map (·.1), c := switchOn o.consts, l := switchOnList o.lists,
    s := switchOn o.structs }

theorem compileSeg_eq (ext : Bool) (arg : Nat) (ms : List (Nat × Head)) :
    compileSeg ext arg ms = .plain (ms.map (·.1)) ∨ compileSeg ext arg ms = .indexed (subOf arg ms) := by
  unfold compileSeg
  dsimp only
  split
  · split
    · exact Or.inl rfl
    · exact Or.inr rfl
  · exact Or.inl rfl

theorem compileSeg_chain (ext : Bool) (arg : Nat) (ms : List (Nat × Head)) :
    (compileSeg ext arg ms).chain = ms.map (·.1) := by
  rcases compileSeg_eq ext arg ms with h | h <;> rw [h] <;> rfl

theorem compileSeg_allvar (ext : Bool) (arg : Nat) (ms : List (Nat × Head))
    (h : ∀ m, m ∈ ms → firstInst m.2 = none) : compileSeg ext arg ms = .plain (ms.map (·.1)) := by
  have hv : ∀ m, m ∈ ms → argAt m.2 arg = .var := fun m hm => firstInstFrom_none m.2 0 (h m hm) arg
  have := collect_allvar arg ms Offsets.empty hv
  unfold collect at this
  unfold compileSeg
  simp only [this]
  simp [Offsets.noIndices, Offsets.empty]

theorem slotInv_collect {κ : Type} [DecidableEq κ] (hd : Nat → Head) (alive : Nat → Bool) (arg : Nat)
    (ms : List (Nat × Head)) (keys : FirstArg → List κ) (G : List (κ × List Nat)) (hne : GNE G)
    (hG : ∀ k, ∃ p : Nat × Head → Bool, (∀ m, p m = true ↔ k ∈ keys (argAt m.2 arg)) ∧
      glookup G k = (ms.filter p).map (·.1))
    (hhd : ∀ m, m ∈ ms → hd m.1 = m.2) (hnd : ∀ fa, (keys fa).Nodup) :
    SlotInv (ms.map (·.1)) alive (fun id => keys (argAt (hd id) arg)) (switchOn G) := by
  refine slotInv_switchOn _ _ _ _ hne (fun k => ?_) (fun id hi k hk => ?_) (fun _ _ => hnd _)
  · obtain ⟨p, _, e⟩ := hG k
    rw [e]; exact List.Sublist.map _ List.filter_sublist
  · obtain ⟨m, hm, rfl⟩ := List.mem_map.1 hi
    obtain ⟨p, hp, e⟩ := hG k
    rw [hhd m hm] at hk
    rw [e]; exact List.mem_map.2 ⟨m, List.mem_filter.2 ⟨hm, (hp m).2 hk⟩, rfl⟩

/-- **the index code `compile_pred_subseq` emits for a run of clauses that all have their first
non-variable argument at `arg` satisfies the subsequence invariant.** -/
theorem compileSeg_inv (hd : Nat → Head) (alive : Nat → Bool) (ext : Bool) (arg : Nat)
    (ms : List (Nat × Head)) (sub : Sub)
    (hhd : ∀ m, m ∈ ms → hd m.1 = m.2) (harg : ∀ m, m ∈ ms → firstInst m.2 = some arg)
    (hs : compileSeg ext arg ms = .indexed sub) : SubInv hd alive sub := by
  obtain rfl : subOf arg ms = sub := by
    rcases compileSeg_eq ext arg ms with h | h <;> rw [h] at hs
    · cases hs
    · exact Seg.indexed.inj hs
  have hgne := collect_gne arg ms Offsets.empty (fun _ hp => nomatch hp) (fun _ hp => nomatch hp)
  have hcs (k : CKey) := collect_obs (glookup ·.consts k) (k ∈ ckeys ·) (indexTerm_consts · · · k)
    arg ms Offsets.empty
  have hss (k : String × Nat) := collect_obs (glookup ·.structs k) (k ∈ skeys ·)
    (indexTerm_structs · · · k) arg ms Offsets.empty
  have hls (o : Offsets) : (collect arg ms o).lists = o.lists ++ _ :=
    collect_obs (·.lists) (· = .list) indexTerm_lists arg ms o
  refine ⟨slotInv_collect hd alive arg ms ckeys _ hgne.1
      (fun k => ⟨_, fun _ => decide_eq_true_iff, hcs k⟩) hhd ckeys_nodup,
    slotInv_collect hd alive arg ms skeys _ hgne.2
      (fun k => ⟨_, fun _ => decide_eq_true_iff, hss k⟩) hhd skeys_nodup,
    ?_, fun id hi _ hl => ?_, fun id hi => ?_⟩
  · simp only [PtrOK, subOf, switchOnList_ids, hls, Offsets.empty, List.nil_append]
    exact List.Sublist.map _ List.filter_sublist
  · obtain ⟨m, hm, rfl⟩ := List.mem_map.1 hi
    rw [hhd m hm] at hl
    simp only [subOf, switchOnList_ids, hls, Offsets.empty, List.nil_append]
    exact List.mem_map.2 ⟨m, List.mem_filter.2 ⟨hm, decide_eq_true hl⟩, rfl⟩
  · obtain ⟨m, hm, rfl⟩ := List.mem_map.1 hi
    rw [hhd m hm]; exact harg m hm

/-! ### `split_predicate` -/

/-- the spans tile `[a, b)`, left to right, and none is empty. -/
def Tiles : List Span → Nat → Nat → Prop
  | [], a, b => a = b
  | sp :: r, a, b => sp.left = a ∧ sp.left < sp.right ∧ Tiles r sp.right b

theorem Tiles.append {s1 s2 : List Span} {a b c : Nat} (h1 : Tiles s1 a b) (h2 : Tiles s2 b c) :
    Tiles (s1 ++ s2) a c := by
  induction s1 generalizing a with
  | nil => simp only [Tiles] at h1; subst h1; simpa using h2
  | cons sp r ih => exact ⟨h1.1, h1.2.1, ih h1.2.2⟩

theorem Tiles.snoc {s : List Span} {a l r : Nat} (o : Nat) (h1 : Tiles s a l) (h : l < r) :
    Tiles (s ++ [⟨l, r, o⟩]) a r :=
  h1.append ⟨rfl, h, rfl⟩

theorem Tiles.le {s : List Span} {a b : Nat} (h : Tiles s a b) : a ≤ b := by
  induction s generalizing a with
  | nil => exact Nat.le_of_eq h
  | cons sp r ih => exact h.1 ▸ Nat.le_trans (Nat.le_of_lt h.2.1) (ih h.2.2)

theorem take_drop_glue {α : Type} (l : List α) (a r b : Nat) (h1 : a ≤ r) (h2 : r ≤ b) :
    (l.drop a).take (r - a) ++ (l.drop r).take (b - r) = (l.drop a).take (b - a) := by
  obtain ⟨x, rfl⟩ := Nat.exists_eq_add_of_le h1
  obtain ⟨y, rfl⟩ := Nat.exists_eq_add_of_le h2
  rw [Nat.add_sub_cancel_left, Nat.add_sub_cancel_left, Nat.add_assoc, Nat.add_sub_cancel_left,
    List.take_add, List.drop_drop]

theorem Tiles.flatMap {α : Type} (l : List α) {s : List Span} {a b : Nat} (h : Tiles s a b) :
    s.flatMap (fun sp => (l.drop sp.left).take (sp.right - sp.left)) = (l.drop a).take (b - a) := by
  induction s generalizing a with
  | nil => simp only [Tiles] at h; subst h; simp
  | cons sp r ih =>
    obtain ⟨e, hlt, ht⟩ := h
    subst e
    rw [List.flatMap_cons, ih ht]
    exact take_drop_glue l _ _ _ (Nat.le_of_lt hlt) ht.le

/-- clauses `a ≤ j < b` of the predicate all have `firstInst = v`. -/
def Run (cs : List Head) (a b : Nat) (v : Option Nat) : Prop :=
  ∀ j, a ≤ j → j < b → (cs[j]?).map firstInst = some v

theorem Run.single {cs : List Head} {r : Nat} {v : Option Nat}
    (h : (cs[r]?).map firstInst = some v) : Run cs r (r + 1) v := fun j h1 h2 => by
  rwa [Nat.le_antisymm (Nat.le_of_lt_succ h2) h1]

theorem Run.snoc {cs : List Head} {a r : Nat} {v : Option Nat} (h : Run cs a r v)
    (hn : (cs[r]?).map firstInst = some v) : Run cs a (r + 1) v := fun j h1 h2 => by
  rcases Nat.lt_or_ge j r with h' | h'
  · exact h j h1 h'
  · rwa [Nat.le_antisymm (Nat.le_of_lt_succ h2) h']

/-- the clauses of a span all have their first non-variable argument at `sp.arg`, or none has a
non-variable argument. -/
def SpanOK (cs : List Head) (sp : Span) : Prop :=
  Run cs sp.left sp.right (some sp.arg) ∨ Run cs sp.left sp.right none

/-- the subsequences `split_predicate` has closed so far tile `[0, left)`, each of them well formed. -/
structure Closed (cs : List Head) (acc : List Span) (left : Nat) : Prop where
  tiles : Tiles acc 0 left
  ok : ∀ sp, sp ∈ acc → SpanOK cs sp

theorem Closed.snoc {cs : List Head} {acc : List Span} {left right : Nat} (h : Closed cs acc left)
    (hlt : left < right) (arg : Nat) (hok : SpanOK cs ⟨left, right, arg⟩) :
    Closed cs (acc ++ [⟨left, right, arg⟩]) right :=
  ⟨h.tiles.snoc arg hlt, fun sp hsp => by
    rcases List.mem_append.1 hsp with h' | h'
    · exact h.ok sp h'
    · rw [List.mem_singleton.1 h']; exact hok⟩

theorem Closed.close {cs : List Head} {acc : List Span} {left right opt : Nat} (h : Closed cs acc left)
    (hl : left ≤ right) (hrun : Run cs left right (some opt)) :
    Closed cs (if left < right then acc ++ [⟨left, right, opt⟩] else acc) right := by
  split
  · next hlt => exact h.snoc hlt opt (Or.inl hrun)
  · next hge => rwa [← Nat.le_antisymm hl (Nat.not_lt.1 hge)]

theorem splitGo_spec (cs : List Head) (rest : List Head) (right left opt : Nat) (acc : List Span)
    (hrest : cs.drop right = rest) (hr : right ≤ cs.length) (hl : left ≤ right)
    (hc : Closed cs acc left) (hrun : Run cs left right (some opt)) :
    Closed cs (splitGo rest right left opt acc) cs.length := by
  induction rest generalizing right left opt acc with
  | nil =>
    rw [← Nat.le_antisymm hr (List.drop_eq_nil_iff.1 hrest)]
    exact hc.close hl hrun
  | cons h rest' ih =>
    have hget : cs[right]? = some h := by
      rw [← Nat.add_zero right, ← List.getElem?_drop, hrest]; rfl
    have hrest' : cs.drop (right + 1) = rest' := by
      rw [← List.drop_drop, hrest]; rfl
    have hlt : right + 1 ≤ cs.length := (List.getElem?_eq_some_iff.1 hget).1
    have hnew : (cs[right]?).map firstInst = some (firstInst h) := by rw [hget]; rfl
    rw [splitGo]
    cases hfi : firstInst h with
    | some i =>
      rw [hfi] at hnew
      dsimp only
      -- `opt ≠ i`, then `left ≥ right`, as in `splitGo`
      split
      · split
        · next hge =>
          -- the open subsequence is empty: it restarts here with the new position
          obtain rfl : left = right := Nat.le_antisymm hl hge
          exact ih (left + 1) left i acc hrest' hlt (Nat.le_succ _) hc (Run.single hnew)
        · next hlt' =>
          -- a new position closes the open subsequence `[left, right)`
          exact ih (right + 1) right i _ hrest' hlt (Nat.le_succ _)
            (hc.snoc (Nat.not_le.1 hlt') opt (Or.inl hrun)) (Run.single hnew)
      · next he =>
        -- the same position: the open subsequence grows by this clause
        rw [Decidable.not_not.1 he] at hrun ⊢
        exact ih (right + 1) left i acc hrest' hlt (Nat.le_succ_of_le hl) hc (hrun.snoc hnew)
    | none =>
      -- an all-variable clause closes the open subsequence and is a span of its own
      rw [hfi] at hnew
      exact ih (right + 1) (right + 1) 0 _ hrest' hlt (Nat.le_refl _)
        ((hc.close hl hrun).snoc (Nat.lt_succ_self _) 0 (Or.inr (Run.single hnew)))
        (fun _ h1 h2 => absurd h1 (Nat.not_le.2 h2))

theorem split_spec (cs : List Head) : Closed cs (split cs) cs.length :=
  splitGo_spec cs cs 0 0 0 [] rfl (Nat.zero_le _) (Nat.le_refl _) ⟨rfl, fun _ h => nomatch h⟩
    (fun _ h1 h2 => absurd h1 (Nat.not_le.2 h2))

/-! ### `compile_predicate` -/

theorem enumFrom'_length (n : Nat) (cs : List Head) : (enumFrom' n cs).length = cs.length := by
  induction cs generalizing n with
  | nil => rfl
  | cons h r ih => simp [enumFrom', ih]

theorem enumFrom'_getElem? (n : Nat) (cs : List Head) (i : Nat) :
    (enumFrom' n cs)[i]? = (cs[i]?).map (fun h => (n + i, h)) := by
  induction cs generalizing n i with
  | nil => simp [enumFrom']
  | cons h r ih =>
    cases i with
    | zero => simp [enumFrom']
    | succ i =>
      simp only [enumFrom', List.getElem?_cons_succ, ih]
      rw [Nat.add_right_comm n 1 i]; rfl

theorem enumFrom'_map_fst (n : Nat) (cs : List Head) :
    (enumFrom' n cs).map (·.1) = List.range' n cs.length := by
  induction cs generalizing n with
  | nil => rfl
  | cons h r ih => simp [enumFrom', ih, List.range'_succ]

theorem map_range'_eq_enumFrom' (n : Nat) (cs : List Head) (f : Nat → Head)
    (hf : ∀ i (h : i < cs.length), f (n + i) = cs[i]) :
    (List.range' n cs.length).map (fun id => (id, f id)) = enumFrom' n cs := by
  induction cs generalizing n with
  | nil => rfl
  | cons x r ih =>
    have h0 : f n = x := hf 0 (Nat.zero_lt_succ _)
    rw [List.length_cons, List.range'_succ, List.map_cons, enumFrom', h0,
      ih (n + 1) fun i h => by
        rw [Nat.add_assoc, Nat.add_comm 1 i]; exact hf (i + 1) (Nat.succ_lt_succ h)]

theorem headOf_enumFrom' (n : Nat) (cs : List Head) (i : Nat) :
    headOf (enumFrom' n cs) (n + i) = cs[i]? := by
  induction cs generalizing n i with
  | nil => simp [enumFrom', headOf]
  | cons h r ih =>
    cases i with
    | zero => simp [enumFrom', headOf]
    | succ i =>
      have e : n + (i + 1) = n + 1 + i := (Nat.add_right_comm n 1 i).symm
      have ne : ¬ n = n + 1 + i :=
        Nat.ne_of_lt (Nat.lt_of_lt_of_le (Nat.lt_succ_self n) (Nat.le_add_right _ _))
      simp only [enumFrom', headOf, e, ne, if_false, ih, List.getElem?_cons_succ]

theorem mem_spanMembers (cs : List Head) (sp : Span) (m : Nat × Head)
    (hm : m ∈ spanMembers (enumFrom' 0 cs) sp) :
    ∃ j, sp.left ≤ j ∧ j < sp.right ∧ cs[j]? = some m.2 ∧ m.1 = j := by
  unfold spanMembers at hm
  obtain ⟨i, hi⟩ := List.mem_iff_getElem?.1 hm
  rw [List.getElem?_take] at hi
  split at hi
  · rename_i hlt
    rw [List.getElem?_drop, enumFrom'_getElem?] at hi
    cases hc : cs[sp.left + i]? with
    | none => simp [hc] at hi
    | some h =>
      simp only [hc, Option.map_some, Option.some.injEq] at hi
      subst hi
      exact ⟨sp.left + i, Nat.le_add_right _ _, Nat.add_lt_of_lt_sub' hlt, hc, Nat.zero_add _⟩
  · cases hi

theorem Run.members {cs : List Head} {sp : Span} {v : Option Nat} (h : Run cs sp.left sp.right v)
    (m : Nat × Head) (hm : m ∈ spanMembers (enumFrom' 0 cs) sp) : firstInst m.2 = v := by
  obtain ⟨j, h1, h2, hj, _⟩ := mem_spanMembers cs sp m hm
  have := h j h1 h2
  rw [hj] at this
  exact Option.some.inj this

theorem build_order (ext : Bool) (cs : List Head) :
    (build ext cs).order = List.range cs.length := by
  have ht := (split_spec cs).tiles
  unfold Index.order build
  simp only [List.flatMap_map, compileSeg_chain]
  rw [← List.map_flatMap]
  have := ht.flatMap (enumFrom' 0 cs)
  unfold spanMembers
  rw [this]
  simp [← enumFrom'_length 0 cs, enumFrom'_map_fst, List.range_eq_range']

theorem build_alive (ext : Bool) (cs : List Head) (id : Nat) : (build ext cs).alive id = true := by
  simp [Index.alive, build]

theorem hd_build_getD (ext : Bool) (cs : List Head) (i : Nat) :
    (build ext cs).hd i = (cs[i]?).getD [] := by
  have := headOf_enumFrom' 0 cs i
  simp only [Nat.zero_add] at this
  simp [Index.hd, build, this]

theorem inv_build (ext : Bool) (cs : List Head) : Inv (build ext cs) := by
  refine ⟨?_, ?_, ?_, ?_, ?_⟩
  · rw [build_order]; exact List.nodup_range
  · intro id hi
    rw [build_order] at hi
    simpa [build] using hi
  · intro p hp
    have : p.1 ∈ (enumFrom' 0 cs).map (·.1) := List.mem_map.2 ⟨p, hp, rfl⟩
    rw [enumFrom'_map_fst] at this
    simpa [build] using this
  · intro id hi; simp [build] at hi
  · intro sub hs
    have hs' : Seg.indexed sub ∈ (split cs).map
        (fun sp => compileSeg ext sp.arg (spanMembers (enumFrom' 0 cs) sp)) := hs
    obtain ⟨sp, hsp, e⟩ := List.mem_map.1 hs'
    rcases (split_spec cs).ok sp hsp with hok | hok
    · refine compileSeg_inv _ _ ext sp.arg _ sub (fun m hm => ?_) hok.members e
      obtain ⟨j, _, _, hj, ej⟩ := mem_spanMembers cs sp m hm
      rw [hd_build_getD, ej, hj]; rfl
    · rw [compileSeg_allvar ext sp.arg _ hok.members] at e
      cases e

theorem live_build (ext : Bool) (cs : List Head) :
    (build ext cs).live = List.range cs.length := by
  unfold Index.live
  rw [build_order]
  simp [build_alive]

theorem live_empty : (build true []).live = [] := live_build true []

theorem hd_build (ext : Bool) (cs : List Head) (i : Nat) (h : i < cs.length) :
    (build ext cs).hd i = cs[i] := by
  rw [hd_build_getD]; simp [h]

/-- **property C06 for consulted (and initial dynamic) code**: the clauses the index hands over,
filtered by head unification, are exactly the clauses whose head unifies, in textual order. -/
theorem build_select_exact (ext : Bool) (cs : List Head) (call : Call) (wf : CallWF call) :
    (select (build ext cs) call).filter (fun id => compatHead ((build ext cs).hd id) call)
      = (List.range cs.length).filter (fun id => compatHead ((build ext cs).hd id) call) := by
  rw [← live_build ext cs]
  exact (inv_build ext cs).select_exact call wf

end Scryer.Index
