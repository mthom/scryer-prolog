import ScryerModel.Model.Heap
import ScryerModel.Model.PStr
/-!
Capacity invariant of the heap model (C33). Every operation is a run of consecutive writes
(`Writes`) logged with one region, from the end of the live bytes to a position the operation has
made sure lies inside the region; `Writes.close` turns that into the invariant, once for all
operations. A writer into a reserved section is described by `Wrote n`: the run it adds together
with a bound on the cells it fills, which is what `reserve(n)` needs to know of it. What
`compute_pstr_size` counts and what `push_pstr` writes are compared round by round of the size loop
(`cps_rec`).
-/
namespace Scryer.Heap
open Scryer.PStr (segCells)

/-! ## index arithmetic -/

theorem sentinel_eq (n : Nat) : pstrSentinelLength n = 8 - n % 8 := by
  have := Nat.mod_lt n (show 0 < 8 by decide)
  unfold pstrSentinelLength nextMultipleOf8
  by_cases h : n % 8 = 0
  · simp only [h, if_true, Nat.sub_self]
  · simp only [h, if_false, Nat.add_sub_cancel_left]
    rw [if_neg (by omega)]

/-- the sentinel ends at the next cell boundary strictly behind the zero byte. -/
theorem sentinel_end (z : Nat) : z + pstrSentinelLength z = 8 * (z / 8 + 1) := by
  rw [sentinel_eq]; omega

theorem sentinel_aligns (n : Nat) : (n + pstrSentinelLength n) % 8 = 0 := by
  rw [sentinel_end]; exact Nat.mul_mod_right _ _

theorem sentinel_shift (c n : Nat) : pstrSentinelLength (heapIndex c + n) = pstrSentinelLength n := by
  rw [sentinel_eq, sentinel_eq, heapIndex, Nat.add_comm, Nat.add_mul_mod_self_right]

theorem sentinel_eq_one (n : Nat) : pstrSentinelLength n = 1 ↔ n % 8 = 7 := by
  rw [sentinel_eq]; omega

theorem sentinel_le_one (n : Nat) : pstrSentinelLength n ≤ 1 ↔ n % 8 = 7 := by
  rw [sentinel_eq]; omega

theorem nextMultipleOf8_of_aligned {n : Nat} (h : n % 8 = 0) : nextMultipleOf8 n = n := if_pos h

theorem nextMultipleOf8_eq (n : Nat) : nextMultipleOf8 n = (n + 7) / 8 * 8 := by
  unfold nextMultipleOf8; split <;> omega

/-- a segment of `L` text bytes, its sentinel and the zero cell behind a one-byte sentinel fill
`segCells L` cells. -/
theorem seg_span (L : Nat) :
    L + pstrSentinelLength L + (if pstrSentinelLength L = 1 then 8 else 0) = 8 * segCells L := by
  unfold segCells
  simp only [sentinel_eq_one]
  rw [sentinel_end]
  split <;> omega

theorem segCells_pos (L : Nat) : 1 ≤ segCells L := by unfold segCells; split <;> omega

theorem segCells_le {n : Nat} (h : 1 ≤ n) : segCells n ≤ 2 * n := by unfold segCells; split <;> omega

theorem pstrTailIdx_eq (z : Nat) : pstrTailIdx z = z / 8 + if z % 8 = 7 then 2 else 1 := by
  have := Nat.mod_lt z (show 0 < 8 by decide)
  rw [pstrTailIdx, cellIndex, Nat.add_mod]
  split <;> split <;> first | rfl | omega

/-- the cell right behind a segment of `L` text bytes laid out at cell `c`. -/
theorem segCells_eq_pstrTailIdx (c L : Nat) : c + segCells L = pstrTailIdx (8 * c + L) := by
  rw [pstrTailIdx_eq, Nat.mul_add_mod, Nat.mul_add_div (by decide), segCells]
  split <;> rfl

/-- rounding up what is left of `a` cells behind byte `loc`. -/
theorem round_up {loc x a : Nat} (h : loc + x = 8 * a) : (x + 7) / 8 = a - loc / 8 := by omega

/-- **tail cell arithmetic** of `scan_slice_to_str`, for a slice that starts at ANY byte `loc` and has its zero byte
`n` bytes on: the cell index computed from the address of the zero byte is the one `pstr_tail_idx` gives for that
byte. The bytes from `loc` to the end of the sentinel reach the next cell boundary behind the zero byte. -/
theorem scan_formula (loc n : Nat) :
    cellIndex loc + cellIndex (nextMultipleOf8 (n + pstrSentinelLength (loc + n)) +
      if pstrSentinelLength (loc + n) ≤ 1 then heapIndex 1 else 0) = pstrTailIdx (loc + n) := by
  have hz : loc + (n + pstrSentinelLength (loc + n)) = 8 * ((loc + n) / 8 + 1) :=
    (Nat.add_assoc _ _ _).symm.trans (sentinel_end _)
  have hle : loc / 8 ≤ (loc + n) / 8 + 1 := Nat.div_le_of_le_mul (hz ▸ Nat.le_add_right _ _)
  rw [pstrTailIdx_eq, nextMultipleOf8_eq, round_up hz, cellIndex, cellIndex, Nat.mul_comm,
    Nat.mul_add_div (by decide), ← Nat.add_assoc, Nat.add_sub_cancel' hle, Nat.add_assoc]
  simp only [sentinel_le_one]
  split <;> rfl

theorem heapIndex_add (a b : Nat) : heapIndex (a + b) = heapIndex a + heapIndex b := Nat.add_mul a b 8

theorem heapIndex_cellIndex {n : Nat} (h : n % 8 = 0) : heapIndex (cellIndex n) = n :=
  Nat.div_mul_cancel (Nat.dvd_of_mod_eq_zero h)

theorem heapIndex_mod (n : Nat) : heapIndex n % 8 = 0 := Nat.mul_mod_left n 8

theorem cellIndex_mul (k : Nat) : cellIndex (8 * k) = k := Nat.mul_div_cancel_left k (by decide)

theorem aligned_lt {a b : Nat} (ha : a % 8 = 0) (hb : b % 8 = 0) (h : a < b) : a + 8 ≤ b := by omega

theorem add_mod8 {a b : Nat} (ha : a % 8 = 0) (hb : b % 8 = 0) : (a + b) % 8 = 0 := by
  rw [Nat.add_mod, ha, hb]

/-! ## memory -/

theorem put_length (mem : List MByte) (off : Nat) (bs : List MByte) :
    (put mem off bs).length = off + bs.length := by
  rw [put, List.length_append, List.length_append, List.length_take, List.length_replicate]
  omega

theorem put_append (mem : List MByte) (bs : List MByte) : put mem mem.length bs = mem ++ bs := by
  unfold put; simp

@[simp] theorem zeros_length (n : Nat) : (zeros n).length = n := List.length_replicate
@[simp] theorem encodeCell_length (c : Cell) : (encodeCell c).length = 8 := rfl

@[simp] theorem write_cap (h : Heap) (off : Nat) (bs : List MByte) (lo hi : Nat) :
    (h.write off bs lo hi).cap = h.cap := rfl
@[simp] theorem write_len (h : Heap) (off : Nat) (bs : List MByte) (lo hi : Nat) :
    (h.write off bs lo hi).len = h.len := rfl
@[simp] theorem write_budget (h : Heap) (off : Nat) (bs : List MByte) (lo hi : Nat) :
    (h.write off bs lo hi).budget = h.budget := rfl
theorem write_log (h : Heap) (off : Nat) (bs : List MByte) (lo hi : Nat) :
    (h.write off bs lo hi).log = ⟨off, bs.length, lo, hi, h.cap⟩ :: h.log := rfl
theorem write_mem (h : Heap) (off : Nat) (bs : List MByte) (lo hi : Nat) :
    (h.write off bs lo hi).mem = put h.mem off bs := rfl

/-! ## the invariant -/

structure Inv (h : Heap) : Prop where
  len_le : h.len ≤ h.cap
  len8 : h.len % 8 = 0
  cap8 : h.cap % 8 = 0
  capMax : h.cap ≤ isizeMax
  memLen : h.mem.length = h.len
  logOk : ∀ w ∈ h.log, w.ok

theorem cellLen_heapIndex {h : Heap} (i : Inv h) : heapIndex h.cellLen = h.len :=
  heapIndex_cellIndex i.len8

/-! ## runs of writes -/

/-- `h1`, written up to `pos1`, arises from `h`, written up to `pos`, by consecutive writes, each
logged with the region `[lo, hi)`. -/
inductive Writes (lo hi : Nat) (h : Heap) (pos : Nat) : Heap → Nat → Prop
  | refl : Writes lo hi h pos h pos
  | write {h1 : Heap} {pos1 : Nat} (bs : List MByte) : Writes lo hi h pos h1 pos1 →
      Writes lo hi h pos (h1.write pos1 bs lo hi) (pos1 + bs.length)

namespace Writes
variable {lo hi : Nat} {h h1 h2 : Heap} {pos pos1 pos2 : Nat}

/-- `write` for an offset and an end position that are only provably the expected ones. -/
theorem step (w : Writes lo hi h pos h1 pos1) {off : Nat} (bs : List MByte)
    (hoff : off = pos1) (hpos : pos2 = pos1 + bs.length) :
    Writes lo hi h pos (h1.write off bs lo hi) pos2 := by
  subst hoff hpos; exact .write bs w

theorem trans (w1 : Writes lo hi h pos h1 pos1) (w2 : Writes lo hi h1 pos1 h2 pos2) :
    Writes lo hi h pos h2 pos2 := by
  induction w2 with
  | refl => exact w1
  | write bs _ ih => exact .write bs ih

theorem le (w : Writes lo hi h pos h1 pos1) : pos ≤ pos1 := by
  induction w with
  | refl => exact Nat.le_refl _
  | write bs _ ih => exact Nat.le_trans ih (Nat.le_add_right _ _)

theorem cap_eq (w : Writes lo hi h pos h1 pos1) : h1.cap = h.cap := by
  induction w with
  | refl => rfl
  | write bs _ ih => exact ih

theorem memLen (w : Writes lo hi h pos h1 pos1) (hm : h.mem.length = pos) : h1.mem.length = pos1 := by
  induction w with
  | refl => exact hm
  | write bs _ _ => exact put_length _ _ _

theorem log (w : Writes lo hi h pos h1 pos1) : ∀ x ∈ h1.log,
    x ∈ h.log ∨ (x.lo = lo ∧ x.hi = hi ∧ x.cap = h.cap ∧ pos ≤ x.off ∧ x.off + x.size ≤ pos1) := by
  induction w with
  | refl => exact fun x hx => Or.inl hx
  | write bs w1 ih =>
    intro x hx
    rcases List.mem_cons.mp hx with rfl | hx
    · exact Or.inr ⟨rfl, rfl, w1.cap_eq, w1.le, Nat.le_refl _⟩
    · rcases ih x hx with o | ⟨a, b, c, d, e⟩
      · exact Or.inl o
      · exact Or.inr ⟨a, b, c, d, Nat.le_trans e (Nat.le_add_right _ _)⟩

/-- **the shape all operations share**: writes from `byte_len` on, in a region inside
`[byte_len, byte_cap)`, ending cell-aligned inside the region, then `byte_len` set to the end. -/
theorem close (w : Writes lo hi h pos h1 pos1) (i : Inv h) (hpos : pos = h.len) (hlo : lo ≤ h.len)
    (hhi : pos1 ≤ hi) (hcap : hi ≤ h.cap) (h8 : pos1 % 8 = 0) : Inv { h1 with len := pos1 } where
  len_le := by show pos1 ≤ h1.cap; rw [w.cap_eq]; exact Nat.le_trans hhi hcap
  len8 := h8
  cap8 := by show h1.cap % 8 = 0; rw [w.cap_eq]; exact i.cap8
  capMax := by show h1.cap ≤ isizeMax; rw [w.cap_eq]; exact i.capMax
  memLen := w.memLen (i.memLen.trans hpos.symm)
  logOk := fun x hx => by
    rcases w.log x hx with o | ⟨a, b, c, d, e⟩
    · exact i.logOk x o
    · exact ⟨by rw [a]; exact Nat.le_trans hlo (hpos ▸ d), by rw [b]; exact Nat.le_trans e hhi,
        by rw [b, c]; exact hcap⟩

end Writes

/-! ## sections -/

/-- `s'` arises from `s` by writes of the section. -/
structure SecStep (s s' : Section) : Prop where
  lo_eq : s'.lo = s.lo
  hi_eq : s'.hi = s.hi
  writes : Writes s.lo s.hi s.h (heapIndex s.cellLen) s'.h (heapIndex s'.cellLen)

theorem SecStep.refl (s : Section) : SecStep s s := ⟨rfl, rfl, .refl⟩

theorem SecStep.trans {a b c : Section} (h1 : SecStep a b) (h2 : SecStep b c) : SecStep a c :=
  ⟨h2.lo_eq.trans h1.lo_eq, h2.hi_eq.trans h1.hi_eq,
    h1.writes.trans (h1.lo_eq ▸ h1.hi_eq ▸ h2.writes)⟩

theorem SecStep.logNew {s s' : Section} (st : SecStep s s') :
    ∀ w ∈ s'.h.log, w ∈ s.h.log ∨ (w.lo = s.lo ∧ w.hi = s.hi) := fun w hw =>
  (st.writes.log w hw).imp_right fun n => ⟨n.1, n.2.1⟩

/-- `s'` arises from `s` by writes of the section that fill at most `n` cells: what `reserve(n)`
asks of the writer it is followed by. Counts add up along `trans`. -/
structure Wrote (n : Nat) (s s' : Section) : Prop where
  step : SecStep s s'
  cells : s'.cellLen ≤ s.cellLen + n

namespace Wrote
variable {m n : Nat} {a b c : Section}

theorem refl (s : Section) : Wrote n s s := ⟨.refl s, Nat.le_add_right _ _⟩

theorem trans (h1 : Wrote m a b) (h2 : Wrote n b c) : Wrote (m + n) a c :=
  ⟨h1.step.trans h2.step, Nat.le_trans h2.cells (Nat.add_assoc .. ▸ Nat.add_le_add_right h1.cells n)⟩

theorem mono (h : Wrote m a b) (hmn : m ≤ n) : Wrote n a b :=
  ⟨h.step, Nat.le_trans h.cells (Nat.add_le_add_left hmn _)⟩

end Wrote

@[simp] theorem pushCell_cellLen (s : Section) (c : Cell) : (s.pushCell c).cellLen = s.cellLen + 1 := rfl

theorem pushCell_wrote (s : Section) (c : Cell) : Wrote 1 s (s.pushCell c) :=
  ⟨⟨rfl, rfl, Writes.refl.step _ rfl (heapIndex_add _ 1)⟩, Nat.le_refl _⟩

/-- `cells_written` is `segCells`. -/
theorem pushPstrSegment_cellLen (s : Section) (src : List Nat) (hne : src ≠ []) :
    (s.pushPstrSegment src).1.cellLen = s.cellLen + segCells src.length := by
  have span := seg_span src.length
  unfold Section.pushPstrSegment
  rw [if_neg (by simpa using hne)]
  dsimp only
  rw [sentinel_shift]
  split <;> rename_i h1
  · rw [if_pos h1] at span; rw [span, cellIndex_mul]
  · rw [if_neg h1, Nat.add_zero] at span; rw [span, cellIndex_mul]

theorem pushPstrSegment_wrote (s : Section) (src : List Nat) :
    Wrote (segCells src.length) s (s.pushPstrSegment src).1 := by
  by_cases hne : src = []
  · subst hne; exact Wrote.refl s
  refine ⟨?_, Nat.le_of_eq (pushPstrSegment_cellLen s src hne)⟩
  unfold Section.pushPstrSegment
  rw [if_neg (by simpa using hne)]
  dsimp only
  rw [sentinel_shift]
  have al := sentinel_aligns src.length
  have w2 := (Writes.refl (lo := s.lo) (hi := s.hi) (h := s.h) (pos := heapIndex s.cellLen)).step
    (src.map .data) rfl rfl |>.step (zeros (pstrSentinelLength src.length)) rfl rfl
  rw [List.length_map, zeros_length] at w2
  split <;> rename_i h1
  · refine ⟨rfl, rfl, w2.step (zeros 8) (by rw [h1]) ?_⟩
    rw [heapIndex_add, heapIndex_cellIndex (by omega), zeros_length]
    omega
  · refine ⟨rfl, rfl, ?_⟩
    rw [heapIndex_add, heapIndex_cellIndex al, ← Nat.add_assoc]
    exact w2

theorem linkOrFirst_wrote (s : Section) (ret : Option Cell) (link first : Cell) :
    Wrote 1 s (s.linkOrFirst ret link first).1 := by
  cases ret with
  | none => exact Wrote.refl s
  | some r => exact pushCell_wrote s link

/-! ## the two string loops -/

theorem findNul_some {src : List Nat} {i : Nat} (h : findNul src = some i) :
    i < src.length ∧ src.drop i = 0 :: src.drop (i + 1) ∧ ∀ b ∈ src.take i, b ≠ 0 := by
  induction src generalizing i with
  | nil => cases h
  | cons b r ih =>
    rw [findNul] at h
    split at h
    · cases h
      subst b
      exact ⟨Nat.succ_pos _, rfl, fun _ hx => nomatch hx⟩
    · obtain ⟨j, hf, rfl⟩ := Option.map_eq_some_iff.mp h
      obtain ⟨lt, dr, nz⟩ := ih hf
      exact ⟨Nat.succ_lt_succ lt, dr, List.forall_mem_cons.mpr ⟨‹_›, nz⟩⟩

theorem findNul_none {src : List Nat} (h : findNul src = none) : ∀ b ∈ src, b ≠ 0 := by
  induction src with
  | nil => exact fun _ hx => nomatch hx
  | cons b r ih =>
    rw [findNul] at h
    split at h
    · cases h
    · exact List.forall_mem_cons.mpr ⟨‹_›, ih (Option.map_eq_none_iff.mp h)⟩

theorem scanFromStart_fst (src : List Nat) : (scanFromStart src).1 = (findNul src).getD src.length := rfl

theorem scanFromStart_snd (src : List Nat) : (scanFromStart src).2 = segCells (scanFromStart src).1 := by
  have := (scan_formula 0 (scanFromStart src).1).trans (segCells_eq_pstrTailIdx 0 _).symm
  simp only [Nat.zero_add] at this
  exact (Nat.zero_add _).symm.trans this

theorem scanFromStart_fst_bounds {b : Nat} (rest : List Nat) (hb : b ≠ 0) :
    1 ≤ (scanFromStart (b :: rest)).1 ∧ (scanFromStart (b :: rest)).1 ≤ (b :: rest).length := by
  rw [scanFromStart_fst]
  cases hf : findNul (b :: rest) with
  | none => exact ⟨Nat.succ_pos _, Nat.le_refl _⟩
  | some idx =>
    have ⟨lt, dr, _⟩ := findNul_some hf
    -- at index 0 the zero byte found would be `b`
    exact ⟨Nat.pos_of_ne_zero fun h0 => hb (by subst h0; exact (List.cons.inj dr).1), Nat.le_of_lt lt⟩

theorem cps_cons (f acc b : Nat) (rest : List Nat) :
    computePstrSizeLoop (f + 1) acc (b :: rest) =
      if b = 0 then computePstrSizeLoop f (acc + heapIndex 2) rest
      else computePstrSizeLoop f (acc + heapIndex (scanFromStart (b :: rest)).2)
        ((b :: rest).drop (scanFromStart (b :: rest)).1) := rfl

theorem cps_acc (f : Nat) : ∀ (acc : Nat) (src : List Nat),
    computePstrSizeLoop f acc src = acc + computePstrSizeLoop f 0 src := by
  induction f with
  | zero => intro acc src; rfl
  | succ f ih =>
    intro acc src
    cases src with
    | nil => rfl
    | cons b rest =>
      rw [cps_cons, cps_cons]
      split <;> rw [ih, ih (0 + _), Nat.zero_add, Nat.add_assoc]

theorem cps_nul (f : Nat) (rest : List Nat) :
    computePstrSizeLoop (f + 1) 0 (0 :: rest) = 16 + computePstrSizeLoop f 0 rest := by
  rw [cps_cons, if_pos rfl, cps_acc]; rfl

theorem cps_seg (f : Nat) {b : Nat} (rest : List Nat) (hb : b ≠ 0) :
    computePstrSizeLoop (f + 1) 0 (b :: rest) =
      8 * segCells (scanFromStart (b :: rest)).1 +
        computePstrSizeLoop f 0 ((b :: rest).drop (scanFromStart (b :: rest)).1) := by
  rw [cps_cons, if_neg hb, cps_acc, scanFromStart_snd, Nat.zero_add, heapIndex, Nat.mul_comm]

theorem ppl_nul (f : Nat) (s : Section) (ret : Option Cell) (rest : List Nat) :
    pushPstrLoop (f + 1) s ret (0 :: rest) =
      let sr := s.linkOrFirst ret (.lis (s.cellLen + 1)) (.lis s.cellLen)
      pushPstrLoop f (sr.1.pushCell (.chr 0)) sr.2 rest := rfl

/-- `push_pstr` read in the rounds of `compute_pstr_size`: behind a segment the writer stands at the
zero byte with `ret` set, and the link and character cells it pushes there are those of the
zero-byte round (no fuel is spent on the segment). -/
theorem ppl_seg (f : Nat) (s : Section) (ret : Option Cell) {b : Nat} (rest : List Nat) (hb : b ≠ 0) :
    pushPstrLoop (f + 1) s ret (b :: rest) =
      let sr := s.linkOrFirst ret (.pstrLoc (heapIndex (s.cellLen + 1))) (.pstrLoc (heapIndex s.cellLen))
      pushPstrLoop (f + 1) (sr.1.pushPstrSegment ((b :: rest).take (scanFromStart (b :: rest)).1)).1 sr.2
        ((b :: rest).drop (scanFromStart (b :: rest)).1) := by
  rw [scanFromStart_fst, pushPstrLoop, if_neg hb]
  cases hf : findNul (b :: rest) with
  | none => rw [Option.getD_none, List.take_length, List.drop_length]; rfl
  | some idx =>
    rw [Option.getD_some, (findNul_some hf).2.1]
    cases ret <;> rfl

/-- induction along the rounds of `compute_pstr_size`: a zero byte counts 16, a maximal run of
`L ≥ 1` nonzero bytes `8 * segCells L`; the round after a run starts at its zero byte. -/
theorem cps_rec {P : List Nat → Nat → Prop} (nil : P [] 0)
    (nul : ∀ rest n, P rest n → P (0 :: rest) (16 + n))
    (seg : ∀ b rest n, b ≠ 0 → ∀ L, L = (scanFromStart (b :: rest)).1 → 1 ≤ L → L ≤ (b :: rest).length →
      P ((b :: rest).drop L) n → P (b :: rest) (8 * segCells L + n)) :
    ∀ (fc : Nat) (src : List Nat), src.length < fc → P src (computePstrSizeLoop fc 0 src) := by
  intro fc
  induction fc with
  | zero => exact fun src h => absurd h (Nat.not_lt_zero _)
  | succ fc ih =>
    intro src h
    cases src with
    | nil => exact nil
    | cons b rest =>
      by_cases hb : b = 0
      · subst hb
        exact cps_nul fc rest ▸ nul rest _ (ih rest (Nat.lt_of_succ_lt_succ h))
      · have hn := scanFromStart_fst_bounds rest hb
        exact cps_seg fc rest hb ▸ seg b rest _ hb _ rfl hn.1 hn.2 (ih _ (by
          rw [List.length_drop]; exact Nat.lt_of_lt_of_le (Nat.sub_lt_self hn.1 hn.2) (Nat.le_of_lt_succ h)))

/-- `push_pstr` writes at most a quarter as many cells as the size loop counts bytes, that is twice
the cells it counts, for any fuels that suffice: round by round of the size loop, in which `ppl_nul`
and `ppl_seg` read the writer.
The 4: the size loop does not count the link cell the writer puts in front of every item but the
first, so a final one-cell segment (8 bytes counted) stands for two cells written. -/
theorem pushPstrLoop_wrote (fc : Nat) (src : List Nat) (hc : src.length < fc) :
    ∀ (fp : Nat) (s : Section) (ret : Option Cell), src.length < fp →
      Wrote (computePstrSizeLoop fc 0 src / 4) s (pushPstrLoop fp s ret src).1 :=
  cps_rec (P := fun src n => ∀ fp s ret, src.length < fp → Wrote (n / 4) s (pushPstrLoop fp s ret src).1)
    (fun fp s ret _ => by cases fp <;> exact Wrote.refl s)
    (fun rest n ih fp s ret hp => by
      cases fp with
      | zero => exact absurd hp (Nat.not_lt_zero _)
      | succ fp =>
        rw [ppl_nul]
        exact (((linkOrFirst_wrote s ret _ _).trans (pushCell_wrote _ _)).trans
          (ih fp _ _ (Nat.lt_of_succ_lt_succ hp))).mono (by omega))
    (fun b rest n hb L hL h1 h2 ih fp s ret hp => by
      cases fp with
      | zero => exact absurd hp (Nat.not_lt_zero _)
      | succ fp =>
        subst hL
        rw [ppl_seg fp s ret rest hb]
        have seg := pushPstrSegment_wrote (s.linkOrFirst ret (.pstrLoc (heapIndex (s.cellLen + 1)))
          (.pstrLoc (heapIndex s.cellLen))).1 ((b :: rest).take (scanFromStart (b :: rest)).1)
        rw [List.length_take, Nat.min_eq_left h2] at seg
        have := segCells_pos (scanFromStart (b :: rest)).1
        exact (((linkOrFirst_wrote s ret _ _).trans seg).trans
          (ih (fp + 1) _ _ (by rw [List.length_drop]; omega))).mono (by omega))
    fc src hc

/-- the relation `allocate_pstr`/`allocate_cstr` rely on (they reserve the byte count as cells, eight
times too many): the `- 8` is the one tail cell, `heapIndex 1` bytes, that `compute_pstr_size` adds at
the end and `push_pstr` does not write. -/
theorem pushPstr_wrote (s : Section) (src : List Nat) :
    Wrote ((computePstrSize src - 8) / 4) s (s.pushPstr src).1 :=
  pushPstrLoop_wrote _ src (Nat.lt_succ_self _) _ s none (Nat.lt_succ_self _)

theorem cps_bound (fc : Nat) (src : List Nat) (h : src.length < fc) :
    computePstrSizeLoop fc 0 src ≤ 16 * src.length :=
  cps_rec (P := fun src n => n ≤ 16 * src.length) (Nat.le_refl _)
    (fun rest n ih => by rw [List.length_cons]; omega)
    (fun b rest n _ L _ h1 h2 ih => by
      have := segCells_le h1
      rw [List.length_drop] at ih
      rw [List.length_cons] at ih h2 ⊢
      omega) fc src h

/-! ## growing -/

/-- `h'` arises from `h` by zero or more successful grows only. -/
structure Grew (h h' : Heap) : Prop where
  len_eq : h'.len = h.len
  mem_eq : h'.mem = h.mem
  log_eq : h'.log = h.log
  cap_le : h.cap ≤ h'.cap
  inv : Inv h → Inv h'
  /-- with no grow allowed nothing has changed (`C33_failed_operation_unchanged`); the reason why
  `trans` asks for a budget that allows its first leg -/
  budget0 : h.budget = some 0 → h' = h

theorem Grew.refl (h : Heap) : Grew h h := ⟨rfl, rfl, rfl, Nat.le_refl _, id, fun _ => rfl⟩

theorem Grew.trans {a b c : Heap} (h1 : Grew a b) (h2 : Grew b c) (hb : a.budget ≠ some 0) :
    Grew a c :=
  ⟨h2.len_eq.trans h1.len_eq, h2.mem_eq.trans h1.mem_eq, h2.log_eq.trans h1.log_eq,
    Nat.le_trans h1.cap_le h2.cap_le, fun i => h2.inv (h1.inv i), fun hz => absurd hz hb⟩

theorem newCap_pos (h : Heap) : 1 ≤ h.newCap := by unfold Heap.newCap initCap; split <;> omega

theorem grown_grew {h : Heap} (b : Option Nat) (hle : h.newCap ≤ isizeMax) (hb : h.budget ≠ some 0) :
    Grew h { h with cap := h.newCap, budget := b } := by
  have hge : h.cap ≤ h.newCap := by unfold Heap.newCap; split <;> omega
  refine ⟨rfl, rfl, rfl, hge, fun i => ⟨Nat.le_trans i.len_le hge, i.len8, ?_, hle, i.memLen, i.logOk⟩,
    fun hz => absurd hz hb⟩
  have := i.cap8
  show h.newCap % 8 = 0
  unfold Heap.newCap initCap; split <;> omega

/-- what `grow` can return -/
def GrowOk (h : Heap) : GrowRes → Prop
  | .grown h' => Grew h h' ∧ h'.cap = h.newCap ∧ h.newCap ≤ isizeMax ∧ h.budget ≠ some 0
  | .failed h' => h' = h ∧ h.budget = some 0
  | .panic h' => h' = h

theorem grow_spec (h : Heap) : GrowOk h h.grow := by
  unfold Heap.grow
  split
  · exact rfl
  · rename_i hp
    have hle : h.newCap ≤ isizeMax := Nat.le_of_not_gt hp
    have ok (b : Option Nat) (hb : h.budget ≠ some 0) :
        GrowOk h (.grown { h with cap := h.newCap, budget := b }) := ⟨grown_grew b hle hb, rfl, hle, hb⟩
    split <;> rename_i hb
    · exact ⟨rfl, hb⟩
    · exact ok _ (hb ▸ nofun)
    · exact ok _ (hb ▸ nofun)

/-- what `growUntil` can return; it runs out of fuel only if the `fuel` capacities `newCap`,
`2 * newCap`, … it went through stay below `isize::MAX` (`grow` panics beyond it). -/
def GrowPost (fuel : Nat) (h : Heap) (need : Nat) : Res Unit → Prop
  | .ok h' _ => Grew h h' ∧ need ≤ h'.freeSpace
  | .allocErr h' => Grew h h'
  | .panic h' => Grew h h'
  | .contract _ => False
  | .stuck => h.cap ≤ isizeMax → h.newCap * 2 ^ fuel ≤ 2 * isizeMax

/-- the successor step of `growUntil_spec`: what holds from `h1`, the heap after one `grow`, with `fuel`
holds from `h`, the heap before it, with `fuel + 1`. -/
theorem GrowPost.mono {fuel : Nat} {h h1 : Heap} {need : Nat} {r : Res Unit} (g : Grew h h1)
    (nz : h.budget ≠ some 0) (hc : h1.cap = h.newCap) (hle : h1.cap ≤ isizeMax)
    (p : GrowPost fuel h1 need r) : GrowPost (fuel + 1) h need r := by
  cases r with
  | ok h' u => exact ⟨g.trans p.1 nz, p.2⟩
  | allocErr h' => exact g.trans p nz
  | panic h' => exact g.trans p nz
  | contract h' => exact p
  | stuck =>
    intro _
    -- `h1.cap = h.newCap` is not 0, so the next grow doubles it
    have := newCap_pos h
    have q := p hle
    rw [Heap.newCap, if_neg (by omega), hc, Nat.mul_comm 2 h.newCap, Nat.mul_assoc, ← Nat.pow_succ'] at q
    exact q

theorem growUntil_spec (fuel : Nat) : ∀ (h : Heap) (need : Nat),
    GrowPost fuel h need (growUntil fuel h need) := by
  induction fuel with
  | zero =>
    intro h need hc
    rw [Nat.pow_zero, Nat.mul_one, Heap.newCap]
    split
    · decide
    · exact Nat.mul_le_mul_left 2 hc
  | succ fuel ih =>
    intro h need
    unfold growUntil
    split
    · rename_i hfit; exact ⟨Grew.refl h, hfit⟩
    · have g := grow_spec h
      generalize h.grow = r at g ⊢
      cases r with
      | grown h1 =>
        exact GrowPost.mono g.1 g.2.2.2 g.2.1 (g.2.1 ▸ g.2.2.1) (ih h1 need)
      | failed h1 => exact g.1 ▸ Grew.refl h
      | panic h1 => exact (show h1 = h from g) ▸ Grew.refl h

theorem growUntil_fits (h : Heap) (need : Nat) (hfit : need ≤ h.freeSpace) :
    growUntil loopFuel h need = .ok h () := by
  -- `loopFuel` is the numeral 66: written as a successor, one round unfolds
  show growUntil (65 + 1) h need = _
  unfold growUntil
  rw [if_pos hfit]

/-! ## operations preserve the invariant -/

/-- what an operation started in `h` may return -/
def OpPost (h : Heap) {α : Type} : Res α → Prop
  | .ok h' _ => Inv h' ∧ h.cap ≤ h'.cap
  | .allocErr h' => Grew h h'
  | .panic h' => Grew h h'
  | .contract h' => h' = h
  | .stuck => False

theorem inv_write_close {h : Heap} (i : Inv h) {off newLen : Nat} (bs : List MByte)
    (hoff : off = h.len) (hnl : newLen = h.len + bs.length) (h8 : bs.length % 8 = 0)
    (hfit : bs.length ≤ h.freeSpace) :
    Inv { (h.write off bs h.len h.cap) with len := newLen } :=
  (Writes.refl.step bs hoff hnl).close i rfl (Nat.le_refl _)
    (hnl ▸ Nat.add_le_of_le_sub' i.len_le hfit) (Nat.le_refl _) (hnl ▸ add_mod8 i.len8 h8)

theorem pushCell_post (h : Heap) (c : Cell) (i : Inv h) : OpPost h (h.pushCell c) := by
  have wr : ∀ h1 : Heap, Inv h1 → h1.len + 8 ≤ h1.cap → h.cap ≤ h1.cap →
      OpPost h (Res.ok { (h1.write (heapIndex h1.cellLen) (encodeCell c) h1.len h1.cap) with
        len := h1.len + heapIndex 1 } ()) := fun h1 i1 hfit hc =>
    ⟨inv_write_close i1 _ (cellLen_heapIndex i1) rfl (Nat.mod_self 8) (Nat.le_sub_of_add_le' hfit), hc⟩
  unfold Heap.pushCell
  dsimp only
  split
  · rename_i he
    have g := grow_spec h
    generalize h.grow = r at g ⊢
    cases r with
    | grown h1 =>
      refine wr h1 (g.1.inv i) ?_ g.1.cap_le
      -- the heap is full before `grow` (`he`): the grown capacity, `initCap` or twice a positive
      -- multiple of 8, leaves the 8 bytes of the cell
      rw [g.1.len_eq, g.2.1, he, Heap.newCap]
      split
      · rename_i h0; rw [h0]; decide
      · rename_i h0
        have := aligned_lt (Nat.zero_mod 8) i.cap8 (Nat.pos_of_ne_zero h0)
        omega
    | failed h1 => exact g.1 ▸ Grew.refl h
    | panic h1 => exact (show h1 = h from g) ▸ Grew.refl h
  · rename_i he
    exact wr h i (aligned_lt i.len8 i.cap8 (Nat.lt_of_le_of_ne i.len_le he)) (Nat.le_refl _)

theorem truncate_post (h : Heap) (c : Nat) (i : Inv h) : OpPost h (h.truncate c) := by
  unfold Heap.truncate
  split
  · rename_i hc
    have hle : heapIndex c ≤ h.len := by
      rw [← cellLen_heapIndex i]; exact Nat.mul_le_mul_right 8 hc
    exact ⟨⟨Nat.le_trans hle i.len_le, heapIndex_mod c, i.cap8, i.capMax,
      by show (h.mem.take (heapIndex c)).length = heapIndex c
         rw [List.length_take, i.memLen]; exact Nat.min_eq_left hle, i.logOk⟩, Nat.le_refl _⟩
  · rfl

/-- shared shape of the grow-until-fits operations -/
theorem growUntil_cases (h : Heap) (need : Nat) (i : Inv h) {α : Type} (k : Heap → Res α)
    (hk : ∀ h', Grew h h' → need ≤ h'.freeSpace → OpPost h (k h')) :
    OpPost h (match growUntil loopFuel h need with
      | .ok h' _ => k h'
      | .allocErr h' => .allocErr h'
      | .panic h' => .panic h'
      | .contract h' => .contract h'
      | .stuck => .stuck) := by
  have spec := growUntil_spec loopFuel h need
  generalize growUntil loopFuel h need = r at spec ⊢
  cases r with
  | ok h' u => exact hk h' spec.1 spec.2
  | allocErr h' => exact spec
  | panic h' => exact spec
  | contract h' => exact spec.elim
  | stuck =>
    -- out of fuel: 66 doublings of a capacity ≥ 1 would all lie below `isize::MAX` < 2^63 (any fuel ≥ 64 does)
    exact absurd (spec i.capMax) (Nat.not_le_of_gt <|
      calc 2 * isizeMax < 1 * 2 ^ loopFuel := by decide
        _ ≤ h.newCap * 2 ^ loopFuel := Nat.mul_le_mul_right _ (newCap_pos h))

theorem append_post (h : Heap) (other : List MByte) (i : Inv h) : OpPost h (h.append other) := by
  unfold Heap.append
  dsimp only
  split
  · rfl
  · rename_i hc
    have hc' : heapIndex (cellIndex other.length) = other.length := Decidable.of_not_not hc
    apply growUntil_cases h _ i
    intro h' g hfit
    rw [hc'] at hfit ⊢
    exact ⟨inv_write_close (g.inv i) _ rfl rfl (hc' ▸ heapIndex_mod _) hfit, g.cap_le⟩

theorem copySliceToEnd_post (h : Heap) (a b : Nat) (i : Inv h) : OpPost h (h.copySliceToEnd a b) := by
  unfold Heap.copySliceToEnd
  split
  · rfl
  · rename_i hc
    have hc' : a ≤ b ∧ b ≤ h.cellLen := Decidable.of_not_not hc
    dsimp only
    apply growUntil_cases h _ i
    intro h' g hfit
    have hlen : ((h'.mem.drop (heapIndex a)).take (heapIndex (b - a))).length = heapIndex (b - a) := by
      have := cellLen_heapIndex i
      rw [List.length_take, List.length_drop, g.mem_eq, i.memLen]
      unfold heapIndex at *; omega
    exact ⟨inv_write_close (g.inv i) _ rfl (by rw [hlen]) (by rw [hlen]; exact heapIndex_mod _)
      (by rw [hlen]; exact hfit), g.cap_le⟩

theorem copyPstrWithin_post (h : Heap) (loc : Nat) (i : Inv h) : OpPost h (h.copyPstrWithin loc) := by
  unfold Heap.copyPstrWithin Heap.copyPstrWithinG
  split
  · rfl
  · split
    · rfl
    · rename_i str tailIdx _
      dsimp only
      apply growUntil_cases h _ i
      intro h' g hfit
      have i' := g.inv i
      have al := sentinel_aligns str.length
      have w2 := (Writes.refl (lo := h'.len) (hi := h'.cap) (h := h') (pos := h'.len)).step
        (str.map .data) rfl rfl |>.step (zeros (pstrSentinelLength str.length)) rfl rfl
      rw [List.length_map, zeros_length, Nat.add_assoc] at w2
      unfold copyNeedFixed at hfit
      split <;> rename_i h1 <;> refine ⟨?_, g.cap_le⟩
      · rw [if_pos h1] at hfit
        exact (w2.step (zeros 8) rfl (Nat.add_assoc _ _ _).symm).close i' rfl (Nat.le_refl _)
          (Nat.add_le_of_le_sub' i'.len_le hfit) (Nat.le_refl _)
          (add_mod8 i'.len8 (add_mod8 al (heapIndex_mod 1)))
      · rw [if_neg h1] at hfit
        exact w2.close i' rfl (Nat.le_refl _) (Nat.add_le_of_le_sub' i'.len_le hfit) (Nat.le_refl _)
          (add_mod8 i'.len8 al)

/-- `reserve(n)` + `write_with(f)` when `f` writes at most `n` cells. -/
theorem withReserved_post {α : Type} (h : Heap) (n : Nat) (f : Section → Section × α) (i : Inv h)
    (hf : ∀ sec, Wrote n sec (f sec).1) : OpPost h (h.withReserved n f) := by
  unfold Heap.withReserved
  split
  · exact Grew.refl h
  · apply growUntil_cases h _ i
    intro h' g hfit
    have i' := g.inv i
    have hs := hf ⟨h', h'.cellLen, heapIndex h'.cellLen, heapIndex h'.cellLen + n * 8⟩
    have w := hs.step.writes
    have hb : heapIndex _ ≤ heapIndex (h'.cellLen + n) := Nat.mul_le_mul_right 8 hs.cells
    rw [heapIndex_add] at hb
    have hci := cellLen_heapIndex i'
    have := i'.len_le
    unfold Heap.freeSpace at hfit
    exact ⟨w.close i' hci (Nat.le_of_eq hci) hb (by dsimp only [heapIndex] at hci ⊢; omega)
      (heapIndex_mod _), Nat.le_trans g.cap_le (Nat.le_of_eq w.cap_eq.symm)⟩

/-- the writers that are folds: each element writes at most `wt` cells. -/
theorem foldl_wrote {β σ : Type} (sec : σ → Section) (g : σ → β → σ) (wt : β → Nat) (l : List β)
    (hg : ∀ a, ∀ b ∈ l, Wrote (wt b) (sec a) (sec (g a b))) :
    ∀ a, Wrote (l.map wt).sum (sec a) (sec (l.foldl g a)) := by
  induction l with
  | nil => exact fun a => Wrote.refl _
  | cons b r ih =>
    intro a
    exact (hg a b List.mem_cons_self).trans
      (ih (fun a b hb => hg a b (List.mem_cons_of_mem _ hb)) (g a b))

theorem sum_map_const {β : Type} (k : Nat) (l : List β) : (l.map fun _ => k).sum = k * l.length := by
  rw [List.map_const', List.sum_replicate_nat, Nat.mul_comm]

theorem reserveWrite_post (h : Heap) (n : Nat) (cells : List Cell) (i : Inv h) (hk : cells.length ≤ n) :
    OpPost h (h.reserveWrite n cells) :=
  withReserved_post h n _ i fun sec =>
    (foldl_wrote id Section.pushCell (fun _ => 1) cells (fun a b _ => pushCell_wrote a b) sec).mono
      (by rw [sum_map_const, Nat.one_mul]; exact hk)

theorem pstrWriter_fst (src : List Nat) (sec : Section) : (pstrWriter src sec).1 = (sec.pushPstr src).1 := by
  unfold pstrWriter
  split <;> rename_i e <;> rw [e]

theorem cstrWriter_wrote (src : List Nat) (sec : Section) :
    Wrote ((computePstrSize src - 8) / 4 + 1) sec (cstrWriter src sec).1 := by
  have hp := pushPstr_wrote sec src
  unfold cstrWriter
  split <;> rename_i e <;> rw [e] at hp
  · exact hp.mono (Nat.le_succ _)
  · exact hp.trans (pushCell_wrote _ _)

theorem allocatePstr_post (h : Heap) (src : List Nat) (i : Inv h) : OpPost h (h.allocatePstr src) :=
  withReserved_post h _ _ i fun sec => pstrWriter_fst src sec ▸
    (pushPstr_wrote sec src).mono (Nat.le_trans (Nat.div_le_self _ 4) (Nat.sub_le _ 8))

theorem allocateCstr_post (h : Heap) (src : List Nat) (i : Inv h) : OpPost h (h.allocateCstr src) :=
  withReserved_post h _ _ i fun sec => (cstrWriter_wrote src sec).mono
    (Nat.succ_le_succ (Nat.le_trans (Nat.div_le_self _ 4) (Nat.sub_le _ 8)))

theorem listWriter_wrote (hh : Nat) (items : List Cell) (sec : Section) :
    Wrote (2 * items.length + 1) sec (listWriter hh items sec).1 :=
  sum_map_const 2 items ▸ (foldl_wrote Prod.fst _ (fun _ => 2) items
    (fun _ _ _ => (pushCell_wrote _ _).trans (pushCell_wrote _ _)) (sec, 0)).trans (pushCell_wrote _ .nil)

theorem sizedIterToHeapList_post (h : Heap) (size : Nat) (items : List Cell) (i : Inv h)
    (hk : items.length ≤ size) : OpPost h (h.sizedIterToHeapList size items) := by
  unfold Heap.sizedIterToHeapList
  split
  · split
    · exact Grew.refl h
    · exact withReserved_post h _ _ i fun sec => (listWriter_wrote _ items sec).mono (by omega)
  · exact ⟨i, Nat.le_refl _⟩

theorem computeFunctorByteSize_eq (f : List FElem) :
    computeFunctorByteSize f = (f.map fun e => e.declCells * 8).sum := by
  rw [List.sum_eq_foldl, List.foldl_map]; rfl

/-- a string element is written as `allocate_cstr` writes it. -/
theorem writeFElem_str (sec : Section) (n : Nat) (s : List Nat) :
    sec.writeFElem (.str n s) = (cstrWriter s sec).1 := by
  rw [Section.writeFElem, cstrWriter]
  split <;> rename_i e <;> rw [e]

theorem writeFElem_wrote (sec : Section) (e : FElem) (he : e.declOk = true) :
    Wrote (e.declCells * 8) sec (sec.writeFElem e) := by
  cases e with
  | cell c => exact (pushCell_wrote sec c).mono (show 1 ≤ 1 * 8 by decide)
  | str n s =>
    have hn : n = cellIndex (computePstrSize s) := by simpa [FElem.declOk] using he
    have h8 : 8 ≤ computePstrSize s := Nat.le_add_left _ _
    exact writeFElem_str sec n s ▸ (cstrWriter_wrote s sec).mono (by rw [FElem.declCells, hn, cellIndex]; omega)

theorem functorWriter_post (h : Heap) (f : List FElem) (i : Inv h) (hd : f.all FElem.declOk = true) :
    OpPost h (h.functorWriter f) :=
  withReserved_post h _ _ i fun sec => computeFunctorByteSize_eq f ▸
    foldl_wrote id Section.writeFElem _ f
      (fun a e he => writeFElem_wrote a e (List.all_eq_true.mp hd e he)) sec

theorem toRet_post {h : Heap} {α : Type} {r : Res α} (f : α → Ret) (p : OpPost h r) : OpPost h (r.toRet f) := by
  cases r <;> exact p

theorem step_post (h : Heap) (op : Op) (i : Inv h) : OpPost h (step h op) := by
  cases op with
  | setBudget b => exact ⟨⟨i.len_le, i.len8, i.cap8, i.capMax, i.memLen, i.logOk⟩, Nat.le_refl _⟩
  | grow =>
    have g := grow_spec h
    simp only [step]
    generalize h.grow = r at g ⊢
    cases r with
    | grown h1 => exact ⟨g.1.inv i, g.1.cap_le⟩
    | failed h1 => exact g.1 ▸ Grew.refl h
    | panic h1 => exact (show h1 = h from g) ▸ Grew.refl h
  | pushCell c => exact toRet_post _ (pushCell_post h c i)
  | reserveWrite n cells =>
    simp only [step]
    split
    · rename_i hk; exact toRet_post _ (reserveWrite_post h n cells i hk)
    · rfl
  | allocPstr s => exact toRet_post _ (allocatePstr_post h s i)
  | allocCstr s => exact toRet_post _ (allocateCstr_post h s i)
  | copyPstrWithin loc => exact toRet_post _ (copyPstrWithin_post h loc i)
  | copySliceToEnd a b => exact toRet_post _ (copySliceToEnd_post h a b i)
  | append other => exact toRet_post _ (append_post h other i)
  | truncate c => exact toRet_post _ (truncate_post h c i)
  | heapList size items =>
    simp only [step]
    split
    · rename_i hk; exact toRet_post _ (sizedIterToHeapList_post h size items i hk)
    · rfl
  | functor f =>
    simp only [step]
    split
    · rename_i hd; exact toRet_post _ (functorWriter_post h f i hd)
    · rfl

theorem step_inv (h : Heap) (op : Op) (i : Inv h) : Inv ((step h op).heapD h) := by
  have p := step_post h op i
  generalize step h op = r at p ⊢
  cases r with
  | ok h' a => exact p.1
  | allocErr h' => exact p.inv i
  | panic h' => exact p.inv i
  | contract h' => exact (show h' = h from p) ▸ i
  | stuck => exact p.elim

theorem run_inv (ops : List Op) (h : Heap) (i : Inv h) : Inv (run h ops) :=
  List.foldlRecOn ops _ i fun h i op _ => step_inv h op i

/-! ## what the concrete runs read off a result -/

/-- `(byte_len, byte_cap)` after an operation; executable, for the concrete runs of
    `Props/C33.lean`. -/
def Res.lenCap {α : Type} : Res α → Option (Nat × Nat)
  | .ok h _ => some (h.len, h.cap)
  | .allocErr h => some (h.len, h.cap)
  | .panic h => some (h.len, h.cap)
  | .contract h => some (h.len, h.cap)
  | .stuck => none

end Scryer.Heap
