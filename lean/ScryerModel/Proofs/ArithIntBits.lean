import Mathlib.Data.Int.Bitwise
import ScryerModel.Model.ArithInt
/-! The model's two's-complement operations on unbounded integers are Mathlib's `Int.land`,
`Int.lor`, `Int.xor`, `Int.lnot`; hence Mathlib's `testBit` characterisations apply. -/
namespace Scryer.Arith

theorem ldiff_eq (m n : Nat) : ldiff m n = Nat.ldiff m n := rfl

theorem land_eq_Int_land (a b : Int) : land a b = Int.land a b := by
  cases a <;> cases b <;> rfl
theorem lor_eq_Int_lor (a b : Int) : lor a b = Int.lor a b := by
  cases a <;> cases b <;> rfl
theorem lxor_eq_Int_xor (a b : Int) : lxor a b = Int.xor a b := by
  cases a <;> cases b <;> rfl

theorem bnot_eq_lnot (a : Int) : -a - 1 = Int.lnot a := by
  cases a with
  | ofNat m => show -(m:Int) - 1 = Int.negSucc m; omega
  | negSucc m => show -(Int.negSucc m) - 1 = (m : Int); omega

end Scryer.Arith
