import ScryerModel.Proofs.QuoteRead
import ScryerModel.Proofs.Positional
/-! C55: what `char_to_string` writes inside quotes, character by character, and that the reader of quoted
    items reads every such piece back as the character. -/
namespace Scryer.Quote
open Scryer.CharClass

variable {u : UC}

/-- the symbolic escapes of `char_to_string`: the character and the letter written after the backslash -/
def symEscapes : List (Char × Char) :=
  [('\'', '\''), ('\n', 'n'), ('\r', 'r'), ('\t', 't'), (Char.ofNat 11, 'v'), (Char.ofNat 12, 'f'),
   (Char.ofNat 8, 'b'), (Char.ofNat 7, 'a'), ('\\', '\\')]

theorem charToString_false (c : Char) : charToString u false c =
    if plainList.contains c then [c]
    else if u.is_whitespace c || u.is_control c then '\\' :: 'x' :: (hexDigits c.toNat ++ ['\\']) else [c] := by
  simp only [charToString, Bool.false_and, Bool.false_eq_true, if_false]

/-- without a symbolic escape, the characters of `plainList` still to be considered are the space and `"` -/
theorem charToString_true (c : Char) :
    (∃ e, (c, e) ∈ symEscapes ∧ charToString u true c = ['\\', e]) ∨
    ((∀ p ∈ symEscapes, c ≠ p.1) ∧ charToString u true c =
      if c = ' ' ∨ c = '"' then [c]
      else if u.is_whitespace c = true ∨ u.is_control c = true then '\\' :: 'x' :: (hexDigits c.toNat ++ ['\\'])
      else [c]) := by
  by_cases h : ∃ p ∈ symEscapes, c = p.1
  · obtain ⟨⟨c, e⟩, hp, rfl⟩ := h
    refine .inl ⟨e, hp, ?_⟩
    simp only [symEscapes, List.mem_cons, List.not_mem_nil, or_false, Prod.mk.injEq] at hp
    rcases hp with ⟨rfl, rfl⟩ | ⟨rfl, rfl⟩ | ⟨rfl, rfl⟩ | ⟨rfl, rfl⟩ | ⟨rfl, rfl⟩ | ⟨rfl, rfl⟩ | ⟨rfl, rfl⟩ |
      ⟨rfl, rfl⟩ | ⟨rfl, rfl⟩ <;> rfl
  · refine .inr ⟨fun p hp e => h ⟨p, hp, e⟩, ?_⟩
    simp [symEscapes] at h
    simp [charToString, plainList, h]

theorem hexDigit_ok : ∀ m, m < 16 → hexadecimal_digit_char asciiUC (hexDigit m) = true ∧ hexVal (hexDigit m) = m := by
  decide

theorem hexDigits_spec (n : Nat) :
    (∀ d ∈ hexDigits n, hexadecimal_digit_char u d = true) ∧ Positional.horner 16 hexVal 0 (hexDigits n) = n ∧
      hexDigits n ≠ [] :=
  (Positional.Numeral.of_eq (by decide) (fun n => by rw [hexDigits]; rfl) n).spec (by decide) hexDigit_ok

theorem quoted_hex (q : Char) (ds : List Char) (hds : ∀ d ∈ ds, hexadecimal_digit_char u d = true)
    (a : Nat) (acc k : List Char) (ch : Char) (hch : charOfCode (Positional.horner 16 hexVal a ds) = some ch) :
    quotedItems u q (.hex a) acc (ds ++ '\\' :: k) = quotedItems u q .normal (ch :: acc) k := by
  induction ds generalizing a with
  | nil =>
    have : hexadecimal_digit_char u '\\' = false := rfl
    simp only [Positional.horner, List.foldl_nil] at hch
    simp only [List.nil_append, quotedItems, this, backslash_char, hch]
    simp
  | cons d ds ih =>
    have hd := hds d (by simp)
    simp only [List.cons_append, quotedItems, hd, if_true]
    exact ih (fun x hx => hds x (by simp [hx])) _ (by simpa [Positional.horner] using hch)

theorem charOfCode_toNat (c : Char) : charOfCode c.toNat = some c := by
  have : c.toNat.isValidChar := c.valid
  simp [charOfCode, this, Char.ofNat_toNat]

theorem quoted_hex_escape (q : Char) (c : Char) (acc k : List Char) :
    quotedItems u q .bs acc ('x' :: (hexDigits c.toNat ++ '\\' :: k)) = quotedItems u q .normal (c :: acc) k := by
  obtain ⟨h1, h2, h3⟩ := hexDigits_spec (u := u) c.toNat
  have hx : ∀ r, quotedItems u q .bs acc ('x' :: r) = quotedItems u q .hex0 acc r := fun r => by
    simp [quotedItems, new_line_char, meta_char, octal_digit_char, symbolic_hexadecimal_char]
  rw [hx]
  cases hd : hexDigits c.toNat with
  | nil => exact absurd hd h3
  | cons d ds =>
    rw [hd] at h1 h2
    simp only [List.cons_append, quotedItems, h1 d (by simp), if_true]
    exact quoted_hex q ds (fun x hx => h1 x (by simp [hx])) _ _ _ c
      (by rw [← charOfCode_toNat c, ← h2]; simp [Positional.horner])

theorem quoted_symEscape (acc k : List Char) : ∀ p ∈ symEscapes,
    quotedItems u '\'' .normal acc ('\\' :: p.2 :: k) = quotedItems u '\'' .normal (p.1 :: acc) k := by
  intro p hp
  simp only [symEscapes, List.mem_cons, List.not_mem_nil, or_false] at hp
  rcases hp with rfl | rfl | rfl | rfl | rfl | rfl | rfl | rfl | rfl <;> rfl

/-- `get_non_quote_char` takes a character as it stands -/
theorem quoted_raw {c : Char} (acc k : List Char) (h1 : c ≠ '\'') (h2 : c ≠ '\\')
    (h3 : (single_quote_char u c || double_quote_char u c || back_quote_char u c) = true ∨
      (graphic_char u c || alpha_numeric_char u c || solo_char u c || space_char u c) = true) :
    quotedItems u '\'' .normal acc (c :: k) = quotedItems u '\'' .normal (c :: acc) k := by
  have r1 : (c == '\'') = false := by simpa using h1
  have r2 : backslash_char u c = false := by simpa [backslash_char] using h2
  rcases h3 with h3 | h3
  · simp only [quotedItems, r1, r2, h3, if_true, Bool.false_eq_true, if_false]
  · simp only [quotedItems, r1, r2, h3, if_true, Bool.false_eq_true, if_false]
    split <;> rfl

/-- a character that `char_to_string` prints raw inside quotes is accepted raw by `get_non_quote_char`
    (or is one of the other two quote characters) -/
theorem raw_accepted {c : Char} (hn : ∀ p ∈ symEscapes, c ≠ p.1) (hp : ¬ (c = ' ' ∨ c = '"'))
    (hw : ¬ (u.is_whitespace c = true ∨ u.is_control c = true)) :
    (single_quote_char u c || double_quote_char u c || back_quote_char u c) = true ∨
    (graphic_char u c || alpha_numeric_char u c || solo_char u c || space_char u c) = true := by
  simp only [symEscapes, List.forall_mem_cons, List.not_mem_nil, false_imp_iff, forall_const, and_true] at hn
  -- in the order of `symEscapes`: `c` is not `'` (`n2`), LF (`n3`), CR (`n4`), TAB (`n5`), VT (`n6`), FF (`n7`),
  -- BS (`n8`), BEL (`n9`), `\` (`n11`)
  obtain ⟨n2, n3, n4, n5, n6, n7, n8, n9, n11⟩ := hn
  simp only [not_or, Bool.not_eq_true] at hp hw
  by_cases hb : c = '`'
  · left; simp [back_quote_char, hb]
  right
  by_cases hn : u.is_numeric c = true
  · simp [alpha_numeric_char, hn]
  by_cases hg : graphic_char u c = true
  · simp [hg]
  by_cases hs : solo_char u c = true
  · simp [hs]
  have hgt : graphic_token_char u c = false := by
    simp [graphic_token_char, hg, backslash_char]; exact n11
  have hl : layout_char u c = false := by
    simp only [layout_char, Bool.or_eq_false_iff, beq_eq_false_iff_ne]
    -- `layout_char` tests space, CR, LF, TAB, VT, FF, in this order
    exact ⟨⟨⟨⟨⟨hp.1, n4⟩, n3⟩, n5⟩, n6⟩, n7⟩
  have hm : meta_char u c = false := by
    simp only [meta_char, Bool.or_eq_false_iff, beq_eq_false_iff_ne]
    -- `meta_char`: `\`, `'`, `"`, backquote
    exact ⟨⟨⟨n11, n2⟩, hp.2⟩, hb⟩
  -- `alpha_char` is by definition what is in none of the other classes
  simp [alpha_numeric_char, alpha_char, hn, hw.1, hw.2, hgt, hl, hm, hs]

theorem quoted_char (c : Char) (acc k : List Char) :
    quotedItems u '\'' .normal acc (charToString u true c ++ k) = quotedItems u '\'' .normal (c :: acc) k := by
  rcases charToString_true (u := u) c with ⟨e, he, h⟩ | ⟨hn, h⟩
  · rw [h]; exact quoted_symEscape acc k _ he
  rw [h]
  have n1 : c ≠ '\'' := hn ('\'', '\'') (by decide)
  have n2 : c ≠ '\\' := hn ('\\', '\\') (by decide)
  split
  · next hp =>
    rcases hp with rfl | rfl
    · exact quoted_raw acc k n1 n2 (.inr (by simp [space_char]))
    · exact quoted_raw acc k n1 n2 (.inl rfl)
  split
  · have hbs : quotedItems u '\'' .normal acc (('\\' :: 'x' :: (hexDigits c.toNat ++ ['\\'])) ++ k) =
        quotedItems u '\'' .bs acc ('x' :: (hexDigits c.toNat ++ '\\' :: k)) := by
      simp [quotedItems, backslash_char]
    rw [hbs, quoted_hex_escape]
  · next hp hw => exact quoted_raw acc k n1 n2 (raw_accepted hn hp hw)

theorem quoted_text (s acc k : List Char) :
    quotedItems u '\'' .normal acc (s.flatMap (charToString u true) ++ k) =
      quotedItems u '\'' .normal (s.reverse ++ acc) k := by
  induction s generalizing acc with
  | nil => simp
  | cons c s ih =>
    simp only [List.flatMap_cons, List.append_assoc, quoted_char, ih]
    simp

theorem nextTokFrom_quoted (hu : UCWF u) (b : Bool) (s k : List Char) (hk : stops (fun c => c == '\'') k) :
    nextTokFrom u b ('\'' :: (s.flatMap (charToString u true) ++ '\'' :: k)) = .tok (.name s) k := by
  rw [nextTokFrom_name (.of_ascii hu (by decide) (by decide)) (fun e => absurd e (by decide))]
  simp only [nameToken, small_false hu '\'' (by decide) (by decide), graphic_token_char, graphic_char,
    backslash_char, cut_char, semicolon_char, single_quote_char, quoted_text]
  cases k with
  | nil => simp [quotedItems]
  | cons c k =>
    have : (c == '\'') = false := hk
    simp [quotedItems, this]

end Scryer.Quote
