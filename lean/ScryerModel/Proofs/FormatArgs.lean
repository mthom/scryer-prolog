import ScryerModel.Model.Format
import ScryerModel.Proofs.ListFacts
/-! C36: argument consumption of `cells` (phase 1) and error propagation of phase 2. -/
namespace Scryer.Format

theorem ok_of_toOption {α : Type} {x : R α} {a : α} (h : x.toOption = some a) : x = .ok a := by
  cases x with
  | error e => exact nomatch h
  | ok b => exact congrArg _ (Option.some.inj h)

/-! ## phase 1: a directive looks at the front of the argument list only -/

/-- the same step with `extra` behind the arguments it leaves. -/
def Step.addArgs (extra : List Arg) : Step → Step
  | .push e as => .push e (as ++ extra)
  | .skip as => .skip (as ++ extra)
  | .close to nl as => .close to nl (as ++ extra)
  | .err e => .err e

theorem takeNum_append {spec : NumSpec} {args : List Arg} {r : R Int} {as : List Arg}
    (h : takeNum spec args = some (r, as)) (extra : List Arg) :
    takeNum spec (args ++ extra) = some (r, as ++ extra) := by
  cases spec with
  | lit n => cases h; rfl
  | star =>
    cases args with
    | nil => exact nomatch h
    | cons a as' =>
      obtain ⟨t, w, q⟩ := a
      cases t <;> cases h <;> rfl

theorem step_append (tok : Tok) (src : List Char) (args extra : List Arg) :
    step tok src args = .err (directiveErr src args) ∨
    step tok src (args ++ extra) = (step tok src args).addArgs extra := by
  cases tok with
  | text _ | tilde | nl1 | fill _ | colHere => exact .inr rfl
  | bad => exact .inl rfl
  | plain c =>
    cases args with
    | nil => exact .inl rfl
    | cons a as =>
      simp only [step, List.cons_append]
      cases plainElem c a <;> exact .inr rfl
  | num spec c =>
    cases ht : takeNum spec args with
    | none => exact .inl (by simp only [step, ht])
    | some p =>
      obtain ⟨r, as⟩ := p
      have ht' := takeNum_append ht extra
      cases r with
      | error e => exact .inr (by simp only [step, ht, ht', Step.addArgs])
      | ok n =>
        simp only [step, ht, ht']
        cases numClose c n with
        | some rc => cases rc <;> exact .inr rfl
        | none =>
          cases as with
          | nil => exact .inl rfl
          | cons a as' =>
            simp only [List.cons_append]
            cases numGoal c n a.t with
            | none => exact .inl rfl
            | some g => exact .inr rfl

theorem directiveErr_cases (src : List Char) (args : List Arg) :
    directiveErr src args = .dom "non_empty_list" Term.nil ∨
      ∃ s, directiveErr src args = .dom "format_string" s := by
  unfold directiveErr
  split
  · exact Or.inl rfl
  · exact Or.inr ⟨_, rfl⟩

/-- Read with `args ++ extra` accepted, the first case must hold: too few arguments; read with
    `args` accepted, the second: too many (`domain_error(empty_list, Surplus)`). -/
theorem cells_append (extra : List Arg) (hx : extra ≠ []) :
    ∀ (toks : List (Tok × List Char)) (args : List Arg) (es : List Elem),
      (∃ src as, cells toks args es = .error (directiveErr src as)) ∨
      ∃ e, cells toks (args ++ extra) es = .error e ∧
        ∀ cs, cells toks args es = .ok cs → e = .dom "empty_list" (Term.ofList (extra.map (·.t))) := by
  intro toks
  induction toks with
  | nil =>
    intro args es
    cases args with
    | nil => exact .inr ⟨_, by rw [List.nil_append, cells, if_neg (by simpa using hx)], fun _ _ => rfl⟩
    | cons a as => exact .inr ⟨_, rfl, nofun⟩
  | cons tk ts ih =>
    intro args es
    obtain ⟨tok, src⟩ := tk
    simp only [cells]
    rcases step_append tok src args extra with he | he
    · exact .inl ⟨src, args, by rw [he]⟩
    · rw [he]
      cases step tok src args with
      | err e => exact .inr ⟨e, rfl, nofun⟩
      | push e as => exact ih _ _
      | skip as => exact ih _ _
      | close sp nl as =>
        rcases ih as [] with ⟨s, a, he'⟩ | ⟨e, he', hk⟩
        · exact .inl ⟨s, a, by simp only [he']⟩
        · refine .inr ⟨e, by simp only [Step.addArgs, he'], fun cs h => ?_⟩
          cases hr : cells ts as [] with
          | error e' => simp only [hr] at h; exact nomatch h
          | ok rest => exact hk rest hr

theorem cells_bad :
    ∀ (toks : List (Tok × List Char)), (∃ src, (Tok.bad, src) ∈ toks) →
      ∀ (args : List Arg) (es : List Elem), ∃ e, cells toks args es = .error e := by
  intro toks
  induction toks with
  | nil => exact fun h => nomatch h
  | cons tk ts ih =>
    rintro ⟨s, hs⟩ args es
    obtain ⟨tok, src⟩ := tk
    rw [cells]
    rcases List.mem_cons.mp hs with h | h
    · cases h; exact ⟨_, rfl⟩
    · cases step tok src args with
      | err e => exact ⟨e, rfl⟩
      | push e as => exact ih ⟨s, h⟩ _ _
      | skip as => exact ih ⟨s, h⟩ _ _
      | close sp nl as =>
        obtain ⟨e, he⟩ := ih ⟨s, h⟩ as []
        exact ⟨e, by simp only [he]⟩

/-! ## phase 2: an error of any goal is the result (no partial output) -/

/-- the goals phase 2 runs for the elements of one cell, in order. -/
def goalsOf : List Elem → List Goal
  | [] => []
  | .goal g :: es => g :: goalsOf es
  | _ :: es => goalsOf es

theorem evalElems_ok (cfg : Cfg) (prim : FPrim) (es : List Elem) :
    ∀ segs, evalElems cfg prim es = .ok segs →
      ∀ g ∈ goalsOf es, ∃ cs, runGoal cfg prim g = .ok cs := by
  -- the clauses of `evalElems`: no element, text, glue, a goal that raises, a goal that succeeds
  fun_induction evalElems cfg prim es with
  | case1 => exact fun _ _ g hg => nomatch hg
  | case2 cs es ih | case3 c es ih =>
    intro segs h g hg
    obtain ⟨r, hr, _⟩ := bind_ok h
    exact ih r hr g hg
  | case4 g' es e hg' => exact fun _ h => nomatch h
  | case5 g' es cs hg' ih =>
    intro segs h g hg
    obtain ⟨r, hr, _⟩ := bind_ok h
    rcases List.mem_cons.mp hg with rfl | hg
    · exact ⟨cs, hg'⟩
    · exact ih r hr g hg

/-- the goals phase 2 runs for the cells, in order: `C36_ill_typed_no_output` is stated over them. -/
def cellGoals : List Cell → List Goal
  | [] => []
  | .cell _ es :: cs => goalsOf es ++ cellGoals cs
  | .newlines _ :: cs => cellGoals cs

theorem renderCells_ok (cfg : Cfg) (prim : FPrim) (cs : List Cell) (tab : Int) :
    ∀ out, renderCells cfg prim cs tab = .ok out →
      ∀ g ∈ cellGoals cs, ∃ t, runGoal cfg prim g = .ok t := by
  -- the clauses of `renderCells`: no cell, newlines, then a cell whose elements raise (3), whose
  -- column stop the pinned library rejects (4), behind which a cell raises (5), and a cell rendered
  fun_induction renderCells cfg prim cs tab with
  | case1 => exact fun _ _ g hg => nomatch hg
  | case2 k cs _ ih =>
    intro out h g hg
    obtain ⟨r, hr, _⟩ := bind_ok h
    exact ih r hr g hg
  | case3 | case4 | case5 => exact fun _ h => nomatch h
  | case6 spec es cs tab segs he to _ r hr ih =>
    intro _ _ g hg
    rcases List.mem_append.mp hg with hg | hg
    · exact evalElems_ok cfg prim es segs he g hg
    · exact ih r hr g hg

theorem formatChars_ok {cfg : Cfg} {prim : FPrim} {fs : List Char} {args : List Arg}
    {out : List Char} (h : formatChars cfg prim fs args = .ok out) :
    ∃ cs, cells (tokens fs) args [] = .ok cs ∧ renderCells cfg prim cs 0 = .ok out := by
  unfold formatChars at h
  cases hc : cells (tokens fs) args [] with
  | error e => rw [hc] at h; exact nomatch h
  | ok cs => rw [hc] at h; exact ⟨cs, rfl, h⟩

end Scryer.Format
