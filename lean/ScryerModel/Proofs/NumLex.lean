import ScryerModel.Model.NumLex
import ScryerModel.Proofs.ListFacts
import ScryerModel.Proofs.Positional
/-! The lexer's number path: positional value, the integer-part loop over `_` digit groups, the
equations of `afterInt` / `exponentPart` / the `0'c` readers on the shapes of input the literal
theorems speak of, what `showNat` prints, and the `number_chars` entry around one token.
`Cont s ds` is the spelled continuation `s` of a decimal integer after its first digit (digits and
`_ layout* digit` groups) with the digits `ds` it contributes; `intPart_cont` runs the fuelled loop
`intPart` over it. `StopInt` and `PlainStop` say what may follow the integer part. -/
namespace Scryer.NumLex

/-! ### positional value -/

theorem hornerFrom_eq (radix acc : Nat) (xs : List Char) :
    hornerFrom radix acc xs = Positional.horner radix digitVal acc xs := by
  induction xs generalizing acc with
  | nil => rfl
  | cons c cs ih => exact ih _

theorem horner_append (radix : Nat) (xs ys : List Char) :
    horner radix (xs ++ ys) = horner radix xs * radix ^ ys.length + horner radix ys := by
  simp only [horner, hornerFrom_eq]
  exact Positional.horner_append ..

theorem horner_singleton (radix : Nat) (c : Char) : horner radix [c] = digitVal c := by
  simp [horner, hornerFrom]

theorem horner_snoc (radix : Nat) (ds : List Char) (c : Char) :
    horner radix (ds ++ [c]) = horner radix ds * radix + digitVal c := by
  rw [horner_append, horner_singleton]; simp

theorem horner_cons (radix : Nat) (c : Char) (ds : List Char) :
    horner radix (c :: ds) = digitVal c * radix ^ ds.length + horner radix ds := by
  rw [← List.singleton_append, horner_append, horner_singleton]

theorem horner_replicate_zero (radix k : Nat) : horner radix (List.replicate k '0') = 0 := by
  induction k with
  | zero => rfl
  | succ k ih => rw [List.replicate_succ, horner_cons, ih, show digitVal '0' = 0 by decide]; simp

/-! ### character classes, layout scanning -/

theorem spanP_append {p : Char → Bool} (ds rest : List Char) (hd : ∀ c ∈ ds, p c = true)
    (hr : ∀ c r, rest = c :: r → p c = false) : spanP p (ds ++ rest) = (ds, rest) := by
  induction ds with
  | nil =>
    cases rest with
    | nil => rfl
    | cons c r => simp [spanP, hr c r rfl]
  | cons d ds ih =>
    obtain ⟨h1, h2⟩ := List.forall_mem_cons.1 hd
    simp [spanP, h1, ih h2]

theorem spanP_all {p : Char → Bool} (ds : List Char) (hd : ∀ c ∈ ds, p c = true) :
    spanP p ds = (ds, []) := by
  simpa using spanP_append ds [] hd nofun

theorem isDigit_iff (c : Char) : isDigit c = true ↔ 48 ≤ c.toNat ∧ c.toNat ≤ 57 := by
  simp [isDigit]

theorem isDigit_not_layout {c : Char} (h : isDigit c = true) : isLayout c = false := by
  rw [isDigit_iff] at h
  simp only [isLayout, Bool.or_eq_false_iff, beq_eq_false_iff_ne]
  omega

theorem not_graphicToken {c : Char} (h : isDigit c = true ∨ isLayout c = true) :
    isGraphicToken c = false := by
  have ne : ∀ g : Char, isDigit g = false → isLayout g = false → c ≠ g := by
    rintro g h1 h2 rfl; simp [h1, h2] at h
  simp only [isGraphicToken, isGraphic, Bool.or_eq_false_iff, beq_eq_false_iff_ne]
  -- one goal `c ≠ g` for each of the 17 graphic token characters `g`, none a digit or layout (`rfl rfl`)
  repeat' apply And.intro
  all_goals exact ne _ rfl rfl

theorem scanL_base_stop {c : Char} (h1 : isLayout c = false) (h2 : c ≠ '%') (h3 : c ≠ '/')
    (b : Bool) (r : List Char) : scanL .base b (c :: r) = .ok (b, c :: r) := by
  rw [scanL.eq_def]; simp [h1, h2, h3]

/-- `%` and `/` are excluded because they may open a comment -/
theorem scanL_layout (lay : List Char) (hl : ∀ x ∈ lay, isLayout x = true) (b : Bool)
    {c : Char} (h1 : isLayout c = false) (h2 : c ≠ '%') (h3 : c ≠ '/') (r : List Char) :
    scanL .base b (lay ++ c :: r) = .ok (b || !lay.isEmpty, c :: r) := by
  induction lay generalizing b with
  | nil => simpa using scanL_base_stop h1 h2 h3 b r
  | cons x xs ih =>
    obtain ⟨hx, hxs⟩ := List.forall_mem_cons.1 hl
    rw [List.cons_append, scanL.eq_def]; simp [hx, ih hxs]

theorem scanForLayout_layout (lay : List Char) (hl : ∀ x ∈ lay, isLayout x = true)
    {c : Char} (h : isDigit c = true) (r : List Char) :
    scanForLayout (lay ++ c :: r) = .ok (!lay.isEmpty, c :: r) := by
  have := scanL_layout lay hl false (isDigit_not_layout h) (ne_of_class h (by decide))
    (ne_of_class h (by decide)) r
  cases lay <;> simpa [scanForLayout] using this

theorem skipUnderscore_plain {c : Char} (h : c ≠ '_') (r : List Char) :
    skipUnderscore (c :: r) = .ok (c, c :: r) := by
  simp [skipUnderscore, h]

theorem skipUnderscore_us (lay : List Char) (hl : ∀ x ∈ lay, isLayout x = true)
    {c : Char} (h : isDigit c = true) (r : List Char) :
    skipUnderscore ('_' :: (lay ++ c :: r)) = .ok (c, c :: r) := by
  simp [skipUnderscore, scanForLayout_layout lay hl h, h]

/-! ### the integer-part loop -/

/-- continuation of a decimal integer literal after its first digit: spelled text `s`
    contributing the digits `ds` (digits, and `_` + layout + digit). -/
inductive Cont : List Char → List Char → Prop
  | nil : Cont [] []
  | dig {d : Char} {s ds : List Char} : isDigit d = true → Cont s ds → Cont (d :: s) (d :: ds)
  | sep {d : Char} {s ds : List Char} (lay : List Char) : isDigit d = true →
      (∀ x ∈ lay, isLayout x = true) → Cont s ds → Cont ('_' :: (lay ++ d :: s)) (d :: ds)

theorem Cont.allDigits {s ds : List Char} (h : Cont s ds) : ∀ c ∈ ds, isDigit c = true := by
  induction h with
  | nil => nofun
  | dig hd _ ih => exact List.forall_mem_cons.2 ⟨hd, ih⟩
  | sep _ hd _ _ ih => exact List.forall_mem_cons.2 ⟨hd, ih⟩

theorem Cont.digits {d : Char} {s ds : List Char} (hd : isDigit d = true) (h : Cont s ds) :
    ∀ c ∈ d :: ds, isDigit c = true :=
  List.forall_mem_cons.2 ⟨hd, h.allDigits⟩

theorem Cont.ofDigits : ∀ (ds : List Char), (∀ c ∈ ds, isDigit c = true) → Cont ds ds
  | [], _ => .nil
  | _ :: ds, h => .dig (List.forall_mem_cons.1 h).1 (Cont.ofDigits ds (List.forall_mem_cons.1 h).2)

/-- the text after the literal does not continue the integer part -/
def StopInt : List Char → Prop
  | [] => True
  | c :: _ => isDigit c = false ∧ c ≠ '_'

/-- what `number_token` does once the integer digits are read -/
def finishInt (tok : List Char) : List Char → LexRes
  | [] => .ok (.part tok, [])
  | c :: r => afterInt tok c r

theorem intPart_cont {s ds : List Char} (h : Cont s ds) (strict : Bool) {rest : List Char}
    (hs : StopInt rest) (fuel : Nat) (tok : List Char) (hf : s.length ≤ fuel) :
    intPart strict (fuel + 1) tok (s ++ rest) = finishInt (tok ++ ds) rest := by
  induction h generalizing fuel tok with
  | nil =>
    -- the `+ 1` in the fuel pays for this round: it looks at the stop character (or the end) and leaves
    rw [List.nil_append, List.append_nil]
    cases rest with
    | nil => simp [intPart, skipUnderscore, finishInt]
    | cons c r => simp [intPart, skipUnderscore_plain hs.2, hs.1, finishInt]
  | @dig d s ds hd _ ih =>
    obtain ⟨f, rfl⟩ := Nat.exists_eq_add_one_of_ne_zero (Nat.ne_zero_of_lt hf)
    have hu : d ≠ '_' := ne_of_class hd (by decide)
    rw [List.cons_append, intPart]
    simp only [skipUnderscore_plain hu, hd, if_true, List.drop_one, List.tail_cons]
    rw [ih f (tok ++ [d]) (Nat.le_of_succ_le_succ hf), List.append_assoc]; rfl
  | @sep d s ds lay hd hl _ ih =>
    obtain ⟨f, rfl⟩ := Nat.exists_eq_add_one_of_ne_zero (Nat.ne_zero_of_lt hf)
    rw [List.cons_append, List.append_assoc, List.cons_append, intPart]
    simp only [skipUnderscore_us lay hl hd, hd, if_true, List.drop_one, List.tail_cons]
    rw [ih f (tok ++ [d]) (by simp at hf; omega), List.append_assoc]; rfl

theorem numberToken_digits {d : Char} {s ds : List Char} (h : Cont s ds) (strict : Bool)
    {c : Char} (hc : isDigit c = false) (hu : c ≠ '_') (r : List Char) :
    numberToken strict (d :: (s ++ c :: r)) = afterInt (d :: ds) c r :=
  intPart_cont h strict (rest := c :: r) ⟨hc, hu⟩ _ [d] (by rw [List.length_append]; omega)

theorem numberToken_digits_end {d : Char} {s ds : List Char} (h : Cont s ds) (strict : Bool) :
    numberToken strict (d :: s) = .ok (.part (d :: ds), []) := by
  simpa [numberToken, finishInt] using
    intPart_cont h strict (rest := []) trivial s.length [d] (Nat.le_refl _)

/-! ### after the integer part: plain stop, fraction, exponent, radix -/

theorem parseRadix_digits {radix : Nat} {isDig : Char → Bool} (hv : ∀ c, validIn radix c = isDig c)
    {tok : List Char} (hne : tok ≠ []) (h : ∀ c ∈ tok, isDig c = true) :
    parseRadix radix tok = .ok (horner radix tok) := by
  have h1 : tok.isEmpty = false := by simpa using hne
  have h2 : tok.all (validIn radix) = true := by simpa [hv] using h
  simp [parseRadix, h1, h2]

theorem validIn_10 (c : Char) : validIn 10 c = isDigit c := rfl
theorem validIn_16 (c : Char) : validIn 16 c = isHex c := rfl
theorem validIn_8 (c : Char) : validIn 8 c = isOct c := rfl
theorem validIn_2 (c : Char) : validIn 2 c = isBin c := rfl

theorem mkInt_digits {tok : List Char} (hne : tok ≠ []) (h : ∀ c ∈ tok, isDigit c = true)
    (rest : List Char) : mkInt tok rest = .ok (.int (horner 10 tok), rest) := by
  simp [mkInt, parseRadix_digits validIn_10 hne h]

theorem mkInt_zero (rest : List Char) : mkInt ['0'] rest = .ok (.int 0, rest) := rfl

/-- the character after an integer does not start a fraction, radix or character literal -/
def PlainStop (tok : List Char) (c : Char) : Prop :=
  c ≠ '.' ∧ (tok = ['0'] → c ≠ 'x' ∧ c ≠ 'o' ∧ c ≠ 'b' ∧ c ≠ '\'')

theorem afterInt_plain {tok : List Char} {c : Char} (h : PlainStop tok c) (r : List Char) :
    afterInt tok c r = mkInt tok (c :: r) := by
  obtain ⟨h1, h2⟩ := h
  by_cases ht : tok = ['0']
  · obtain ⟨a, b, c', d⟩ := h2 ht
    simp [afterInt, h1, ht, a, b, c', d]
  · simp [afterInt, h1, ht]

/-- `.` not followed by a digit: the integer ends before the dot (end token, infix dot, …) -/
theorem afterInt_dot (tok : List Char) {r : List Char} (hr : ∀ c r', r = c :: r' → isDigit c = false) :
    afterInt tok '.' r = mkInt tok ('.' :: r) := by
  cases r with
  | nil => simp [afterInt]
  | cons c r' => simp [afterInt, hr c r' rfl]

theorem afterInt_frac (tok : List Char) {f : Char} {fs : List Char} (hf : isDigit f = true)
    (hfs : ∀ c ∈ fs, isDigit c = true) {c : Char} (hc : isDigit c = false) (r : List Char) :
    afterInt tok '.' (f :: (fs ++ c :: r)) =
      if c == 'e' || c == 'E' then exponentPart (tok ++ '.' :: f :: fs) c r
      else mkDec (tok ++ '.' :: f :: fs) (c :: r) := by
  have hsp := spanP_append fs (c :: r) hfs (by rintro _ _ ⟨⟩; exact hc)
  simp [afterInt, hf, hsp]

theorem decOfToken_frac {ip fp : List Char} (hi : ∀ c ∈ ip, isDigit c = true)
    (hf : ∀ c ∈ fp, isDigit c = true) :
    decOfToken (ip ++ '.' :: fp) = (horner 10 (ip ++ fp), - (fp.length : Int)) := by
  have h1 := spanP_append ip ('.' :: fp) hi (by rintro _ _ ⟨⟩; decide)
  simp [decOfToken, h1, spanP_all fp hf]

theorem decOfToken_exp {ip fp : List Char} (ex : List Char) {ec : Char} (hec : isDigit ec = false)
    (hi : ∀ c ∈ ip, isDigit c = true) (hf : ∀ c ∈ fp, isDigit c = true) :
    decOfToken (ip ++ '.' :: fp ++ ec :: ex) =
      (horner 10 (ip ++ fp), expOfToken ex - (fp.length : Int)) := by
  have h1 := spanP_append ip ('.' :: (fp ++ ec :: ex)) hi (by rintro _ _ ⟨⟩; decide)
  have h2 := spanP_append fp (ec :: ex) hf (by rintro _ _ ⟨⟩; exact hec)
  simp [decOfToken, h1, h2]

theorem exponentPart_digits (tok : List Char) (ec : Char) {sg : List Char}
    (hsg : sg = [] ∨ sg = ['+'] ∨ sg = ['-'])
    {x : Char} {xs : List Char} (hx : isDigit x = true) (hxs : ∀ c ∈ xs, isDigit c = true)
    {c : Char} (hc : isDigit c = false) (r : List Char) :
    exponentPart tok ec (sg ++ x :: (xs ++ c :: r)) = mkDec (tok ++ ec :: (sg ++ x :: xs)) (c :: r) := by
  have hsp : spanP isDigit (x :: (xs ++ c :: r)) = (x :: xs, c :: r) :=
    spanP_append (x :: xs) (c :: r) (List.forall_mem_cons.2 ⟨hx, hxs⟩) (by rintro _ _ ⟨⟩; exact hc)
  have h1 : x ≠ '+' := ne_of_class hx (by decide)
  have h2 : x ≠ '-' := ne_of_class hx (by decide)
  rcases hsg with rfl | rfl | rfl <;> simp [exponentPart, h1, h2, hx, hsp]

theorem radixConstant_digits {isDig : Char → Bool} {radix : Nat} (start : Char)
    (hv : ∀ c, validIn radix c = isDig c)
    {x : Char} {xs : List Char} (hx : isDig x = true) (hxs : ∀ c ∈ xs, isDig c = true)
    {rest : List Char} (hr : ∀ c r, rest = c :: r → isDig c = false) :
    radixConstant isDig radix start (x :: (xs ++ rest)) = .ok (.int (horner radix (x :: xs)), rest) := by
  have hall : ∀ c ∈ x :: xs, isDig c = true := List.forall_mem_cons.2 ⟨hx, hxs⟩
  have hsp : spanP isDig (x :: (xs ++ rest)) = (x :: xs, rest) := spanP_append (x :: xs) rest hall hr
  simp [radixConstant, hx, hsp, parseRadix_digits hv (List.cons_ne_nil x xs) hall]

theorem radixConstant_no_digit (isDig : Char → Bool) (radix : Nat) (start : Char)
    {c : Char} (hc : isDig c = false) (r : List Char) :
    radixConstant isDig radix start (c :: r) = .ok (.int 0, start :: c :: r) := by
  simp [radixConstant, hc, mkInt_zero]

theorem afterInt_zero (c : Char) (r : List Char) (h : c ≠ '.') :
    afterInt ['0'] c r =
      if c == 'x' then radixConstant isHex 16 c r
      else if c == 'o' then radixConstant isOct 8 c r
      else if c == 'b' then radixConstant isBin 2 c r
      else if c == '\'' then quoteConstant r
      else mkInt ['0'] (c :: r) := by
  simp [afterInt, h]

theorem numberToken_radixLetter (strict : Bool) (r : List Char) :
    numberToken strict ('0' :: 'x' :: r) = radixConstant isHex 16 'x' r ∧
    numberToken strict ('0' :: 'o' :: r) = radixConstant isOct 8 'o' r ∧
    numberToken strict ('0' :: 'b' :: r) = radixConstant isBin 2 'b' r :=
  ⟨rfl, rfl, rfl⟩

theorem numberToken_quote (strict : Bool) (r : List Char) :
    numberToken strict ('0' :: '\'' :: r) = quoteConstant r :=
  (numberToken_digits .nil strict (by decide) (by decide) r).trans (afterInt_zero _ r (by decide))

/-! ### the `0'c` readers -/

theorem isPlain_ne_meta {c : Char} (h : isPlainQuotedChar c = true) :
    c ≠ '\\' ∧ c ≠ '\'' ∧ c ≠ '"' ∧ c ≠ '`' := by
  refine ⟨?_, ?_, ?_, ?_⟩ <;> (rintro rfl; revert h; decide)

theorem quoteConstant_plain {c : Char} (h : isPlainQuotedChar c = true) (rest : List Char) :
    quoteConstant (c :: rest) = .ok (.int c.toNat, rest) := by
  obtain ⟨h1, h2, h3, h4⟩ := isPlain_ne_meta h
  simp [quoteConstant, h1, singleQuotedChar, h2, h3, h4, nonQuoteChar, h]

theorem quoteConstant_lone_quote {c : Char} (h : c ≠ '\'') (rest : List Char) :
    quoteConstant ('\'' :: c :: rest) = .ok (.int 0, '\'' :: '\'' :: c :: rest) := by
  simp [quoteConstant, singleQuotedChar, h, mkInt_zero]

theorem controlEscape_some {e : Char} {n : Nat} (h : controlEscape e = some n) :
    e ∈ ['a', 'b', 'v', 'f', 't', 'n', 'r'] := by
  refine Decidable.byContradiction fun hne => ?_
  simp only [List.mem_cons, List.not_mem_nil, or_false, not_or] at hne
  simp [controlEscape, hne] at h

theorem quoteConstant_control {e : Char} {n : Nat} (h : controlEscape e = some n)
    (rest : List Char) : quoteConstant ('\\' :: e :: rest) = .ok (.int n, rest) := by
  have he := controlEscape_some h
  simp only [List.mem_cons, List.not_mem_nil, or_false] at he
  rcases he with rfl | rfl | rfl | rfl | rfl | rfl | rfl <;> cases h <;> rfl

theorem quoteConstant_meta {e : Char} (h : isMeta e = true) (rest : List Char) :
    quoteConstant ('\\' :: e :: rest) = .ok (.int e.toNat, rest) := by
  simp only [isMeta, Bool.or_eq_true, beq_iff_eq] at h
  rcases h with ((rfl | rfl) | rfl) | rfl <;> rfl

/-! ### what `showNat` prints -/

theorem digitChar_spec : ∀ d, d < 10 → isDigit (digitChar d) = true ∧ digitVal (digitChar d) = d := by
  decide

theorem showNatAux_numeral : ∀ fuel n acc, n < fuel →
    ∃ ds, showNatAux fuel n acc = ds ++ acc ∧ Positional.Numeral 10 digitChar n ds
  | 0, _, _, h => absurd h (Nat.not_lt_zero _)
  | f + 1, n, acc, h => by
    rw [showNatAux]
    split
    · exact ⟨[digitChar (n % 10)], rfl, by rw [Nat.mod_eq_of_lt (by omega)]; exact .small (by omega)⟩
    · obtain ⟨ds, e, hn⟩ := showNatAux_numeral f (n / 10) (digitChar (n % 10) :: acc) (by omega)
      exact ⟨_, e.trans (List.append_cons ..), .step (by omega) hn⟩

theorem showNat_spec (n : Nat) :
    ∃ d s, showNat n = d :: s ∧ (∀ c ∈ d :: s, isDigit c = true) ∧ horner 10 (d :: s) = n := by
  obtain ⟨ds, e, h⟩ := showNatAux_numeral (n + 1) n [] (Nat.lt_succ_self n)
  obtain ⟨hd, hv, hne⟩ := h.spec (p := fun c => isDigit c = true) (by decide) digitChar_spec
  obtain ⟨d, s, rfl⟩ := List.exists_cons_of_ne_nil hne
  exact ⟨d, s, e.trans (List.append_nil _), hd, (hornerFrom_eq ..).trans hv⟩

/-! ### the `number_chars` entry around one token -/

theorem nextNumberToken_layout (strict : Bool) (lay : List Char) (hl : ∀ x ∈ lay, isLayout x = true)
    {d : Char} (hd : isDigit d = true) (s : List Char) :
    nextNumberToken strict (lay ++ d :: s) =
      match numberToken strict (d :: s) with
      | .ok (t, rest) => .ok (.num (completePartial t), rest)
      | .error e => .error e := by
  simp only [nextNumberToken, scanForLayout_layout lay hl hd, hd, if_true]
  rfl

theorem scanForLayout_sign {g : Char} (hg : g = '-' ∨ g = '+') (r : List Char) :
    scanForLayout (g :: r) = .ok (false, g :: r) := by
  rcases hg with rfl | rfl <;> exact scanL_base_stop (by decide) (by decide) (by decide) false r

/-- a sign in front of (layout and) a digit is a name token of its own -/
theorem nextNumberToken_sign (strict : Bool) {g : Char} (hg : g = '-' ∨ g = '+')
    (lay : List Char) (hl : ∀ x ∈ lay, isLayout x = true) {d : Char} (hd : isDigit d = true)
    (s : List Char) :
    nextNumberToken strict (g :: (lay ++ d :: s)) =
      .ok (if g = '-' then .minus else .notNumber, lay ++ d :: s) := by
  have hsp : spanP isGraphicToken (g :: (lay ++ d :: s)) = ([g], lay ++ d :: s) := by
    refine spanP_append [g] _ (by rcases hg with rfl | rfl <;> decide) fun c r e => ?_
    cases lay with
    | nil => cases e; exact not_graphicToken (.inl hd)
    | cons x xs => cases e; exact not_graphicToken (.inr (hl _ (List.mem_cons_self ..)))
  have hne : (lay ++ d :: s).isEmpty = false := by simp
  have hgc : isDigit g = false ∧ isGraphicToken g = true := by
    rcases hg with rfl | rfl <;> exact ⟨rfl, rfl⟩
  simp only [nextNumberToken, scanForLayout_sign hg, hgc, hsp, hne, Bool.false_eq_true, if_false,
    if_true]
  rcases hg with rfl | rfl <;> rfl

theorem completePartial_digits {tok : List Char} (h : ∀ c ∈ tok, isDigit c = true) :
    completePartial (.part tok) = .int (horner 10 tok) := by
  simp [completePartial, List.all_eq_true.2 h]

theorem numberFromTextG_literal (strict : Bool) (lay : List Char) (hl : ∀ x ∈ lay, isLayout x = true)
    {d : Char} (hd : isDigit d = true) {s : List Char} {t : NumTok} {rest : List Char}
    (h : numberToken strict (d :: s) = .ok (t, rest)) :
    numberFromTextG strict (lay ++ d :: s) =
      if rest.isEmpty then tokValue false (completePartial t)
      else .error (.unexpChar (rest.headD ' ')) := by
  simp only [numberFromTextG, nextNumberToken_layout strict lay hl hd, h]

theorem numberFromTextG_minus (strict : Bool) (lay : List Char) (hl : ∀ x ∈ lay, isLayout x = true)
    {d : Char} (hd : isDigit d = true) {s : List Char} {t : NumTok} {rest : List Char}
    (h : numberToken strict (d :: s) = .ok (t, rest)) :
    numberFromTextG strict ('-' :: (lay ++ d :: s)) =
      if rest.isEmpty then tokValue true (completePartial t)
      else .error (.unexpChar (rest.headD ' ')) := by
  simp only [numberFromTextG, nextNumberToken_sign strict (.inl rfl) lay hl hd, if_true,
    nextNumberToken_layout strict lay hl hd, h]

theorem numberFromTextG_plus (strict : Bool) {d : Char} (hd : isDigit d = true) (s : List Char) :
    numberFromTextG strict ('+' :: d :: s) = .error .other := by
  have := nextNumberToken_sign strict (.inr rfl) [] nofun hd s
  simp only [List.nil_append] at this
  rw [numberFromTextG, this]; rfl

/-- printing an integer and reading it back, under either treatment of a trailing `_` -/
theorem numberFromTextG_showInt (strict : Bool) (i : Int) :
    numberFromTextG strict (showInt i) = .ok (.int i) := by
  obtain ⟨d, s, e, hds, hval⟩ := showNat_spec i.natAbs
  obtain ⟨hd, hs⟩ := List.forall_mem_cons.1 hds
  have htok := numberToken_digits_end (d := d) (Cont.ofDigits s hs) strict
  have hv : completePartial (.part (d :: s)) = .int i.natAbs := by
    rw [completePartial_digits hds, hval]
  unfold showInt
  split
  · rw [e]
    refine (numberFromTextG_minus strict [] nofun hd htok).trans ?_
    rw [hv]; simp [tokValue]; omega
  · rw [e]
    refine (numberFromTextG_literal strict [] nofun hd htok).trans ?_
    rw [hv]; simp [tokValue]; omega

end Scryer.NumLex
