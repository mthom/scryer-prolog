import ScryerModel.Model.Cwil
/-!
Lemmas about the trace layer of Model/Cwil.lean (property C40).

`fires`, `passed`, `limitGo` follow one recursion on the budget and the trace; the facts relating
them are proved along it by `fires.induct`, whose cases are the clauses of `fires` in order: 1 the
trace ends, 2 / 4 a tick / probe with no budget left (the limit fires), 3 / 5 a tick / probe with
budget left, 6 a solution.
-/
namespace Scryer.Cwil
open Scryer.Solve

variable (bind : String → St → Option St) (s0 : St)

@[simp] theorem ticks_nil : ticks [] = 0 := rfl
@[simp] theorem ticks_tick (es : List Ev) : ticks (.tick :: es) = ticks es + 1 := rfl
@[simp] theorem ticks_probe (es : List Ev) : ticks (.probe :: es) = ticks es := rfl
@[simp] theorem ticks_ans (s : St) (es : List Ev) : ticks (.ans s :: es) = ticks es := rfl

theorem ticks_append (a b : List Ev) : ticks (a ++ b) = ticks a + ticks b := by
  induction a with
  | nil => exact (Nat.zero_add _).symm
  | cons e a ih =>
    cases e with
    | tick => exact (congrArg (· + 1) ih).trans (Nat.add_right_comm ..)
    | probe | ans => exact ih

@[simp] theorem cons_evs (e : Ev) (r : Res) : (r.cons e).evs = e :: r.evs := rfl
@[simp] theorem cons_fin (e : Ev) (r : Res) : (r.cons e).fin = r.fin := rfl

theorem exceededRes_eta : exceededRes bind s0 = ⟨(exceededRes bind s0).evs, .done⟩ := by
  unfold exceededRes; split <;> rfl

theorem ticks_exceeded : ticks (exceededRes bind s0).evs = 0 := by
  unfold exceededRes; split <;> rfl

theorem ticks_emitAns (a : String) (s : St) (r : Res) : ticks (emitAns bind a s r).evs = ticks r.evs := by
  unfold emitAns; split <;> rfl

theorem ticks_passed_le (b : Nat) (es : List Ev) : ticks (passed b es) ≤ b := by
  induction b, es using fires.induct with
  | case1 | case2 | case4 => exact Nat.zero_le _
  | case3 b es ih => exact Nat.succ_le_succ ih
  | case5 b es ih => exact ih
  | case6 b s es ih => exact ih

theorem passed_of_not_fires (es : List Ev) (b : Nat) (h : fires b es = false) : passed b es = es := by
  induction b, es using fires.induct with
  | case1 => rfl
  | case2 | case4 => cases h
  | case3 b es ih => exact congrArg (Ev.tick :: ·) (ih h)
  | case5 b es ih => exact congrArg (Ev.probe :: ·) (ih h)
  | case6 b s es ih => exact congrArg (Ev.ans s :: ·) (ih h)

theorem fires_of_lt (es : List Ev) (b : Nat) (h : ticks es < b) : fires b es = false := by
  induction b, es using fires.induct with
  | case1 => rfl
  | case2 | case4 => cases h
  | case3 b es ih => exact ih (Nat.lt_of_succ_lt_succ h)
  | case5 b es ih => exact ih h
  | case6 b s es ih => exact ih h

theorem annotTrue_append (a b : List Ev) : annotTrue bind (a ++ b) = annotTrue bind a ++ annotTrue bind b := by
  induction a with
  | nil => rfl
  | cons e a ih =>
    cases e with
    | tick => exact congrArg (Ev.tick :: ·) ih
    | probe => exact congrArg (Ev.probe :: ·) ih
    | ans s => simp only [List.cons_append, annotTrue, ih]; split <;> rfl

theorem ticks_annotTrue (es : List Ev) : ticks (annotTrue bind es) = ticks es := by
  induction es with
  | nil => rfl
  | cons e es ih =>
    cases e with
    | tick => exact congrArg (· + 1) ih
    | probe => exact ih
    | ans s => simp only [annotTrue, ticks_ans]; split <;> exact ih

theorem ticks_passGo (es : List Ev) (fin : Fin) : ticks (passGo bind es fin).evs = ticks es := by
  induction es with
  | nil => rfl
  | cons e es ih =>
    cases e with
    | tick => exact congrArg (· + 1) ih
    | probe => exact ih
    | ans s =>
      cases es with
      | nil => cases fin <;> first | rfl | exact ticks_emitAns ..
      | cons e es => exact (ticks_emitAns ..).trans ih

theorem ticks_passGo_le : ∀ (es : List Ev) (fin : Fin), ticks (passGo bind es fin).evs ≤ ticks es :=
  fun es fin => Nat.le_of_eq (ticks_passGo bind es fin)

theorem fires_exceeded (bo : Nat) : fires bo (exceededRes bind s0).evs = (bo == 0) := by
  unfold exceededRes
  split <;> cases bo <;> rfl

theorem fires_emitAns (bo : Nat) (a : String) (s : St) (r : Res) :
    fires bo (emitAns bind a s r).evs = fires bo r.evs := by
  unfold emitAns; split <;> rfl

/-- An enclosing limit `Lo` around `call_with_inference_limit(G, Li, _)` fires iff it is at least as
tight as `Li` and fires on `G` itself. No assumption on the trace: `G` may contain limits of its own
(a probe passes an inner limit with budget left and stops one without), so limits nested to any depth
act as their minimum, ties going outward. -/
theorem fires_limitGo (Lo Li : Nat) (es : List Ev) (fin : Fin) :
    fires Lo (limitGo bind s0 Li es fin).evs = (decide (Lo ≤ Li) && fires Lo es) := by
  induction Li, es using fires.induct generalizing Lo with
  | case1 => exact (Bool.and_false _).symm
  | case2 | case4 => exact (fires_exceeded ..).trans (by cases Lo <;> rfl)
  | case3 bi es ih =>
    cases Lo with
    | zero => rfl
    | succ bo =>
      exact (ih bo).trans (congrArg (· && fires bo es) (decide_eq_decide.mpr Nat.succ_le_succ_iff.symm))
  | case5 bi es ih =>
    cases Lo with
    | zero => rfl
    | succ bo => exact ih (bo + 1)
  | case6 bi s es ih =>
    refine Eq.trans ?_ (ih Lo)
    show fires Lo (ansStep bind s es fin (limitGo bind s0 bi es fin)).evs = _
    unfold ansStep
    split
    · rfl
    · exact fires_emitAns ..

/-- a solution that something follows (here: the limit fires later) is delivered with `R = true` -/
theorem ansStep_app {b : Nat} {es : List Ev} (h : fires b es = true) (s : St) (fin : Fin) (p : List Ev) (r : Res) :
    ansStep bind s es fin (r.app (annotTrue bind p)) = r.app (annotTrue bind (.ans s :: p)) := by
  cases es with
  | nil => cases h
  | cons => show emitAns bind "true" s _ = _; simp only [emitAns, annotTrue]; split <;> rfl

/-- With budget `k + L` the run begins as the run with `L` does up to the point where `L` fires; with nothing to
spare what follows is the refusal. (Written `k + L` the larger budget steps with `L` by computation.) -/
theorem limitGo_add {L : Nat} {es : List Ev} (h : fires L es = true) (k : Nat) (fin : Fin) :
    ∃ r : Res, limitGo bind s0 (k + L) es fin = r.app (annotTrue bind (passed L es)) ∧
      (k = 0 → r = exceededRes bind s0) := by
  induction L, es using fires.induct with
  | case1 => cases h
  | case2 | case4 => exact ⟨_, rfl, by rintro rfl; rfl⟩
  | case3 b es ih => exact (ih h).imp fun _ => And.imp_left (congrArg (Res.cons .tick))
  | case5 b es ih => exact (ih h).imp fun _ => And.imp_left (congrArg (Res.cons .probe))
  | case6 b s es ih =>
    exact (ih h).imp fun r => And.imp_left fun e =>
      (congrArg (ansStep bind s es fin) e).trans (ansStep_app bind (es := es) h ..)

end Scryer.Cwil
