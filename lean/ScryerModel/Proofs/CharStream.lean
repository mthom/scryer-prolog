import ScryerModel.Model.CharStream
/-! Lemmas for C50 (`Model/CharStream.lean`): `Lawful S abs` is what a character source has to
satisfy for the generic scanner to agree with the list scanner on `abs s` (`C50_read_refines`); the
three sources of the model are lawful; a clause reported by `scan` lies within the text. -/
namespace Scryer.CharStream
open List

/-- `abs s` is the list of characters the source `s` will still deliver. -/
structure Lawful {σ : Type} (S : Source σ) (abs : σ → List Char) : Prop where
  nil : ∀ s, abs s = [] → S.next s = none
  cons : ∀ s c r, abs s = c :: r → ∃ s', S.next s = some (c, s') ∧ abs s' = r

theorem lawful_list : Lawful listSource (fun s => s) where
  nil := by intro s h; subst h; rfl
  cons := by intro s c r h; subst h; exact ⟨r, rfl, rfl⟩

/- `contents[p]?` is the head of `contents.drop p`, and `contents.drop (p + 1)` its tail. -/

theorem lawful_pos (contents : List Char) : Lawful (posSource contents) (fun p => contents.drop p) where
  nil p h := by simp [posSource, ← head?_drop, h]
  cons p c r h := ⟨p + 1, by simp [posSource, ← head?_drop, h], by rw [← tail_drop, h]; rfl⟩

theorem lawful_pb (contents : List Char) :
    Lawful (pbSource contents) (fun s => s.1 ++ contents.drop s.2) where
  nil := by
    rintro ⟨pb, p⟩ h
    obtain ⟨rfl, h2⟩ := append_eq_nil_iff.mp h
    simp [pbSource, ← head?_drop, h2]
  cons := by
    rintro ⟨_ | ⟨d, pb⟩, p⟩ c r h
    · replace h : contents.drop p = c :: r := h
      exact ⟨([], p + 1), by simp [pbSource, ← head?_drop, h], by
        show [] ++ contents.drop (p + 1) = r
        rw [nil_append, ← tail_drop, h]; rfl⟩
    · injection h with h1 h2
      exact ⟨(pb, p), by simp [pbSource, h1], h2⟩

theorem scan_done_bounds (cs : List Char) (m : Mode) (n k : Nat) : scan m n cs = .done k →
    n ≤ k ∧ k ≤ n + cs.length := by
  fun_induction scan m n cs with
  | case1 m n =>
    -- at the end of the text only mode `dot` reports a clause, of the length counted so far
    fun_cases atEof m n <;> intro h <;> cases h
    exact ⟨Nat.le_refl _, Nat.le_refl _⟩
  -- `step m c` stops (the clause is the `n` characters before `c`), or goes on in mode `m'`
  | case2 m n c cs hs => intro h; cases h; exact ⟨Nat.le_refl _, Nat.le_add_right _ _⟩
  | case3 m n c cs m' hs ih =>
    intro h
    have := ih h
    rw [length_cons]; omega

end Scryer.CharStream
