import ScryerModel.Model.Dcg
import ScryerModel.Proofs.SolveLaws
/-
C39 — lemmas: what the translation `tr` produces for each construct, stability of the direct
semantics `den` under more fuel, and `Agree`: a fuel-indexed result lies between the interpreter on
a goal and the interpreter given some more fuel, in the order `Res.Le`.  `Stable` and `Agree` are
closed under the control constructs of the interpreter, so both `stable_den` and
`solve (tr b S0 S) = den b S0 S` (in both directions, `corr`) are inductions on `b` that name one
closure lemma per construct.
-/
namespace Scryer.Dcg
open Scryer.Solve

theorem solve_unif (n : Nat) (prog : Prog) (a b : Term) (s : St) :
    solve (n + 1) prog (unifG a b) s = unifRes n s a b := by
  have c1 : classify (.str "=" [a, b]) = .pred "=" [a, b] := rfl
  have c2 : classifyB "=" [a, b] = .unif a b := rfl
  simp only [solve, step, unifG, c1, builtin, c2, runB, unifRes]
  cases unify n s.σ a b with
  | none => rfl
  | some r => cases r <;> rfl

theorem unifRes_exc (n : Nat) (s : St) (a b : Term) :
    (unifRes n s a b).exc = none ∧ (unifRes n s a b).cut = false := by
  unfold unifRes
  cases unify n s.σ a b with
  | none => exact ⟨rfl, rfl⟩
  | some r => cases r <;> exact ⟨rfl, rfl⟩

/-- `(!, S0 = S)`, the translation of `!`. -/
theorem conjRes_cut_unif (n : Nat) (s : St) (a b : Term) :
    conjRes ⟨[s], true, .none, false⟩ (fun s' => unifRes n s' a b) = cutRes (unifRes n s a b) := by
  simp [conjRes_single, cutRes, unifRes_exc n s a b]

theorem cutRes_eq {r : Res} (h : (cutRes r).oof = false) :
    cutRes r = ⟨r.sols, true, .none, false⟩ := by
  unfold cutRes at h ⊢
  split at h
  · cases h
  · rw [if_neg ‹_›]

theorem cutRes_congr {r r' : Res} (h : Res.Le r r') : Res.Le (cutRes r) (cutRes r') :=
  h.strict fun e => by rw [e]

theorem _root_.Scryer.Solve.Stable.cut {d : Nat → Res} (h : Stable d) :
    Stable fun n => cutRes (d n) :=
  fun n k => cutRes_congr (h n k)

theorem stable_unifRes {s : St} {a b : Term} : Stable fun n => unifRes n s a b := fun n k => by
  dsimp only [unifRes]
  exact (unify_le n s.σ a b).elim (fun _ => .oofR) fun _ => .refl _

theorem ok_of_match {x : Except TrErr Term} {k : Term → Except TrErr Term} {g : Term}
    (h : (match x with
      | .error e => .error e
      | .ok A => k A) = Except.ok g) :
    ∃ A, x = .ok A ∧ k A = .ok g := by
  cases x with
  | error e => cases h
  | ok A => exact ⟨A, rfl, h⟩

theorem ok_of_match₂ {x y : Except TrErr Term} {f : Term → Term → Term} {g : Term}
    (h : (match x with
      | .error e => .error e
      | .ok A =>
        match y with
        | .error e => .error e
        | .ok B => .ok (f A B)) = Except.ok g) :
    ∃ A B, x = .ok A ∧ y = .ok B ∧ g = f A B := by
  obtain ⟨A, hA, h⟩ := ok_of_match h
  obtain ⟨B, hB, h⟩ := ok_of_match h
  exact ⟨A, B, hA, hB, (Except.ok.inj h).symm⟩

theorem tr_seq_ok {a b : Body} {m : String} {S0 S g : Term} (h : tr (.seq a b m) S0 S = .ok g) :
    ∃ A B, tr a S0 (.var m) = .ok A ∧ tr b (.var m) S = .ok B ∧ g = conjG A B :=
  ok_of_match₂ h

theorem tr_bar_ok {a b : Body} {S0 S g : Term} (h : tr (.bar a b) S0 S = .ok g) :
    ∃ A B, tr a S0 S = .ok A ∧ tr b S0 S = .ok B ∧ g = disjG A B :=
  ok_of_match₂ h

theorem tr_alt_ok {a b : Body} {S0 S g : Term} (hne : ∀ c t m, a = .ifThen c t m → False)
    (h : tr (.alt a b) S0 S = .ok g) :
    ∃ A B, tr a S0 S = .ok A ∧ tr b S0 S = .ok B ∧ g = disjG A B := by
  -- `tr.eq_7`: the clause `.alt a b` of `tr`, an equation only for `a` not an `ifThen` (`hne`)
  rw [tr.eq_7 _ _ _ _ hne] at h
  exact ok_of_match₂ h

theorem tr_ite_ok {c t e : Body} {m : String} {S0 S g : Term}
    (h : tr (.alt (.ifThen c t m) e) S0 S = .ok g) :
    ∃ C T E, tr c S0 (.var m) = .ok C ∧ tr t (.var m) S = .ok T ∧ tr e S0 S = .ok E ∧
      g = disjG (arrowG C T) E := by
  rw [tr] at h
  obtain ⟨C, hC, h⟩ := ok_of_match h
  obtain ⟨T, hT, h⟩ := ok_of_match h
  obtain ⟨E, hE, h⟩ := ok_of_match h
  exact ⟨C, T, E, hC, hT, hE, (Except.ok.inj h).symm⟩

/-- every construct but a non-terminal has its own principal functor, and a non-terminal gains
    two arguments. -/
theorem tr_not_arrow {a : Body} {S0 S A : Term} (h : tr a S0 S = .ok A) (hn : arrowNT a = false) :
    ∀ c t, A ≠ .str "->" [c, t] := by
  intro c t hA
  subst hA
  have ne : ∀ {f : String} {args : List Term}, f ≠ "->" → Term.str f args ≠ .str "->" [c, t] :=
    fun hf e => hf (Term.str.inj e).1
  cases a with
  | var v | nil | terms ts | brace g | call1 c | phrase args | cut =>
    exact ne (by decide) (Except.ok.inj h)
  | badList t | ifThen c t m | naf g => cases h
  | seq a b m => obtain ⟨_, _, _, _, e⟩ := tr_seq_ok h; exact ne (by decide) e.symm
  | bar a b => obtain ⟨_, _, _, _, e⟩ := tr_bar_ok h; exact ne (by decide) e.symm
  | alt a b =>
    cases a with
    | ifThen c' t' m => obtain ⟨_, _, _, _, _, _, e⟩ := tr_ite_ok h; exact ne (by decide) e.symm
    | _ =>
      obtain ⟨_, _, _, _, e⟩ := tr_alt_ok (fun _ _ _ x => by cases x) h
      exact ne (by decide) e.symm
  | nonterm t =>
    have h := Except.ok.inj h
    cases t with
    | atom a =>
      obtain ⟨rfl, _⟩ := Term.str.inj h
      cases hn
    | str f args =>
      obtain ⟨rfl, h2⟩ := Term.str.inj h
      cases args with
      | nil => cases hn
      | cons x xs => exact absurd (congrArg List.length h2) (by simp)
    | _ => cases h

theorem stable_den (prog : Prog) (b : Body) (S0 S : Term) (s : St) :
    Stable fun n => den n prog b S0 S s := by
  induction b, S0, S, s using den.induct with
  -- the clauses of `den` in order: 1 `[]`, 2 terminals, 3 `,`, 4 `(c -> t ; e)`, 5 any other `;`
  -- (`den.eq_5`, given `hne`), 6 `|`, 7 a bare `->`, 8 `{}`, 9 `!`, 10 `call//1`, 11 a
  -- non-terminal (`call//N` with arguments is one), 12 a variable, 13 `phrase`, 14 / 15 a list
  -- that is not proper and `\+` (`Res.oofR` at any fuel)
  | case1 | case2 => exact stable_unifRes
  | case3 _ _ _ _ _ _ iha ihb => exact iha.conj ihb
  | case4 _ _ _ _ _ _ _ ihc iht ihe => exact ihc.ite iht ihe
  | case5 a b S0 S s hne iha ihb =>
    rw [funext fun n => den.eq_5 n prog S0 S s a b hne]
    exact iha.disj ihb
  | case6 _ _ _ _ _ iha ihb => exact iha.disj ihb
  | case7 _ _ _ _ _ _ ihc iht => exact ihc.ite iht fun _ _ _ => rfl
  | case8 => exact stable_solve.conj fun _ => stable_unifRes
  | case9 => exact stable_unifRes.cut
  | case10 => exact stable_call
  | case11 | case12 | case13 => exact stable_solve
  | case14 | case15 => exact fun _ _ h => nomatch h

/-- The fuel-indexed result `d` lies between the interpreter on `g` in state `s` and the interpreter
    given `k₀` more fuel: `solve n ⊑ d n ⊑ solve (n + k)` for `k ≥ k₀`, in the order `Res.Le`. -/
structure Agree (prog : Prog) (g : Term) (s : St) (d : Nat → Res) (k₀ : Nat) : Prop where
  le : ∀ n, Res.Le (solve n prog g s) (d n)
  ge : ∀ n k, k₀ ≤ k → Res.Le (d n) (solve (n + k) prog g s)

variable {prog : Prog} {s : St}

theorem Agree.weaken {g : Term} {d : Nat → Res} {k₀ k₁ : Nat} (h : Agree prog g s d k₀)
    (hk : k₀ ≤ k₁) : Agree prog g s d k₁ :=
  ⟨h.le, fun n k hk' => h.ge n k (Nat.le_trans hk hk')⟩

/-- a sub-goal is run with one unit less than the goal; the interpreter's own monotonicity makes
    that up, so nothing is asked of `d`. -/
theorem Agree.succ {g : Term} {d : Nat → Res} {k₀ : Nat} (h : Agree prog g s d k₀) (n : Nat) :
    Res.Le (solve n prog g s) (d (n + 1)) :=
  (solve_mono prog 1 n g s).trans (h.le (n + 1))

theorem Agree.runs_iff {g : Term} {d : Nat → Res} {k₀ : Nat} (h : Agree prog g s d k₀) (r : Res) :
    Runs prog g s r ↔ ∃ n, d n = r ∧ r.oof = false := by
  constructor
  · rintro ⟨n, rfl, o⟩
    exact ⟨n, h.le n o, o⟩
  · rintro ⟨n, rfl, o⟩
    exact ⟨n + k₀, h.ge n k₀ (Nat.le_refl _) o, o⟩

/-- one step of the interpreter on `g` is `F` (an equation `solve_*`) and `d` lies between `F` and
    `F` given `k₀` more fuel; the step costs one unit. -/
theorem Agree.of_step {g : Term} {d F : Nat → Res} {k₀ : Nat}
    (e : ∀ n, solve (n + 1) prog g s = F n) (h1 : ∀ n, Res.Le (F n) (d (n + 1)))
    (h2 : ∀ n k, k₀ ≤ k → Res.Le (d n) (F (n + k))) : Agree prog g s d (1 + k₀) := by
  refine ⟨fun n => ?_, fun n k hk => ?_⟩
  · cases n with
    | zero => exact .oofR
    | succ n => exact e n ▸ h1 n
  · rw [Nat.add_comm] at hk
    cases k with
    | zero => exact nomatch hk
    | succ k => exact e (n + k) ▸ h2 n k (Nat.le_of_succ_le_succ hk)

theorem agree_solve (g : Term) {k₀ : Nat} : Agree prog g s (fun n => solve n prog g s) k₀ :=
  ⟨fun _ => .refl _, fun n k _ => solve_mono prog k n g s⟩

theorem agree_of_step {g : Term} {d : Nat → Res} (e : ∀ n, solve (n + 1) prog g s = d n)
    (m : Stable d) : Agree prog g s d 1 :=
  .of_step (k₀ := 0) e (fun n => m n 1) fun n k _ => m n k

theorem agree_unif (a b : Term) : Agree prog (unifG a b) s (fun n => unifRes n s a b) 1 :=
  agree_of_step (fun n => solve_unif n prog a b s) stable_unifRes

theorem agree_cut : Agree prog (.atom "!") s (fun _ => ⟨[s], true, .none, false⟩) 1 :=
  agree_of_step (solve_cut · prog s) fun _ _ _ => rfl

theorem agree_call3 (c a b : Term) :
    Agree prog (.str "call" [c, a, b]) s (fun n => callGoal (solve n prog) n s c [a, b]) 1 :=
  agree_of_step (fun n => solve_call n prog s c [a, b] (by decide : 2 ≤ 7)) stable_call

section
variable {kA kB kC : Nat}

theorem Agree.conj {A B : Term} {dA : Nat → Res} {dB : St → Nat → Res}
    (hA : Agree prog A s dA kA) (hB : ∀ s', Agree prog B s' (dB s') kB) :
    Agree prog (conjG A B) s (fun n => conjRes (dA n) fun s' => dB s' n) (1 + max kA kB) :=
  .of_step (solve_conj · prog s A B) (fun n => conjRes_congr (hA.succ n) fun s' => (hB s').succ n)
    fun n k hk =>
    conjRes_congr (hA.ge n k (Nat.le_trans (Nat.le_max_left ..) hk))
      fun s' => (hB s').ge n k (Nat.le_trans (Nat.le_max_right ..) hk)

theorem Agree.disj {A B : Term} {dA dB : Nat → Res}
    (hna : ∀ c t, A ≠ .str "->" [c, t]) (hA : Agree prog A s dA kA) (hB : Agree prog B s dB kB) :
    Agree prog (disjG A B) s (fun n => disjRes (dA n) fun _ => dB n) (1 + max kA kB) :=
  .of_step (solve_disj · prog s A B hna) (fun n => disjRes_congr (hA.succ n) (hB.succ n))
    fun n k hk => disjRes_congr (hA.ge n k (Nat.le_trans (Nat.le_max_left ..) hk))
      (hB.ge n k (Nat.le_trans (Nat.le_max_right ..) hk))

/-- `(C -> T ; E)` is two constructors deep and costs the interpreter one unit; the inner `1 +` is
    slack, so that the bound is `need (.alt (.ifThen c t _) e)`. -/
theorem Agree.ite {C T E : Term} {dC dE : Nat → Res} {dT : St → Nat → Res}
    (hC : Agree prog C s dC kA) (hT : ∀ s', Agree prog T s' (dT s') kB) (hE : Agree prog E s dE kC) :
    Agree prog (disjG (arrowG C T) E) s
      (fun n => iteRes (dC n) (fun s' => dT s' n) fun _ => dE n) (1 + max (1 + max kA kB) kC) :=
  .of_step (solve_ite · prog s C T E)
    (fun n => iteRes_congr (hC.succ n) (fun s' => (hT s').succ n) (hE.succ n)) fun n k hk =>
    have hk' := Nat.le_trans (Nat.le_add_left ..) (Nat.le_trans (Nat.le_max_left ..) hk)
    iteRes_congr (hC.ge n k (Nat.le_trans (Nat.le_max_left ..) hk'))
      (fun s' => (hT s').ge n k (Nat.le_trans (Nat.le_max_right ..) hk'))
      (hE.ge n k (Nat.le_trans (Nat.le_max_right ..) hk))

end

/-- how much more fuel the interpreter needs for the control structure of the translated body;
    the leaves need 0, 1 or 2, and 2 serves for all of them. -/
def need : Body → Nat
  | .seq a b _ => 1 + max (need a) (need b)
  | .alt a b => 1 + max (need a) (need b)
  | .bar a b => 1 + max (need a) (need b)
  | .ifThen c t _ => 1 + max (need c) (need t)
  | _ => 2

theorem ok_alt {a b : Body} (h : (!arrowNT a && a.ok && b.ok) = true) :
    arrowNT a = false ∧ a.ok = true ∧ b.ok = true := by
  simpa [and_assoc] using h

theorem corr (prog : Prog) (b : Body) (S0 S : Term) (s : St) (g : Term) (htr : tr b S0 S = .ok g)
    (hok : b.ok = true) : Agree prog g s (fun n => den n prog b S0 S s) (need b) := by
  induction b, S0, S, s using den.induct generalizing g with
  -- cases numbered as in `stable_den`; 7, 14, 15 are the bodies `tr` rejects
  | case1 S0 S s =>
    obtain rfl := Except.ok.inj htr
    exact (agree_unif S0 S).weaken (Nat.le_succ 1)
  | case2 ts S0 S s =>
    obtain rfl := Except.ok.inj htr
    exact (agree_unif S0 _).weaken (Nat.le_succ 1)
  | case3 a b m S0 S s iha ihb =>
    obtain ⟨A, B, hA, hB, rfl⟩ := tr_seq_ok htr
    obtain ⟨oa, ob⟩ := Bool.and_eq_true_iff.mp hok
    exact (iha A hA oa).conj fun s' => ihb s' B hB ob
  | case4 c t m e S0 S s ihc iht ihe =>
    obtain ⟨C, T, E, hC, hT, hE, rfl⟩ := tr_ite_ok htr
    obtain ⟨-, oct, oe⟩ := ok_alt hok
    obtain ⟨oc, ot⟩ := Bool.and_eq_true_iff.mp oct
    exact (ihc C hC oc).ite (fun s' => iht s' T hT ot) (ihe E hE oe)
  | case5 a b S0 S s hne iha ihb =>
    obtain ⟨A, B, hA, hB, rfl⟩ := tr_alt_ok hne htr
    obtain ⟨hn, oa, ob⟩ := ok_alt hok
    rw [funext fun n => den.eq_5 n prog S0 S s a b hne]
    exact (iha A hA oa).disj (tr_not_arrow hA hn) (ihb B hB ob)
  | case6 a b S0 S s iha ihb =>
    obtain ⟨A, B, hA, hB, rfl⟩ := tr_bar_ok htr
    obtain ⟨hn, oa, ob⟩ := ok_alt hok
    exact (iha A hA oa).disj (tr_not_arrow hA hn) (ihb B hB ob)
  | case7 | case14 | case15 => cases htr
  | case8 gt S0 S s =>
    obtain rfl := Except.ok.inj htr
    exact (agree_solve gt (k₀ := 1)).conj fun s' => agree_unif S0 S
  | case9 S0 S s =>
    obtain rfl := Except.ok.inj htr
    have h := (agree_cut (prog := prog) (s := s)).conj fun s' => agree_unif S0 S
    simp only [conjRes_cut_unif] at h
    exact h
  | case10 c S0 S s =>
    obtain rfl := Except.ok.inj htr
    exact (agree_call3 c S0 S).weaken (Nat.le_succ 1)
  | case11 | case12 | case13 =>
    obtain rfl := Except.ok.inj htr
    exact agree_solve _

end Scryer.Dcg
