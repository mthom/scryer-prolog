import ScryerModel.Model.Cleanup
/-
Lemmas for Props/C12.lean: unification only extends a substitution (so that the recovery goal of a
catch/3 sees the substitution of the catch entry plus the catcher unifier), counting of clean-up
markers (`cls`, under the hypothesis `Quiet`), handlers add no answers and a ball survives leaving a scope, and the invariants
of the clean-up bookkeeping machine `Scryer.Exc.Proto` (`Live`, and the list `ran ++ ids cont`, which
only `install` changes).
-/
namespace Scryer.Exc
open Scryer.Solve

/-! ### unification only extends the substitution -/

/-- `σ'` is `σ` with newer bindings in front (substitutions are association lists, newest first). -/
def Extends (σ' σ : Subst) : Prop := ∃ δ, σ' = δ ++ σ

theorem Extends.of_suffix {σ' σ : Subst} (h : σ <:+ σ') : Extends σ' σ := h.imp fun _ => Eq.symm

theorem bindVar_suffix {n : Nat} {σ : Subst} {v : String} {t : Term} {σ' : Subst}
    (h : bindVar n σ v t = some (some σ')) : σ <:+ σ' := by
  unfold bindVar at h
  split at h
  · cases h
  · cases h
  · cases h; exact List.suffix_cons _ _

theorem unify_suffix_aux (n : Nat) :
    (∀ σ a b σ', unify n σ a b = some (some σ') → σ <:+ σ') ∧
    (∀ σ as bs σ', unifyList n σ as bs = some (some σ') → σ <:+ σ') := by
  induction n with
  | zero => exact ⟨nofun, nofun⟩
  | succ n ih =>
    obtain ⟨ih1, ih2⟩ := ih
    constructor
    · intro σ a b σ' h
      unfold unify at h
      -- `walk` of either side out of fuel
      split at h
      · cases h
      split at h
      · cases h
      -- both sides walked: two variables / a variable and a term (twice) / two structures / constants
      split at h
      · split at h <;> cases h
        · exact List.suffix_refl _
        · exact List.suffix_cons _ _
      · exact bindVar_suffix h
      · exact bindVar_suffix h
      · split at h
        · exact ih2 _ _ _ _ h
        · cases h
      · split at h <;> cases h
        exact List.suffix_refl _
    · intro σ as bs σ' h
      cases as <;> cases bs
      · cases h; exact List.suffix_refl _
      · cases h
      · cases h
      · unfold unifyList at h
        split at h
        · cases h
        · cases h
        · exact (ih1 _ _ _ _ ‹_›).trans (ih2 _ _ _ _ h)

theorem unify_extends {n : Nat} {σ : Subst} {a b : Term} {σ' : Subst}
    (h : unify n σ a b = some (some σ')) : Extends σ' σ := .of_suffix ((unify_suffix_aux n).1 σ a b σ' h)

/-- the hypothesis excludes a newer binding of the same name, which unification never creates for
    a bound variable. -/
theorem lookup_append_of_none (δ σ : Subst) (v : String) (h : lookup δ v = none) :
    lookup (δ ++ σ) v = lookup σ v := by
  induction δ with
  | nil => rfl
  | cons p δ ih =>
    obtain ⟨w, t⟩ := p
    simp only [List.cons_append, lookup] at h ⊢
    split at h
    · simp at h
    · rename_i hw; simp only [hw]; exact ih h

/-! ### counting clean-up markers -/

/-- number of clean-up runs recorded in a trace -/
def cls : List Item → Nat
  | [] => 0
  | .cl _ :: rest => cls rest + 1
  | _ :: rest => cls rest

@[simp] theorem cls_nil : cls [] = 0 := rfl
@[simp] theorem cls_cl (k : CK) (r : List Item) : cls (.cl k :: r) = cls r + 1 := rfl
@[simp] theorem cls_ev (t : Term) (r : List Item) : cls (.ev t :: r) = cls r := rfl
@[simp] theorem cls_su (r : List Item) : cls (.su :: r) = cls r := rfl
@[simp] theorem cls_ans (a : XS) (r : List Item) : cls (.ans a :: r) = cls r := rfl

@[simp] theorem cls_append (a b : List Item) : cls (a ++ b) = cls a + cls b := by
  induction a with
  | nil => simp
  | cons x a ih =>
    cases x <;> simp [ih] <;> omega

/-- the handler goal `c` never records a clean-up marker itself (it contains no
    `setup_call_cleanup/3` that gets as far as running its own handler). -/
def Quiet (call : Call) (c : Term) : Prop :=
  ∀ σ ctr, cls (runClean call σ ctr c).items = 0

theorem fireCut_cls (call : Call) (ps : List Pending) (σ : Subst) (c : Nat)
    (hq : ∀ p ∈ ps, Quiet call p.goal) (ho : (fireCut call ps σ c).oof = false) :
    cls (fireCut call ps σ c).items = ps.length := by
  fun_induction fireCut call ps σ c with
  | case1 => rfl
  -- the handler, or the rest of the list, runs out of fuel
  | case2 | case3 => cases ho
  -- handler `p` runs (`o`), then the older ones from the state it leaves (`f`)
  | case4 p ps σ c o _ st f hf ih =>
    have hp : cls o.items = 0 := hq p (by simp) σ c
    simpa [hp] using ih (fun q hq' => hq q (by simp [hq'])) (by simpa using hf)

theorem fireExc_cls (call : Call) (ps : List Pending) (its : List Item)
    (hq : ∀ p ∈ ps, Quiet call p.goal) (h : fireExc call ps = some its) : cls its = ps.length := by
  fun_induction fireExc call ps generalizing its with
  | case1 => cases h; rfl
  -- the handler, or the rest of the list, runs out of fuel
  | case2 | case3 => cases h
  -- handler `p` runs (`o`), the older ones give `r`
  | case4 p ps o _ r hr ih =>
    cases h
    have hp : cls o.items = 0 := hq p (by simp) p.σ0 p.ctr0
    simpa [hp] using ih r (fun q hq' => hq q (by simp [hq'])) hr

/-! ### handlers add no answers -/

theorem answersOf_append (a b : List Item) : answersOf (a ++ b) = answersOf a ++ answersOf b := by
  induction a with
  | nil => rfl
  | cons x a ih => cases x <;> simp [answersOf, ih]

theorem splitFirst_pre_no_answers : ∀ (l : List Item), answersOf (splitFirst l).1 = [] := by
  intro l
  induction l with
  | nil => rfl
  | cons x l ih => cases x <;> simp [splitFirst, answersOf, ih]

theorem runClean_no_answers (call : Call) (σ : Subst) (c : Nat) (g : Term) :
    answersOf (runClean call σ c g).items = [] := by
  simp only [runClean]
  split
  · rfl
  · have := splitFirst_pre_no_answers (call ⟨σ, c, true, []⟩ g).items
    split <;> rename_i heq <;> simp only [heq] at this <;> exact this

theorem fireCut_no_answers (call : Call) (ps : List Pending) (σ : Subst) (c : Nat) :
    answersOf (fireCut call ps σ c).items = [] := by
  fun_induction fireCut call ps σ c with
  -- no handler, or out of fuel: no items at all
  | case1 | case2 | case3 => rfl
  | case4 p ps σ c o _ st f _ ih =>
    simpa [answersOf, answersOf_append, runClean_no_answers, o] using ih

/-! ### a ball survives leaving a scope -/

/-- every combinator gives up with `oofR` when a part of it is out of fuel; a result that is not out of
    fuel is therefore the other branch, and the part had fuel. -/
theorem of_oof_false {c : Bool} {r : XRes} (h : (if c then XRes.oofR else r).oof = false) :
    c = false ∧ (if c then XRes.oofR else r) = r := by
  cases c
  · exact ⟨rfl, rfl⟩
  · cases h

theorem prepend_eq {pre : List Item} {r : XRes} (h : (prepend pre r).oof = false) :
    r.oof = false ∧ prepend pre r = ⟨pre ++ r.items, r.cut, r.exc, false⟩ := of_oof_false h

theorem propagate_exc {call : Call} {s : XS} {r : XRes} (h : (propagate call s r).oof = false) :
    (propagate call s r).exc = r.exc := by
  unfold propagate at h ⊢
  obtain ⟨_, h2⟩ := of_oof_false h
  rw [h2] at h ⊢
  cases he : r.exc with
  | none => exact he
  | some e =>
    simp only [he] at h ⊢
    cases hf : fireExc call s.pend with
    | none => simp [hf, XRes.oofR] at h
    | some its => rfl

theorem leave_exc {call : Call} {s : XS} {r : XRes} (h : (leave call s r).oof = false) :
    (leave call s r).exc = r.exc := by
  unfold leave at h ⊢
  obtain ⟨_, h2⟩ := of_oof_false h
  rw [h2] at h ⊢
  exact propagate_exc h

/-! ### the bookkeeping machine -/

namespace Proto

/-- the handler ids of `cont_pts`, newest first: the pending handlers. -/
def ids (c : List (Nat × Nat)) : List Nat := c.map Prod.fst

/-- the handler ids a run of operations installs, in order; `run_log` accounts for each of them. -/
def installs : List Op → List Nat
  | [] => []
  | .install id :: os => id :: installs os
  | _ :: os => installs os

theorem installs_cons (o : Op) (os : List Op) : installs (o :: os) = installs [o] ++ installs os := by
  cases o <;> simp [installs]

theorem runCleaners_eq (b : Nat) (c : List (Nat × Nat)) :
    runCleaners b c =
      (c.dropWhile (fun p => decide (b < p.2)), (c.takeWhile (fun p => decide (b < p.2))).map Prod.fst) := by
  induction c with
  | nil => rfl
  | cons p c ih =>
    simp only [runCleaners]
    by_cases h : b < p.2
    · simp [h, ih]
    · simp [h]

theorem runCleaners_split (b : Nat) (c : List (Nat × Nat)) :
    ids c = (runCleaners b c).2 ++ ids (runCleaners b c).1 := by
  rw [runCleaners_eq, ids, ids, ← List.map_append, List.takeWhile_append_dropWhile]

/-- the chain `b ≥ c₁ > c₂ > … ≥ 1` of the cut-offs in `cont_pts`, read from the newest choice point
    down: every pending handler belongs to a live choice point, and to one below its predecessor's. -/
def Live : Nat → List (Nat × Nat) → Prop
  | _, [] => True
  | b, (_, c) :: rest => 1 ≤ c ∧ c ≤ b ∧ Live (c - 1) rest

theorem Live.mono {b b' : Nat} (hb : b ≤ b') : ∀ {c : List (Nat × Nat)}, Live b c → Live b' c
  | [], _ => trivial
  | _ :: _, ⟨h1, h2, h3⟩ => ⟨h1, Nat.le_trans h2 hb, h3⟩

theorem Live.mem : ∀ {b : Nat} {c : List (Nat × Nat)}, Live b c → ∀ p ∈ c, 1 ≤ p.2 ∧ p.2 ≤ b
  | _, _ :: _, ⟨h1, h2, h3⟩, p, hp => by
    rcases List.mem_cons.mp hp with rfl | hp
    · exact ⟨h1, h2⟩
    · exact ⟨(h3.mem p hp).1, by have := (h3.mem p hp).2; omega⟩

theorem Live.runCleaners (k : Nat) : ∀ {b : Nat} {c : List (Nat × Nat)}, Live b c →
    Live k (runCleaners k c).1
  | _, [], _ => trivial
  | _, (id, cutoff) :: rest, ⟨h1, _, h3⟩ => by
    simp only [Proto.runCleaners]
    split
    · exact h3.runCleaners k
    · exact ⟨h1, by omega, h3⟩

theorem step_live (s : PS) (o : Op) (h : Live s.b s.cont) : Live (step s o).b (step s o).cont := by
  obtain ⟨b, cont, ran⟩ := s
  cases o with
  | push => exact h.mono (Nat.le_succ b)
  | pop =>
    cases cont with
    | nil => trivial
    | cons p rest =>
      simp only [step]
      split
      -- the popped choice point lies above the newest handler's (`cutoff < b`): `cutoff ≤ b - 1`
      · exact ⟨h.1, by simp only; omega, h.2.2⟩
      · exact h
  | install id => exact ⟨Nat.succ_pos b, Nat.le_refl _, h⟩
  | exit | failInto =>
    -- the newest entry goes together with its choice point: what is below it is live below it
    cases cont with
    | nil => exact h
    | cons p rest =>
      simp only [step]
      split
      · rename_i heq; exact heq ▸ h.2.2
      · exact h
  | cut k | unwind k =>
    simp only [step]
    split
    · exact h.runCleaners k
    · exact h

theorem run_live : ∀ (os : List Op) (s : PS), Live s.b s.cont → Live (run s os).b (run s os).cont
  | [], _, h => h
  | o :: os, s, h => run_live os _ (step_live s o h)

/-- no operation but `install` changes the list of the handlers that have run followed by those
    that are pending; `install` puts its handler between the two. -/
theorem step_log (s : PS) (o : Op) :
    (step s o).ran ++ ids (step s o).cont = s.ran ++ (installs [o] ++ ids s.cont) := by
  obtain ⟨b, cont, ran⟩ := s
  cases o with
  | push | install id => rfl
  | pop =>
    cases cont with
    | nil => rfl
    | cons p rest => simp only [step]; split <;> rfl
  | exit | failInto =>
    cases cont with
    | nil => rfl
    | cons p rest =>
      simp only [step]
      split
      · exact List.append_assoc ran [p.1] (ids rest)
      · rfl
  | cut k | unwind k =>
    simp only [step]
    split
    · rw [List.append_assoc, ← runCleaners_split]; rfl
    · rfl

/-- every handler that was installed has run or is pending, as often as it was installed. -/
theorem run_log : ∀ (os : List Op) (s : PS),
    ((run s os).ran ++ ids (run s os).cont).Perm (installs os ++ (s.ran ++ ids s.cont))
  | [], _ => .refl _
  | o :: os, s => by
    refine (run_log os (step s o)).trans ?_
    rw [step_log, installs_cons o os, List.append_assoc]
    exact ((List.perm_append_comm_assoc ..).append_left _).trans (List.perm_append_comm_assoc ..)

end Proto

end Scryer.Exc
