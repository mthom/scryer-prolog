/-!
Facts about lists (and one each about Boolean tests, `Except` and `Char.ofNat`) that mention no model
definition and that more than one slice needs.
-/

namespace Scryer

theorem map_eq_map_iff_zip {α β} {f : α → β} : ∀ {as bs : List α}, as.length = bs.length →
    (as.map f = bs.map f ↔ ∀ q ∈ as.zip bs, f q.1 = f q.2)
  | [], [], _ => ⟨fun _ => nofun, fun _ => rfl⟩
  | a :: as, b :: bs, h => by
    rw [List.map_cons, List.map_cons, List.cons.injEq, List.zip_cons_cons, List.forall_mem_cons,
      map_eq_map_iff_zip (Nat.succ.inj h)]

theorem nodup_of_pairwise {α} {r : α → α → Prop} {l : List α} (h : l.Pairwise r)
    (irrefl : ∀ a, ¬r a a) : l.Nodup :=
  h.imp fun {a b} (hab : r a b) (e : a = b) => irrefl b (e ▸ hab)

theorem pairwise_ext {α} {r : α → α → Prop} (asymm : ∀ a b, r a b → ¬r b a) {l₁ l₂ : List α}
    (h₁ : l₁.Pairwise r) (h₂ : l₂.Pairwise r) (h : ∀ x, x ∈ l₁ ↔ x ∈ l₂) : l₁ = l₂ :=
  have irrefl a (haa : r a a) := asymm a a haa haa
  List.Perm.eq_of_pairwise (fun _ _ _ _ hab hba => absurd hba (asymm _ _ hab)) h₁ h₂
    ((List.perm_ext_iff_of_nodup (nodup_of_pairwise h₁ irrefl) (nodup_of_pairwise h₂ irrefl)).2 h)

theorem length_le_one_of_nodup {α} {l : List α} (hn : l.Nodup) (h : ∀ a ∈ l, ∀ b ∈ l, a = b) :
    l.length ≤ 1 := by
  match l, hn, h with
  | [], _, _ => exact Nat.zero_le 1
  | [_], _, _ => exact Nat.le_refl 1
  | a :: b :: _, hn, h =>
    have hab := h a List.mem_cons_self b (List.mem_cons_of_mem _ List.mem_cons_self)
    exact absurd (List.mem_cons.2 (Or.inl hab)) (List.nodup_cons.1 hn).1

theorem idxOf_cons_ne {α} [BEq α] [LawfulBEq α] {x a : α} (l : List α) (h : x ≠ a) :
    (x :: l).idxOf a = l.idxOf a + 1 := by
  rw [List.idxOf_cons, beq_false_of_ne h]
  rfl

theorem map_range_succ {α} (f : Nat → α) (n : Nat) :
    (List.range (n + 1)).map f = f 0 :: (List.range n).map fun i => f (i + 1) := by
  rw [List.range_succ_eq_map, List.map_cons, List.map_map]; rfl

/-- the integers from `l`, `n` of them (none for `n ≤ 0`); `toNat` is dealt with here, so that a user
whose length is `(h - l + 1).toNat` or `(u + 1 - l).toNat` is left with a linear goal. -/
theorem mem_map_range_add {l x n : Int} :
    x ∈ (List.range n.toNat).map (fun i : Nat => l + (i : Int)) ↔ l ≤ x ∧ x < l + n := by
  simp only [List.mem_map, List.mem_range]
  exact ⟨by rintro ⟨i, hi, rfl⟩; omega, fun h => ⟨(x - l).toNat, by omega, by omega⟩⟩

theorem pairwise_map_range_add (l : Int) (k : Nat) :
    ((List.range k).map fun i : Nat => l + (i : Int)).Pairwise (· < ·) :=
  List.pairwise_map.2 (List.pairwise_lt_range.imp fun h => by omega)

/-- a list of blocks `(g a).map (h a)`, one for each `a` of `l`, is ordered if every block is and
the blocks are among each other: the shape of an enumeration in lexicographic order. -/
theorem pairwise_flatMap_map {α β γ} {R : γ → γ → Prop} {l : List α} {g : α → List β}
    {h : α → β → γ} (hin : ∀ a ∈ l, (g a).Pairwise fun x y => R (h a x) (h a y))
    (hout : l.Pairwise fun a a' => ∀ x y, R (h a x) (h a' y)) :
    (l.flatMap fun a => (g a).map (h a)).Pairwise R :=
  List.pairwise_flatMap.2 ⟨fun a ha => List.pairwise_map.2 (hin a ha), hout.imp fun hab _ hx _ hy => by
    obtain ⟨x, _, rfl⟩ := List.mem_map.1 hx
    obtain ⟨y, _, rfl⟩ := List.mem_map.1 hy
    exact hab x y⟩

theorem sublist_flatMap {α β} {f g : α → List β} {l₁ l₂ : List α} (hl : l₁.Sublist l₂)
    (h : ∀ x ∈ l₁, (f x).Sublist (g x)) : (l₁.flatMap f).Sublist (l₂.flatMap g) := by
  induction hl with
  | slnil => exact .slnil
  | cons a _ ih => exact (ih h).trans (List.sublist_append_right ..)
  | cons_cons a _ ih =>
    exact (h a List.mem_cons_self).append (ih fun x hx => h x (List.mem_cons_of_mem a hx))

/-- a Boolean test (a character class, say) that holds of `c` and fails of `x` tells them apart. -/
theorem ne_of_class {α} {p : α → Bool} {c x : α} (hc : p c = true) (hx : p x = false) : c ≠ x :=
  fun e => Bool.noConfusion (hc.symm.trans (e ▸ hx))

theorem bind_ok {ε α β} {x : Except ε α} {f : α → Except ε β} {b : β} (h : x >>= f = .ok b) :
    ∃ a, x = .ok a ∧ f a = .ok b := by
  cases x with
  | error e => exact nomatch h
  | ok a => exact ⟨a, rfl, h⟩

theorem forall_getD {α} {p : α → Prop} {l : List α} {d : α} (h : ∀ a ∈ l, p a) (hd : p d) (i : Nat) :
    p (l.getD i d) := by
  rw [List.getD_eq_getElem?_getD]
  cases h' : l[i]? with
  | none => exact hd
  | some a => exact h a (List.mem_of_getElem? h')

theorem toNat_ofNat_valid (n : Nat) (h : n.isValidChar) : (Char.ofNat n).toNat = n := by
  rw [Char.ofNat, dif_pos h]; rfl

/-- a fold whose step extends a closed form `F` of the input read so far computes `F`. -/
theorem foldl_of_concat {α β} {f : β → α → β} {F : List α → β} (h : ∀ p x, f (F p) x = F (p ++ [x])) :
    ∀ (l p : List α), l.foldl f (F p) = F (p ++ l)
  | [], p => by simp
  | x :: l, p => by rw [List.foldl_cons, h, foldl_of_concat h l, List.append_assoc]; rfl

/-! Keep-first deduplication, for any `f` with the two defining equations (the slices each define
their own, over their own element type). -/
section keepFirst
variable {α} [DecidableEq α] {f : List α → List α} (h0 : f [] = [])
  (hc : ∀ x l, f (x :: l) = x :: (f l).filter (· != x))
include h0 hc

theorem mem_keepFirst {v : α} : ∀ {l : List α}, v ∈ f l ↔ v ∈ l
  | [] => by rw [h0]
  | x :: l => by
    rw [hc, List.mem_cons, List.mem_cons, List.mem_filter, mem_keepFirst, bne_iff_ne]
    by_cases h : v = x <;> simp [h]

theorem nodup_keepFirst : ∀ l : List α, (f l).Nodup
  | [] => by rw [h0]; exact .nil
  | x :: l => by
    rw [hc, List.nodup_cons, List.mem_filter]
    exact ⟨fun h => bne_iff_ne.1 h.2 rfl, (nodup_keepFirst l).filter _⟩

end keepFirst

end Scryer
