import ScryerModel.Model.Loader
import ScryerModel.Proofs.ListFacts
/-
Lemmas for C35: assignment tables (last write wins), the normal form of a clause-group step on
well-formed records (`keep`, `stepK_group`) and with it the preservation of `Pred.wf2`, the closed
form of a run of clause groups (`stepK_closed`, `foldl_groups_closed`) and of a run of declarations
(`declsFold_eq`), the file load of a text with a clause group written out in terms of the record it
starts from (`closed_file`), and with it the idempotence of the closed form of a file load
(`spec_idem_file`).
-/
namespace Scryer.Loader

/-! ### the clauses of other sources -/

@[simp] theorem foreign_nil (src : Src) : foreign src [] = [] := rfl

theorem foreign_append (src : Src) (a b : List Cl) :
    foreign src (a ++ b) = foreign src a ++ foreign src b := by
  simp [foreign]

theorem foreign_ownCls (src : Src) (vs : List Nat) : foreign src (ownCls src vs) = [] := by
  induction vs with
  | nil => rfl
  | cons v vs ih =>
    simp only [ownCls, List.map_cons, foreign, List.filter_cons] at ih ⊢
    simp [ih]

theorem foreign_idem (src : Src) (cs : List Cl) : foreign src (foreign src cs) = foreign src cs := by
  simp [foreign]

theorem foreign_of_not_any (src : Src) (cs : List Cl)
    (h : cs.any (fun c => c.own == src) = false) : foreign src cs = cs := by
  induction cs with
  | nil => rfl
  | cons c cs ih =>
    rw [List.any_cons, Bool.or_eq_false_iff] at h
    have := ih h.2
    unfold foreign at this ⊢
    rw [List.filter_cons, bne, h.1, this]
    rfl

/-- the retraction of the source's clauses does not depend on whether there are any. -/
theorem retract_eq (src : Src) (cs : List Cl) (t nd : Bool) :
    (if (t && cs.any (fun c => c.own == src) && nd) = true then foreign src cs else cs) =
      if (t && nd) = true then foreign src cs else cs := by
  cases h : cs.any (fun c => c.own == src)
  · simp [foreign_of_not_any src cs h]
  · simp

theorem ownCls_append (src : Src) (a b : List Nat) :
    ownCls src (a ++ b) = ownCls src a ++ ownCls src b := by
  simp [ownCls]

/-! ### assignment tables: the last write wins -/

theorem applyAssigns_eq (as : List (Nat × Option Nat)) (t : Tbl) (o : Nat) :
    applyAssigns as t o = match lastAssign o as with
      | some v => v
      | none => t o := by
  induction as generalizing t with
  | nil => rfl
  | cons a as ih =>
    simp only [applyAssigns, List.foldl_cons] at ih ⊢
    rw [ih (upd t a)]
    simp only [lastAssign]
    cases h : lastAssign o as with
    | some v => rfl
    | none => by_cases ho : o = a.1 <;> simp [upd, ho]

theorem lastAssign_none_iff (o : Nat) (as : List (Nat × Option Nat)) :
    lastAssign o as = none ↔ mentions o as = false := by
  induction as with
  | nil => simp [lastAssign, mentions]
  | cons a as ih =>
    rw [mentions, List.any_cons, Bool.or_eq_false_iff, ← mentions, ← ih, lastAssign]
    cases lastAssign o as <;> simp [eq_comm (a := o)]

/-- erasing the entries a source owned and re-applying its assignments, twice = once. -/
theorem assigns_idem (as : List (Nat × Option Nat)) (own : Nat → Bool) (t : Tbl) :
    applyAssigns as (fun o => if mentions o as then none
        else applyAssigns as (fun o => if own o then none else t o) o)
      = applyAssigns as (fun o => if own o then none else t o) := by
  funext o
  rw [applyAssigns_eq, applyAssigns_eq]
  cases h : lastAssign o as with
  | some v => rfl
  | none => simp [(lastAssign_none_iff o as).mp h]

theorem assigns_twice (as : List (Nat × Option Nat)) (t : Tbl) :
    applyAssigns as (applyAssigns as t) = applyAssigns as t := by
  funext o
  rw [applyAssigns_eq, applyAssigns_eq]
  cases h : lastAssign o as with
  | some v => rfl
  | none => simp

/-! ### a clause-group step on well-formed records -/

/-- well-formed predicate records, with the code index invariant. -/
def Pred.wf2 (p : Pred) : Prop := p.wf ∧ (p.tracked = true → p.defined = true)

theorem setFl_fields (p : Pred) (f : Fl) :
    (p.setFl f).ext = p.ext ∧ (p.setFl f).tracked = p.tracked ∧ (p.setFl f).cls = p.cls ∧
    (p.setFl f).defined = p.defined := by
  cases f <;> simp [Pred.setFl]

/-- what `compile_and_submit` leaves of a predicate when it compiles a clause group: compiling
    incrementally (`compile_incrementally`: tracked and discontiguous or multifile) keeps the old
    clauses, less the source's own (`must_retract_local_clauses`) unless discontiguous; otherwise
    the predicate is overwritten. The same as the local `keep` inside `closed` (`closed_concat`). -/
def keep (src : Src) (p : Pred) : List Cl :=
  if p.tracked then (if p.disc then p.cls else if p.multi then foreign src p.cls else []) else []

/-- on well-formed records the two guards of `compile_and_submit` (incremental? retract?) only
    select `keep`: an empty clause list, or one without clauses of the source, gives the same
    result on either branch. -/
theorem stepK_group (src : Src) (p : Pred) (h : p.wf2) (vs : List Nat) :
    stepK src p (.group vs) =
      { p with cls := keep src p ++ ownCls src vs, tracked := p.ext, defined := true } := by
  obtain ⟨⟨h1, -, -⟩, h4⟩ := h
  simp only [stepK, retract_eq]
  cases p with
  | mk ext dyn disc multi defined tracked cls =>
  cases tracked
  · simp [keep]
  · obtain rfl : ext = true := h1 rfl
    obtain rfl : defined = true := h4 rfl
    cases disc <;> cases multi <;> cases cls <;> simp [keep]

/-- a declaration sets `ext` and `defined`, a group sets `tracked := ext` and `defined`: either way
    every clause of `wf2` holds by what the step wrote. -/
theorem stepK_wf2 (src : Src) (p : Pred) (e : KEv) (h : p.wf2) : (stepK src p e).wf2 := by
  cases e with
  | decl f => exact ⟨⟨fun _ => rfl, fun _ => rfl, fun _ => rfl⟩, fun _ => rfl⟩
  | group vs =>
    rw [stepK_group src p h]
    exact ⟨⟨id, h.1.2.1, h.1.2.2⟩, fun _ => rfl⟩

/-- `wf2` does not mention `cls`, and the one branch that writes more clears `tracked`. -/
theorem wipeK_wf2 (src : Src) (inS : Bool) (p : Pred) (h : p.wf2) : (wipeK src inS p).wf2 := by
  unfold wipeK
  split
  · split <;> exact h
  · split
    · exact ⟨⟨nofun, h.1.2⟩, nofun⟩
    · exact h

theorem loadKey_wf2 (fm : Bool) (src : Src) (inS : Bool) (evs : List KEv) (p : Pred) (h : p.wf2) :
    (loadKey fm src inS evs p).wf2 := by
  refine List.foldlRecOn (motive := Pred.wf2) evs _ ?_ fun q hq e _ => stepK_wf2 src q e hq
  cases fm
  · exact h
  · exact wipeK_wf2 src inS p h

/-! ### a run of clause groups in closed form -/

theorem closed_nil (src : Src) (p : Pred) : closed src p [] = p := rfl

theorem closed_concat (src : Src) (p : Pred) (gs : List (List Nat)) (g : List Nat) :
    closed src p (gs ++ [g]) =
      { p with cls := keep src p ++ ownCls src (if p.disc then (gs ++ [g]).flatten else g)
               tracked := p.ext, defined := true } := by
  cases hd : p.disc <;> simp [closed, keep, hd]

/-- what the next group keeps of the result of a group: the group too if the predicate is
    discontiguous, otherwise what was kept before. -/
theorem keep_group (src : Src) (p : Pred) (h : p.wf2) (new : List Cl)
    (hn : foreign src new = []) :
    keep src { p with cls := keep src p ++ new, tracked := p.ext, defined := true } =
      if p.disc then keep src p ++ new else keep src p := by
  obtain ⟨⟨h1, h2, h3⟩, -⟩ := h
  cases p with
  | mk ext dyn disc multi defined tracked cls =>
  cases ext <;> cases tracked <;> cases disc <;> cases multi <;>
    simp_all [keep, foreign_append, foreign_idem]

theorem stepK_closed (src : Src) (p : Pred) (h : p.wf2) (gs : List (List Nat)) (g : List Nat) :
    stepK src (closed src p gs) (.group g) = closed src p (gs ++ [g]) := by
  rcases List.eq_nil_or_concat gs with rfl | ⟨init, last, rfl⟩
  · rw [closed_nil, stepK_group src p h, closed_concat]
    simp
  · -- a closed form of some groups is tracked exactly if it has a skeleton, and defined
    rw [List.concat_eq_append, closed_concat, stepK_group src _ ?_, closed_concat,
      keep_group src p h _ (foreign_ownCls src _)]
    · cases p.disc <;> simp [ownCls_append]
    · exact ⟨⟨id, h.1.2⟩, fun _ => rfl⟩

theorem foldl_groups_closed (src : Src) (p : Pred) (h : p.wf2) (gs : List (List Nat)) :
    (gs.map KEv.group).foldl (stepK src) p = closed src p gs := by
  rw [List.foldl_map]
  exact foldl_of_concat (F := closed src p) (stepK_closed src p h) gs []

/-! ### a run of declarations in closed form -/

/-- the declarations of a text run on a record: the inner leg of `specKey` (`specKey_eq`). -/
def declsFold (src : Src) (D : List Fl) (p : Pred) : Pred :=
  D.foldl (fun q f => stepK src q (.decl f)) p

theorem declsFold_eq (src : Src) (D : List Fl) (p : Pred) :
    declsFold src D p =
      { ext := p.ext || !D.isEmpty
        dyn := p.dyn || D.contains .dyn
        disc := p.disc || D.contains .disc
        multi := p.multi || D.contains .multi
        defined := p.defined || !D.isEmpty
        tracked := p.tracked
        cls := if D.contains .disc && p.tracked then foreign src p.cls else p.cls } := by
  induction D generalizing p with
  | nil => cases p; simp [declsFold]
  | cons f D ih =>
    unfold declsFold at ih ⊢
    rw [List.foldl_cons, ih]
    cases p with
    | mk ext dyn disc multi defined tracked cls =>
    cases f <;> cases tracked <;> by_cases hD : Fl.disc ∈ D <;>
      simp [stepK, Pred.setFl, hD, foreign_idem, Bool.or_comm]

theorem specKey_eq (fm : Bool) (src : Src) (inS : Bool) (evs : List KEv) (p : Pred) :
    specKey fm src inS evs p =
      closed src (declsFold src (declsOf evs) (if fm then wipeK src inS p else p)) (groupsOf evs) := rfl

/-! ### the file load in closed form; loading twice -/

theorem wipeK_idem (src : Src) (inS : Bool) (p : Pred) :
    wipeK src inS (wipeK src inS p) = wipeK src inS p := by
  cases p with
  | mk ext dyn disc multi defined tracked cls =>
  cases ext <;> cases tracked <;> cases inS <;> simp [wipeK, foreign_idem]

/-- The file load of a text with a clause group, written out: of the old record it reads only the
    flags, whether a skeleton exists, and (if tracked) the other sources' clauses. Neither `inS`,
    `defined` nor the source's own clauses matter: the wipe removes them or the groups overwrite them. -/
theorem closed_file (src : Src) (inS : Bool) (D : List Fl) (p : Pred) (h : p.tracked = true → p.ext = true)
    (init : List (List Nat)) (last : List Nat) :
    closed src (declsFold src D (wipeK src inS p)) (init ++ [last]) =
      { ext := p.ext || !D.isEmpty
        dyn := p.dyn || D.contains .dyn
        disc := p.disc || D.contains .disc
        multi := p.multi || D.contains .multi
        defined := true
        tracked := p.ext || !D.isEmpty
        cls := (if p.tracked && (p.disc || D.contains .disc || (p.multi || D.contains .multi))
                then foreign src p.cls else []) ++
               ownCls src (if p.disc || D.contains .disc then (init ++ [last]).flatten else last) } := by
  rw [closed_concat, declsFold_eq]
  cases p with
  | mk ext dyn disc multi defined tracked cls =>
  cases tracked
  · cases ext <;> cases inS <;> simp [wipeK, keep]
  · obtain rfl : ext = true := h rfl
    simp only [wipeK, keep, if_true, Bool.and_true, foreign_idem, ite_self, Bool.true_and, Bool.true_or]
    generalize (disc || D.contains Fl.disc) = d
    generalize (multi || D.contains Fl.multi) = m
    cases d <;> cases m <;> rfl

/-- second file load of the same (canonical) text on the result of the first, closed forms; the
    second `inS` is what the first load leaves in `sdef` (see `C35_loadKey_idem`). -/
theorem spec_idem_file (src : Src) (inS : Bool) (D : List Fl) (gs : List (List Nat)) (p : Pred)
    (h1 : p.tracked = true → p.ext = true) :
    closed src (declsFold src D
        (wipeK src (if gs.isEmpty then inS else true) (closed src (declsFold src D (wipeK src inS p)) gs))) gs
      = closed src (declsFold src D (wipeK src inS p)) gs := by
  rcases List.eq_nil_or_concat gs with rfl | ⟨init, last, rfl⟩
  · simp only [closed_nil, List.isEmpty_nil, if_true]
    cases D with
    | nil => exact wipeK_idem src inS p
    | cons f D =>
      -- after a declaration a skeleton exists: the second wipe only retracts the source's clauses,
      -- of which the first left none, and the second run of the declarations adds no flag
      cases p with
      | mk ext dyn disc multi defined tracked cls =>
      cases tracked
      · cases ext <;> cases inS <;> simp [declsFold_eq, wipeK]
      · obtain rfl : ext = true := h1 rfl
        simp [declsFold_eq, wipeK, foreign_idem]
  · -- both loads are `closed_file` (the result is tracked exactly if it has a skeleton); the second
    -- keeps of the first result what the first kept
    rw [List.concat_eq_append, closed_file src inS D p h1, closed_file src _ D _ id]
    cases ht : p.tracked
    · simp [foreign_ownCls]
    · simp only [h1 ht, foreign_append, foreign_ownCls, Bool.true_or, Bool.true_and, Bool.or_self_right,
        List.append_nil, apply_ite (foreign src), foreign_idem, foreign_nil]
      split <;> rfl

end Scryer.Loader
