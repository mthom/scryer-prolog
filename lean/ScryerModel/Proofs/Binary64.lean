import Mathlib.Tactic.Ring
/-! The grid of a binary floating-point format: the value, in units of the smallest subnormal, of a
magnitude pattern `b` (exponent field `b / H`, mantissa `b % H`). Patterns are ordered like their
values, so the successor pattern is the next representable value. At `H = 2^52`, `NumLex.V` is this
function and `ArithFloat.F64.scaled` is it on the magnitude bits; `Order.fltScaled` is ± twice it on the
low 63 bits, `none` on NaN (`V_eq_val`, `scaled_eq_val`, `fltScaled_eq`). -/
namespace Scryer.Binary64

/-- subnormals `b`, normals `(H + mantissa) · 2^(field − 1)`. `H` is the hidden bit, `2^52` for binary64;
it stays a variable because the proofs here need only `0 < H`. -/
def val (H b : Nat) : Nat := if b < H then b else (H + b % H) * 2 ^ (b / H - 1)

variable {H : Nat}

/-- The value encoded by exponent step `u` and significand `m`; `m = 2·H` is the carry into the
next binade, `u = 0` covers the subnormals and the first normal binade together. -/
theorem val_um (hH : 0 < H) {u m : Nat} (hm : m ≤ 2 * H) (hlo : 1 ≤ u → H ≤ m) :
    val H (u * H + m) = m * 2 ^ u := by
  rcases Nat.lt_or_ge m H with hlt | hge
  · obtain rfl : u = 0 := Nat.eq_zero_of_not_pos fun h => Nat.not_le.2 hlt (hlo h)
    rw [Nat.zero_mul, Nat.zero_add, val, if_pos hlt, Nat.pow_zero, Nat.mul_one]
  · obtain ⟨k, rfl⟩ := Nat.exists_eq_add_of_le hge
    have e : u * H + (H + k) = H * (u + 1) + k := by ring
    rw [val, if_neg (Nat.not_lt.2 ((Nat.le_add_right _ _).trans (Nat.le_add_left _ _))), e,
      Nat.mul_add_div hH, Nat.mul_add_mod]
    rcases Nat.lt_or_ge k H with hk | hk
    · rw [Nat.div_eq_of_lt hk, Nat.mod_eq_of_lt hk]; rfl
    · obtain rfl : k = H := Nat.le_antisymm (Nat.le_of_add_le_add_left (Nat.two_mul _ ▸ hm)) hk
      rw [Nat.div_self hH, Nat.mod_self, Nat.add_sub_cancel, Nat.pow_succ]; ring

/-- the textbook reading by fields (exponent field `e`, mantissa `m`; a subnormal has exponent 1 and
no hidden bit), in units of half the smallest subnormal. -/
theorem val_fields (hH : 0 < H) (e : Nat) {m : Nat} (hm : m < H) :
    (if e = 0 then m else m + H) * 2 ^ (if e = 0 then 1 else e) = 2 * val H (e * H + m) := by
  cases e with
  | zero =>
    rw [if_pos rfl, if_pos rfl, val_um (u := 0) hH (hm.le.trans (Nat.le_mul_of_pos_left H Nat.two_pos))
      (fun h => nomatch h), Nat.pow_zero, Nat.mul_one, Nat.pow_one, Nat.mul_comm]
  | succ s =>
    rw [if_neg (Nat.succ_ne_zero s), if_neg (Nat.succ_ne_zero s), Nat.add_one_mul s, Nat.add_assoc,
      val_um hH (Nat.two_mul H ▸ Nat.add_le_add_left hm.le H) (fun _ => Nat.le_add_right _ _),
      Nat.pow_succ, Nat.add_comm m H]
    ring

/-- the successor pattern is the next significand of the same step, the carry included. -/
theorem val_lt_succ (hH : 0 < H) (b : Nat) : val H b < val H (b + 1) := by
  obtain ⟨u, m, hm, hlo, rfl⟩ : ∃ u m, m < 2 * H ∧ (1 ≤ u → H ≤ m) ∧ b = u * H + m := by
    have hr := Nat.mod_lt b hH
    rcases Nat.eq_zero_or_pos (b / H) with h0 | hpos
    · exact ⟨0, b % H, hr.trans_le (Nat.le_mul_of_pos_left H Nat.two_pos), (fun h => nomatch h),
        by rw [← h0]; exact (Nat.div_add_mod' b H).symm⟩
    · obtain ⟨s, hs⟩ := Nat.exists_eq_add_of_le' hpos
      exact ⟨s, H + b % H, Nat.two_mul H ▸ Nat.add_lt_add_left hr H, fun _ => Nat.le_add_right _ _,
        by rw [← Nat.add_assoc, ← Nat.add_one_mul, ← hs]; exact (Nat.div_add_mod' b H).symm⟩
  rw [Nat.add_assoc, val_um hH hm.le hlo, val_um hH hm fun h => Nat.le_succ_of_le (hlo h)]
  exact Nat.mul_lt_mul_of_pos_right (Nat.lt_succ_self m) (Nat.two_pow_pos u)

theorem val_strictMono (hH : 0 < H) {a b : Nat} (h : a < b) : val H a < val H b := by
  induction h with
  | refl => exact val_lt_succ hH a
  | step _ ih => exact ih.trans (val_lt_succ hH _)

theorem val_mono (hH : 0 < H) {a b : Nat} (h : a ≤ b) : val H a ≤ val H b := by
  rcases Nat.eq_or_lt_of_le h with rfl | h
  · exact Nat.le_refl _
  · exact (val_strictMono hH h).le

theorem val_inj (hH : 0 < H) {a b : Nat} (h : val H a = val H b) : a = b := by
  rcases Nat.lt_trichotomy a b with hlt | he | hlt
  · exact absurd h (val_strictMono hH hlt).ne
  · exact he
  · exact absurd h (val_strictMono hH hlt).ne'

end Scryer.Binary64
