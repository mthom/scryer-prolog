import ScryerModel.Proofs.Index
/-!
The invariant `Inv` of the first-argument index model is preserved by the update operations of a
dynamic predicate (`addBack` = assertz, `addFront` = asserta, `remove` = retract), and the
live clause list changes as expected (property C06, dynamic part).

Turning a direct pointer into a hash map is sound by `SlotInv.leafKey` with `FoundOK` (what
`search_skeleton_for_first_key_type` must deliver); `addBack` and `addFront` are one procedure
`addWith` in two directions, proved once (`addWith_spec`).
-/
namespace Scryer.Index

/-! ### chain extension -/

theorem Mode.mem_extend {m : Mode} {l : List Nat} {id i : Nat} :
    i ∈ m.extend l id ↔ i = id ∨ i ∈ l := by
  cases m <;> simp [Mode.extend, or_comm]

theorem Mode.sublist_extend (m : Mode) (l : List Nat) (id : Nat) : l.Sublist (m.extend l id) := by
  cases m <;> simp [Mode.extend]

theorem Mode.extend_sublist (m : Mode) {l chain : List Nat} (id : Nat) (h : l.Sublist chain) :
    (m.extend l id).Sublist (m.extend chain id) := by
  cases m
  · exact List.Sublist.append h (List.Sublist.refl _)
  · exact List.Sublist.cons_cons _ h

theorem Mode.perm_extend (m : Mode) (l : List Nat) (id : Nat) : (m.extend l id).Perm (id :: l) := by
  cases m
  · exact List.perm_append_singleton id l
  · exact List.Perm.refl _

theorem Mode.pair_eq (m : Mode) (o id : Nat) : m.pair o id = m.extend [o] id := by
  cases m <;> rfl

/-! ### tables -/
section tables
variable {κ : Type} [DecidableEq κ]

theorem tlookup_tinsert_self (t : List (κ × Ptr)) (k : κ) (p : Ptr) :
    tlookup (tinsert t k p) k = some p := by
  fun_induction tinsert t k p <;> simp [tlookup, *]

theorem tlookup_tinsert_ne (t : List (κ × Ptr)) (k k' : κ) (p : Ptr) (h : k' ≠ k) :
    tlookup (tinsert t k p) k' = tlookup t k' := by
  fun_induction tinsert t k p <;> simp [tlookup, *, h.symm]

/-- look-up in a hash map the way the machine does it: a miss is `Fail`. -/
def tget (t : List (κ × Ptr)) (k : κ) : Ptr := (tlookup t k).getD .fail

theorem look_table (t : List (κ × Ptr)) (k : κ) : (Slot.table t).look k = tget t k := rfl

theorem tableIndex_self (m : Mode) (t : List (κ × Ptr)) (k : κ) (id : Nat) :
    (tget (tableIndex m t k id) k).ids = m.extend (tget t k).ids id := by
  unfold tableIndex tget
  split <;> rename_i e <;> simp only [tlookup_tinsert_self, e, Option.getD, Ptr.ids, Mode.pair_eq]
  all_goals cases m <;> rfl

theorem tableIndex_ne (m : Mode) (t : List (κ × Ptr)) (k k' : κ) (id : Nat) (h : k' ≠ k) :
    tget (tableIndex m t k id) k' = tget t k' := by
  unfold tableIndex tget
  split <;> simp only [tlookup_tinsert_ne _ _ _ _ h]

/-- what `internalize_*` turns a slot into before the new key is inserted. -/
def tabOf (found : Option κ) : Slot κ → List (κ × Ptr)
  | .leaf .fail => []
  | .leaf p => internalize found p
  | .table t => t

/-- the hash-map arm of `index_constant` / `index_structure`, then of `index_overlapping_constant`,
run for the keys `K` of clause `id` in turn. -/
def fileAll (m : Mode) (id : Nat) (t : List (κ × Ptr)) (K : List κ) : List (κ × Ptr) :=
  K.foldl (fun t k => tableIndex m t k id) t

theorem tget_fileAll (m : Mode) (id : Nat) (t : List (κ × Ptr)) (K : List κ) (nd : K.Nodup) (k : κ) :
    (tget (fileAll m id t K) k).ids
      = if k ∈ K then m.extend (tget t k).ids id else (tget t k).ids := by
  induction K generalizing t with
  | nil => rfl
  | cons k0 r ih =>
    have nd' := List.nodup_cons.1 nd
    rw [fileAll, List.foldl_cons, ← fileAll, ih _ nd'.2]
    by_cases e : k = k0
    · subst e; rw [if_neg nd'.1, if_pos List.mem_cons_self, tableIndex_self]
    · rw [tableIndex_ne m t k0 k id e]
      simp only [List.mem_cons, e, false_or]

/-- what `merge_clause_index` does to the `c` or `s` operand of `SwitchOnTerm` for a clause with keys
`K`: untouched without a key; a first single key replaces `Fail` by a direct pointer; otherwise the
operand is a hash map (made by `internalize_*` if it was a pointer) with the clause under every key. -/
def fileSlot (m : Mode) (found : Option κ) (id : Nat) : List κ → Slot κ → Slot κ
  | [], slot => slot
  | [_], .leaf .fail => .leaf (.ext id)
  | K, slot => .table (fileAll m id (tabOf found slot) K)

theorem indexKey_eq_fileSlot (m : Mode) (found : Option κ) (slot : Slot κ) (k : κ) (id : Nat) :
    indexKey m found slot k id = fileSlot m found id [k] slot := by
  cases slot with
  | leaf p => cases p <;> rfl
  | table t => rfl

theorem indexOverlap_eq_fileSlot (m : Mode) (found : Option κ) (slot : Slot κ) (k k2 : κ) (id : Nat) :
    indexOverlap m found (indexKey m found slot k id) k k2 id = fileSlot m found id [k, k2] slot := by
  cases slot with
  | leaf p => cases p <;> rfl
  | table t => rfl

/-- the result of `search_skeleton_for_first_key_type` is good enough: when a live keyed clause
exists in the chain, the search returns a key of some live clause of the chain. -/
def FoundOK (chain : List Nat) (alive : Nat → Bool) (keys : Nat → List κ) (found : Option κ) :
    Prop :=
  (∃ i, i ∈ chain ∧ alive i = true ∧ keys i ≠ []) →
    ∃ k, found = some k ∧ ∃ i, i ∈ chain ∧ alive i = true ∧ k ∈ keys i

omit [DecidableEq κ] in
theorem tabOf_leaf (found : Option κ) (p : Ptr) :
    tabOf found (.leaf p) = if p = .fail then [] else internalize found p := by
  cases p <;> rfl

/-- **`internalize_*` keeps the invariant**: a direct pointer is only there while all live keyed
clauses share one key, and that is the key the search has found. -/
theorem SlotInv.tabOf {chain : List Nat} {alive : Nat → Bool} {keys : Nat → List κ} {slot : Slot κ}
    (inv : SlotInv chain alive keys slot) {found : Option κ} (hf : FoundOK chain alive keys found) :
    SlotInv chain alive keys (.table (tabOf found slot)) := by
  cases slot with
  | table t => exact inv
  | leaf p =>
    by_cases hpf : p = .fail
    · subst hpf; exact ⟨inv.ptrs, inv.found, nofun⟩
    · rw [tabOf_leaf, if_neg hpf]
      refine ⟨fun k => ?_, fun i hi ha k hk => ?_, nofun⟩
      · cases found with
        | none => exact List.nil_sublist _
        | some k0 =>
          show PtrOK chain ((if k0 = k then some p else none).getD .fail)
          split
          · exact inv.ptrs k
          · exact List.nil_sublist _
      · obtain ⟨kf, rfl, i', hi', ha', hkf⟩ := hf ⟨i, hi, ha, List.ne_nil_of_mem hk⟩
        obtain ⟨k1, hk1⟩ := inv.leafKey p rfl hpf
        have key : ∀ j, j ∈ chain → alive j = true → ∀ x, x ∈ keys j → x = k1 := fun j hj haj x hx => by
          rcases hk1 j hj haj with h | h <;> rw [h] at hx
          · cases hx
          · exact List.mem_singleton.1 hx
        rw [key i' hi' ha' kf hkf, ← key i hi ha k hk]
        show i ∈ ((if k = k then some p else none).getD .fail).ids
        rw [if_pos rfl]; exact inv.found i hi ha k hk

theorem SlotInv.extend_nokeys {chain : List Nat} {alive : Nat → Bool} {keys : Nat → List κ}
    {slot : Slot κ} (inv : SlotInv chain alive keys slot) (m : Mode) (id : Nat)
    (hk : keys id = []) : SlotInv (m.extend chain id) alive keys slot := by
  refine ⟨fun k => (inv.ptrs k).trans (m.sublist_extend chain id), fun i hi ha k hk' => ?_,
    fun p hp hpf => ?_⟩
  · rcases Mode.mem_extend.1 hi with h | h
    · subst h; simp [hk] at hk'
    · exact inv.found i h ha k hk'
  · obtain ⟨k, h⟩ := inv.leafKey p hp hpf
    refine ⟨k, fun i hi ha => ?_⟩
    rcases Mode.mem_extend.1 hi with h' | h'
    · subst h'; exact Or.inl hk
    · exact h i h' ha

theorem SlotInv.congr {chain : List Nat} {alive alive' : Nat → Bool} {keys keys' : Nat → List κ}
    {slot : Slot κ} (inv : SlotInv chain alive keys slot)
    (hk : ∀ i, i ∈ chain → keys' i = keys i)
    (ha : ∀ i, i ∈ chain → alive' i = true → alive i = true) :
    SlotInv chain alive' keys' slot := by
  refine ⟨inv.ptrs, fun i hi hal k hk' => ?_, fun p hp hpf => ?_⟩
  · rw [hk i hi] at hk'; exact inv.found i hi (ha i hi hal) k hk'
  · obtain ⟨k, h⟩ := inv.leafKey p hp hpf
    exact ⟨k, fun i hi hal => by rw [hk i hi]; exact h i hi (ha i hi hal)⟩

theorem SlotInv.fileSlot {chain : List Nat} {alive : Nat → Bool} {keys : Nat → List κ}
    {slot : Slot κ} (inv : SlotInv chain alive keys slot) (m : Mode) (id : Nat) (found : Option κ)
    (hf : FoundOK chain alive keys found) (nd : (keys id).Nodup) :
    SlotInv (m.extend chain id) alive keys (fileSlot m found id (keys id) slot) := by
  unfold Scryer.Index.fileSlot
  split
  · next hk => exact inv.extend_nokeys m id hk
  · next k hk =>
    -- nothing is filed yet: no live clause of the chain has a key
    have hnone : ∀ i, i ∈ chain → alive i = true → keys i = [] := fun i hi ha =>
      List.eq_nil_iff_forall_not_mem.2 fun k' hk' => nomatch inv.found i hi ha k' hk'
    refine ⟨fun _ => ?_, fun i hi ha _ hk' => ?_, fun _ _ _ => ⟨k, fun i hi ha => ?_⟩⟩
    · exact List.singleton_sublist.2 (Mode.mem_extend.2 (Or.inl rfl))
    · rcases Mode.mem_extend.1 hi with rfl | h
      · exact List.mem_singleton.2 rfl
      · rw [hnone i h ha] at hk'; cases hk'
    · rcases Mode.mem_extend.1 hi with rfl | h
      · exact Or.inr hk
      · exact Or.inl (hnone i h ha)
  · next slot _ _ _ _ =>
    have tab := inv.tabOf hf
    refine ⟨fun k => ?_, fun i hi ha k hk => ?_, nofun⟩
    · rw [look_table, PtrOK, tget_fileAll m id _ _ nd]
      split
      · exact m.extend_sublist id (tab.ptrs k)
      · exact (tab.ptrs k).trans (m.sublist_extend chain id)
    · rw [look_table, tget_fileAll m id _ _ nd]
      rcases Mode.mem_extend.1 hi with rfl | h
      · rw [if_pos hk, Mode.mem_extend]; exact Or.inl rfl
      · have := tab.found i h ha k hk
        split
        · exact Mode.mem_extend.2 (Or.inr this)
        · exact this

end tables

/-! ### merging a clause into a subsequence -/

theorem SubInv.congr {hd hd' : Nat → Head} {alive alive' : Nat → Bool} {sub : Sub}
    (inv : SubInv hd alive sub) (hh : ∀ i, i ∈ sub.chain → hd' i = hd i)
    (ha : ∀ i, i ∈ sub.chain → alive' i = true → alive i = true) : SubInv hd' alive' sub := by
  refine ⟨inv.c.congr (fun i hi => by rw [hh i hi]) ha, inv.s.congr (fun i hi => by rw [hh i hi]) ha,
    inv.l_ok, fun i hi hal hl => ?_, fun i hi => ?_⟩
  · rw [hh i hi] at hl; exact inv.l_found i hi (ha i hi hal) hl
  · rw [hh i hi]; exact inv.arg i hi

theorem SubInv.mono_alive {hd : Nat → Head} {alive alive' : Nat → Bool} {sub : Sub}
    (inv : SubInv hd alive sub) (ha : ∀ i, alive' i = true → alive i = true) :
    SubInv hd alive' sub :=
  inv.congr (fun _ _ => rfl) (fun i _ => ha i)

theorem indexList_ids (m : Mode) (l : Ptr) (id : Nat) :
    (indexList m l id).ids = m.extend l.ids id := by
  cases l <;> cases m <;> rfl

/-- `merge_clause_index` operand by operand: the clause is filed under its constant keys in `c`, its
structure keys in `s`, and in `l` if it is a list. -/
theorem merge_eq (m : Mode) (fc : Option CKey) (fs : Option (String × Nat)) (sub : Sub)
    (fa : FirstArg) (id : Nat) :
    sub.merge m fc fs fa id =
      { arg := sub.arg, chain := m.extend sub.chain id, c := fileSlot m fc id (ckeys fa) sub.c,
        l := if fa = .list then indexList m sub.l id else sub.l,
        s := fileSlot m fs id (skeys fa) sub.s } := by
  cases fa with
  | const l =>
    simp only [Sub.merge, ckeys]
    cases l.altKey with
    | some k2 => exact congrArg (Sub.mk _ _ · _ _) (indexOverlap_eq_fileSlot ..)
    | none => exact congrArg (Sub.mk _ _ · _ _) (indexKey_eq_fileSlot ..)
  | struct n a => exact congrArg (Sub.mk _ _ _ _ ·) (indexKey_eq_fileSlot ..)
  | _ => rfl

theorem merge_arg (m : Mode) (fc : Option CKey) (fs : Option (String × Nat)) (sub : Sub)
    (fa : FirstArg) (id : Nat) : (sub.merge m fc fs fa id).arg = sub.arg := by
  rw [merge_eq]

theorem SubInv.merge {hd : Nat → Head} {alive : Nat → Bool} {sub : Sub} (inv : SubInv hd alive sub)
    (m : Mode) (foundC : Option CKey) (foundS : Option (String × Nat)) (fa : FirstArg) (id : Nat)
    (hfa : argAt (hd id) sub.arg = fa) (harg : firstInst (hd id) = some sub.arg)
    (hC : FoundOK sub.chain alive (fun i => ckeys (argAt (hd i) sub.arg)) foundC)
    (hS : FoundOK sub.chain alive (fun i => skeys (argAt (hd i) sub.arg)) foundS) :
    SubInv hd alive (sub.merge m foundC foundS fa id) := by
  subst hfa
  rw [merge_eq]
  refine ⟨inv.c.fileSlot m id foundC hC (ckeys_nodup _), inv.s.fileSlot m id foundS hS (skeys_nodup _),
    ?_, fun i hi ha hl => ?_, fun i hi => ?_⟩
  · show PtrOK _ (if _ then _ else _)
    split
    · rw [PtrOK, indexList_ids]; exact m.extend_sublist id inv.l_ok
    · exact inv.l_ok.trans (m.sublist_extend _ id)
  · show i ∈ Ptr.ids (if _ then _ else _)
    rcases Mode.mem_extend.1 hi with rfl | h
    · rw [if_pos hl, indexList_ids, Mode.mem_extend]; exact Or.inl rfl
    · have := inv.l_found i h ha hl
      split
      · rw [indexList_ids]; exact Mode.mem_extend.2 (Or.inr this)
      · exact this
  · rcases Mode.mem_extend.1 hi with rfl | h
    · exact harg
    · exact inv.arg i h


/-! ### `retract` -/

theorem hd_remove (idx : Index) (id i : Nat) : (remove idx id).hd i = idx.hd i := by
  unfold remove; split <;> rfl

theorem next_remove (idx : Index) (id : Nat) : (remove idx id).next = idx.next := by
  unfold remove; split <;> rfl

theorem Inv.remove {idx : Index} (inv : Inv idx) (id : Nat) : Inv (remove idx id) := by
  unfold Scryer.Index.remove
  split
  · rename_i hc
    have hmem : id ∈ idx.order := by
      have : id ∈ idx.live := by simpa using hc
      exact (List.mem_filter.1 this).1
    refine ⟨inv.nodup, inv.order_lt, inv.store_lt, ?_, ?_⟩
    · intro i hi
      rcases List.mem_cons.1 hi with h | h
      · subst h; exact inv.order_lt _ hmem
      · exact inv.dead_lt i h
    · intro sub hsub
      refine (inv.subs sub hsub).congr (fun _ _ => rfl) (fun i _ ha => ?_)
      simp only [Index.alive, List.contains_cons, Bool.not_or, Bool.and_eq_true] at ha
      exact ha.2
  · exact inv

theorem live_remove {idx : Index} (_inv : Inv idx) (id : Nat) :
    (remove idx id).live = idx.live.filter (· ≠ id) := by
  unfold remove
  split
  · simp only [Index.live, Index.order, List.filter_filter]
    apply List.filter_congr
    intro i _
    simp only [Index.alive, List.contains_cons, Bool.not_or]
    by_cases h : i = id <;> simp [h]
  · rename_i hc
    symm
    rw [List.filter_eq_self]
    intro i hi
    have : i ≠ id := fun e => hc (by simpa [e] using hi)
    simpa using this


/-! ### a clause compiled on its own -/

theorem standalone_chain (id : Nat) (h : Head) : (standalone id h).chain = [id] :=
  compileSeg_chain true _ [(id, h)]

theorem standalone_inv {hd : Nat → Head} {alive : Nat → Bool} (id : Nat) (h : Head)
    (hh : hd id = h) (sub : Sub) (hs : standalone id h = .indexed sub) : SubInv hd alive sub := by
  cases hf : firstInst h with
  | none =>
    rw [standalone, compileSeg_allvar true _ [(id, h)] fun m hm => by
      rw [List.mem_singleton.1 hm]; exact hf] at hs
    cases hs
  | some p =>
    refine compileSeg_inv hd alive true _ [(id, h)] sub (fun m hm => ?_) (fun m hm => ?_) hs
    · rw [List.mem_singleton.1 hm]; exact hh
    · rw [List.mem_singleton.1 hm, hf]; rfl


/-! ### adding a clause: generic part -/

/-- the predicate after clause `idx.next` (head `h`) has been stored, with new code `segs`. -/
def Index.add (idx : Index) (h : Head) (segs : List Seg) : Index :=
  { segs := segs, store := (idx.next, h) :: idx.store, dead := idx.dead, next := idx.next + 1 }

/-- the heads once clause `idx.next`, with head `h`, is stored. -/
def Index.hdAdd (idx : Index) (h : Head) : Nat → Head :=
  fun i => if i = idx.next then h else idx.hd i

theorem hd_add (idx : Index) (h : Head) (segs : List Seg) : (idx.add h segs).hd = idx.hdAdd h := by
  funext i
  simp only [Index.hd, Index.add, Index.hdAdd, headOf]
  by_cases e : i = idx.next
  · simp [e]
  · have : ¬ idx.next = i := fun e' => e e'.symm
    simp [e, this]

theorem hdAdd_next (idx : Index) (h : Head) : idx.hdAdd h idx.next = h := by simp [Index.hdAdd]

theorem Inv.next_not_mem {idx : Index} (inv : Inv idx) : idx.next ∉ idx.order :=
  fun h => Nat.lt_irrefl _ (inv.order_lt _ h)

theorem Inv.alive_next {idx : Index} (inv : Inv idx) : idx.alive idx.next = true := by
  simp only [Index.alive, Bool.not_eq_true', List.contains_eq_mem, decide_eq_false_iff_not]
  exact fun h => Nat.lt_irrefl _ (inv.dead_lt _ h)

theorem Inv.hdAdd_agree {idx : Index} (inv : Inv idx) (h : Head) (sub : Sub)
    (hs : Seg.indexed sub ∈ idx.segs) (i : Nat) (hi : i ∈ sub.chain) : idx.hdAdd h i = idx.hd i :=
  if_neg fun (e : i = idx.next) => inv.next_not_mem (e ▸ List.mem_flatMap.2 ⟨_, hs, hi⟩)

theorem Inv.sub_hdAdd {idx : Index} (inv : Inv idx) (h : Head) (sub : Sub)
    (hs : Seg.indexed sub ∈ idx.segs) : SubInv (idx.hdAdd h) idx.alive sub :=
  (inv.subs sub hs).congr (inv.hdAdd_agree h sub hs) (fun _ _ ha => ha)

theorem Inv.add {idx : Index} (inv : Inv idx) (h : Head) (segs : List Seg) (old : List Nat)
    (hperm : (segs.flatMap Seg.chain).Perm (idx.next :: old)) (hold : old.Sublist idx.order)
    (hsub : ∀ sub, Seg.indexed sub ∈ segs →
      Seg.indexed sub ∈ idx.segs ∨ SubInv (idx.hdAdd h) idx.alive sub) :
    Inv (idx.add h segs) := by
  refine ⟨?_, fun i hi => ?_, fun p hp => ?_, fun i hi => ?_, fun sub hs => ?_⟩
  · exact hperm.nodup_iff.2 (List.nodup_cons.2
      ⟨fun hn => inv.next_not_mem (hold.subset hn), inv.nodup.sublist hold⟩)
  · show i < idx.next + 1
    rcases List.mem_cons.1 (hperm.mem_iff.1 hi) with rfl | h'
    · exact Nat.lt_succ_self _
    · exact Nat.lt_succ_of_lt (inv.order_lt i (hold.subset h'))
  · show p.1 < idx.next + 1
    rcases List.mem_cons.1 hp with rfl | h'
    · exact Nat.lt_succ_self _
    · exact Nat.lt_succ_of_lt (inv.store_lt p h')
  · exact Nat.lt_succ_of_lt (inv.dead_lt i hi)
  · rw [hd_add]
    exact (hsub sub hs).elim (inv.sub_hdAdd h sub) id

theorem live_add (idx : Index) (h : Head) (segs : List Seg) :
    (idx.add h segs).live = (segs.flatMap Seg.chain).filter idx.alive := rfl

theorem next_add (idx : Index) (h : Head) (segs : List Seg) :
    (idx.add h segs).next = idx.next + 1 := rfl

/-! ### `modifySegOf` -/

theorem modifySegOf_some (t : Nat) (f : Seg → Option Seg) (segs segs' : List Seg)
    (hm : modifySegOf t f segs = some segs') :
    ∃ pre s post s', segs = pre ++ s :: post ∧ (∀ x, x ∈ pre → t ∉ x.chain) ∧ t ∈ s.chain ∧
      f s = some s' ∧ segs' = pre ++ s' :: post := by
  induction segs generalizing segs' with
  | nil => simp [modifySegOf] at hm
  | cons s r ih =>
    simp only [modifySegOf] at hm
    split at hm
    · rename_i hc
      cases hf : f s with
      | none => simp [hf] at hm
      | some s' =>
        simp [hf] at hm
        exact ⟨[], s, r, s', rfl, by simp, by simpa using hc, hf, by simp [hm]⟩
    · rename_i hc
      cases hr : modifySegOf t f r with
      | none => simp [hr] at hm
      | some r' =>
        simp [hr] at hm
        obtain ⟨pre, s0, post, s', e, hpre, ht, hf, e'⟩ := ih r' hr
        refine ⟨s :: pre, s0, post, s', by simp [e], ?_, ht, hf, by simp [← hm, e']⟩
        intro x hx
        rcases List.mem_cons.1 hx with h' | h'
        · subst h'; simpa using hc
        · exact hpre x h'

theorem segOf_split (t : Nat) (pre : List Seg) (s : Seg) (post : List Seg)
    (hpre : ∀ x, x ∈ pre → t ∉ x.chain) (ht : t ∈ s.chain) :
    segOf t (pre ++ s :: post) = some s := by
  induction pre with
  | nil => simp [segOf, ht]
  | cons x r ih =>
    have : t ∉ x.chain := hpre x (by simp)
    simp only [List.cons_append, segOf, List.contains_eq_mem, this, decide_false]
    exact ih (fun y hy => hpre y (by simp [hy]))


/-! ### `search_skeleton_for_first_key_type` -/

/-- the key `search_skeleton_for_first_key_type` reads off a stored clause: the first of the keys
its first non-variable argument is filed under (the position of the argument is not compared). -/
def keyAt {κ : Type} (keys : FirstArg → List κ) (store : List (Nat × Head)) (id : Nat) : Option κ :=
  ((headOf store id).bind optKey).bind fun p => (keys p.2).head?

theorem head?_ckeys_const (l : Lit) : (ckeys (.const l)).head? = some l.key := by
  simp only [ckeys]; split <;> rfl

theorem searchLit_eq (store : List (Nat × Head)) (l : List Nat) :
    searchLit store l = l.findSome? (keyAt ckeys store) := by
  induction l with
  | nil => rfl
  | cons id r ih =>
    rw [searchLit, List.findSome?_cons, keyAt, ih]
    rcases (headOf store id).bind optKey with _ | ⟨p, fa⟩
    · rfl
    · cases fa with
      | const l => simp only [Option.bind_some, head?_ckeys_const]
      | _ => rfl

theorem searchStruct_eq (store : List (Nat × Head)) (l : List Nat) :
    searchStruct store l = l.findSome? (keyAt skeys store) := by
  induction l with
  | nil => rfl
  | cons id r ih =>
    rw [searchStruct, List.findSome?_cons, keyAt, ih]
    rcases (headOf store id).bind optKey with _ | ⟨p, fa⟩
    · rfl
    · cases fa <;> rfl

theorem keyAt_chain {κ : Type} (keys : FirstArg → List κ) {idx : Index} {alive : Nat → Bool}
    {sub : Sub} (inv : SubInv idx.hd alive sub) (i : Nat) (hi : i ∈ sub.chain) :
    keyAt keys idx.store i = (keys (argAt (idx.hd i) sub.arg)).head? := by
  have := inv.arg i hi
  unfold Index.hd at *
  cases hh : headOf idx.store i with
  | none => rw [hh] at this; cases this
  | some h' =>
    rw [hh] at this
    simp only [Option.getD_some] at this ⊢
    simp only [keyAt, hh, Option.bind_some, optKey, this]

/-- the search goes through the live clauses of the subsequence first (`l1`), so it returns the
first key of one of them as soon as one of them has a key. -/
theorem foundOK_search {κ : Type} {idx : Index} {sub : Sub} (inv : SubInv idx.hd idx.alive sub)
    (hd' : Nat → Head) (hh : ∀ i, i ∈ sub.chain → hd' i = idx.hd i) (l1 l2 : List Nat)
    (hl1 : ∀ i, i ∈ l1 ↔ i ∈ sub.chain ∧ idx.alive i = true) (keys : FirstArg → List κ) :
    FoundOK sub.chain idx.alive (fun i => keys (argAt (hd' i) sub.arg))
      ((l1 ++ l2).findSome? (keyAt keys idx.store)) := by
  rintro ⟨i, hi, ha, hne⟩
  have hne : keys (argAt (idx.hd i) sub.arg) ≠ [] := hh i hi ▸ hne
  have hsome : (l1.findSome? (keyAt keys idx.store)).isSome = true :=
    List.findSome?_isSome_iff.2 ⟨i, (hl1 i).2 ⟨hi, ha⟩, by
      rw [keyAt_chain keys inv i hi, List.isSome_head?]; exact hne⟩
  obtain ⟨k, hk1⟩ := Option.isSome_iff_exists.1 hsome
  obtain ⟨i', hi', hfi'⟩ := List.exists_of_findSome?_eq_some hk1
  obtain ⟨hc', ha'⟩ := (hl1 i').1 hi'
  refine ⟨k, by rw [List.findSome?_append, hk1]; rfl, i', hc', ha', ?_⟩
  show k ∈ keys (argAt (hd' i') sub.arg)
  rw [hh i' hc']; exact List.mem_of_head? (keyAt_chain keys inv i' hc' ▸ hfi')


/-! ### `addWith`: `addBack` and `addFront` as one procedure -/

/-- the function `addBack`/`addFront` hand to `modifySegOf`. -/
def mergeF (idx : Index) (h : Head) (m : Mode) (skel : List Nat) : Seg → Option Seg := fun seg =>
  match seg, optKey h with
  | .indexed sub, some (p, fa) =>
    if sub.arg = p then
      some (.indexed (sub.merge m (searchLit idx.store skel) (searchStruct idx.store skel) fa idx.next))
    else none
  | _, _ => none

/-- the end of the live clauses next to which the new clause is put. -/
def Mode.pick : Mode → List Nat → Option Nat
  | .append, l => l.getLast?
  | .prepend, l => l.head?

/-- the clauses `search_skeleton_for_first_key_type` goes through, in search order. -/
def Mode.skel (idx : Index) (t : Nat) : Mode → List Nat
  | .append => ((((segOf t idx.segs).map Seg.chain).getD []).filter idx.alive).reverse ++ idx.dead
  | .prepend => idx.live ++ idx.dead

/-- where a clause that starts a subsequence of its own goes. -/
def Mode.place : Mode → Seg → List Seg → List Seg
  | .append, s, segs => segs ++ [s]
  | .prepend, s, segs => s :: segs

/-- `addBack` and `addFront` are one procedure run in two directions. -/
def addWith (m : Mode) (idx : Index) (h : Head) : Index :=
  match m.pick idx.live with
  | none => idx.add h [standalone idx.next h]
  | some t =>
    match modifySegOf t (mergeF idx h m (m.skel idx t)) idx.segs with
    | some segs => idx.add h segs
    | none => idx.add h (m.place (standalone idx.next h) idx.segs)

theorem addBack_eq (idx : Index) (h : Head) : addBack idx h = addWith .append idx h := rfl

theorem addFront_eq (idx : Index) (h : Head) : addFront idx h = addWith .prepend idx h := rfl

theorem addWith_is_add (m : Mode) (idx : Index) (h : Head) : ∃ segs, addWith m idx h = idx.add h segs := by
  unfold addWith
  split
  · exact ⟨_, rfl⟩
  · split <;> exact ⟨_, rfl⟩

/-! ### adding a clause to the subsequence of an existing clause -/

theorem mergeF_some {idx : Index} {h : Head} {m : Mode} {skel : List Nat} {s s' : Seg}
    (hf : mergeF idx h m skel s = some s') :
    ∃ sub, s = .indexed sub ∧ firstInst h = some sub.arg ∧
      s' = .indexed (sub.merge m (searchLit idx.store skel) (searchStruct idx.store skel)
        (argAt h sub.arg) idx.next) := by
  unfold mergeF optKey at hf
  cases s with
  | plain ch => cases hf
  | indexed sub =>
    cases hfi : firstInst h with
    | none => rw [hfi] at hf; cases hf
    | some q =>
      rw [hfi] at hf
      dsimp only at hf
      split at hf
      · next hp => subst hp; exact ⟨sub, rfl, rfl, (Option.some.inj hf).symm⟩
      · cases hf


theorem order_split {idx : Index} {pre post : List Seg} {s : Seg}
    (hsegs : idx.segs = pre ++ s :: post) :
    idx.order = pre.flatMap Seg.chain ++ (s.chain ++ post.flatMap Seg.chain) := by
  simp [Index.order, hsegs]

theorem Inv.add_merge {idx : Index} (inv : Inv idx) (h : Head) (m : Mode) (pre : List Seg)
    (sub : Sub) (post : List Seg) (fc : Option CKey) (fs : Option (String × Nat))
    (hsegs : idx.segs = pre ++ Seg.indexed sub :: post)
    (harg : firstInst h = some sub.arg)
    (hC : FoundOK sub.chain idx.alive (fun i => ckeys (argAt (idx.hdAdd h i) sub.arg)) fc)
    (hS : FoundOK sub.chain idx.alive (fun i => skeys (argAt (idx.hdAdd h i) sub.arg)) fs) :
    Inv (idx.add h (pre ++ Seg.indexed (sub.merge m fc fs (argAt h sub.arg) idx.next) :: post)) := by
  have hord := order_split hsegs
  have hmemsub : Seg.indexed sub ∈ idx.segs := by simp [hsegs]
  have hperm : ((pre ++ Seg.indexed (sub.merge m fc fs (argAt h sub.arg) idx.next) :: post).flatMap
      Seg.chain).Perm (idx.next :: idx.order) := by
    rw [hord, List.flatMap_append, List.flatMap_cons]
    simp only [Seg.chain, merge_eq]
    exact (((m.perm_extend _ _).append_right _).append_left _).trans List.perm_middle
  refine inv.add h _ _ hperm (List.Sublist.refl _) ?_
  · intro s hs
    simp only [List.mem_append, List.mem_cons] at hs
    rcases hs with hs | hs | hs
    · exact Or.inl (by simp [hsegs, hs])
    · right
      injection hs with hs
      subst hs
      apply SubInv.merge (inv.sub_hdAdd h sub hmemsub)
      · rw [hdAdd_next]
      · rw [hdAdd_next]; exact harg
      · exact hC
      · exact hS
    · exact Or.inl (by simp [hsegs, hs])

theorem live_split {idx : Index} {pre post : List Seg} {s : Seg}
    (hsegs : idx.segs = pre ++ s :: post) :
    idx.live = (pre.flatMap Seg.chain).filter idx.alive ++
        (s.chain.filter idx.alive ++ (post.flatMap Seg.chain).filter idx.alive) := by
  simp [Index.live, order_split hsegs]

/-! ### the picked clause is at its end of the live list -/

theorem last_in_mid {a b c : List Nat} {t : Nat} (nd : (a ++ (b ++ c)).Nodup)
    (hl : (a ++ (b ++ c)).getLast? = some t) (ht : t ∈ b) : c = [] := by
  cases c with
  | nil => rfl
  | cons x r =>
    exfalso
    have h1 : t ∈ x :: r := by
      have : (a ++ (b ++ x :: r)).getLast? = (x :: r).getLast? := by
        simp only [List.getLast?_append]
        cases h : (x :: r).getLast? with
        | none => simp at h
        | some y => simp
      rw [this] at hl
      exact List.mem_of_getLast? hl
    exact (List.nodup_append.1 (List.nodup_append.1 nd).2.1).2.2 t ht t h1 rfl

theorem first_in_mid {a b c : List Nat} {t : Nat} (nd : (a ++ (b ++ c)).Nodup)
    (hl : (a ++ (b ++ c)).head? = some t) (ht : t ∈ b) : a = [] := by
  cases a with
  | nil => rfl
  | cons x r =>
    exfalso
    cases hl
    exact (List.nodup_cons.1 nd).1 (List.mem_append_right _ (List.mem_append_left _ ht))

theorem Mode.pick_none {m : Mode} {l : List Nat} (h : m.pick l = none) : l = [] := by
  cases m
  · exact List.getLast?_eq_none_iff.1 h
  · exact List.head?_eq_none_iff.1 h

theorem Mode.pick_mem {m : Mode} {l : List Nat} {t : Nat} (h : m.pick l = some t) : t ∈ l := by
  cases m
  · exact List.mem_of_getLast? h
  · exact List.mem_of_head? h

theorem Mode.extend_mid {m : Mode} {a b c : List Nat} {t : Nat} (x : Nat) (nd : (a ++ (b ++ c)).Nodup)
    (hp : m.pick (a ++ (b ++ c)) = some t) (ht : t ∈ b) :
    a ++ (m.extend b x ++ c) = m.extend (a ++ (b ++ c)) x := by
  cases m
  · rw [last_in_mid nd hp ht]; simp [Mode.extend]
  · rw [first_in_mid nd hp ht]; rfl

/-- the search of `search_skeleton_for_first_key_type` starts with the live clauses of the
subsequence of the picked clause. -/
theorem Mode.skel_split (m : Mode) {idx : Index} (inv : Inv idx) {pre post : List Seg} {sub : Sub}
    {t : Nat} (hsegs : idx.segs = pre ++ Seg.indexed sub :: post) (hpre : ∀ x, x ∈ pre → t ∉ x.chain)
    (ht : t ∈ sub.chain) (hp : m.pick idx.live = some t) :
    ∃ l1 l2, m.skel idx t = l1 ++ l2 ∧ ∀ i, i ∈ l1 ↔ i ∈ sub.chain ∧ idx.alive i = true := by
  cases m
  · refine ⟨(sub.chain.filter idx.alive).reverse, idx.dead, ?_, fun i => by
      rw [List.mem_reverse, List.mem_filter]⟩
    rw [Mode.skel, hsegs, segOf_split t pre (.indexed sub) post hpre ht]; rfl
  · have hnd := inv.live_nodup
    have hls := live_split hsegs
    rw [hls] at hnd hp
    have hA := first_in_mid hnd hp
      (List.mem_filter.2 ⟨ht, (List.mem_filter.1 (hls ▸ Mode.pick_mem hp)).2⟩)
    refine ⟨sub.chain.filter idx.alive, (post.flatMap Seg.chain).filter idx.alive ++ idx.dead, ?_,
      fun i => List.mem_filter⟩
    rw [Mode.skel, hls, hA, List.nil_append, List.append_assoc]
    rfl

/-! ### adding a clause in a subsequence of its own -/

theorem Inv.add_standalone {idx : Index} (inv : Inv idx) (h : Head) (pre post : List Seg)
    (hs : (pre ++ post).Sublist idx.segs) :
    Inv (idx.add h (pre ++ standalone idx.next h :: post)) ∧
      (idx.add h (pre ++ standalone idx.next h :: post)).live =
        (pre.flatMap Seg.chain).filter idx.alive ++
          idx.next :: (post.flatMap Seg.chain).filter idx.alive := by
  have hsub : ((pre ++ post).flatMap Seg.chain).Sublist idx.order := sublist_flatMap hs fun _ _ => .refl _
  have hperm : ((pre ++ standalone idx.next h :: post).flatMap Seg.chain).Perm
      (idx.next :: (pre ++ post).flatMap Seg.chain) := by
    rw [List.flatMap_append, List.flatMap_cons, standalone_chain, List.flatMap_append]
    exact List.perm_middle
  refine ⟨inv.add h _ _ hperm hsub fun sub hsub' => ?_, ?_⟩
  · rcases List.mem_append.1 hsub' with h' | h'
    · exact Or.inl (hs.subset (List.mem_append_left _ h'))
    · rcases List.mem_cons.1 h' with h' | h'
      · exact Or.inr (standalone_inv idx.next h (hdAdd_next idx h) sub h'.symm)
      · exact Or.inl (hs.subset (List.mem_append_right _ h'))
  · rw [live_add, List.flatMap_append, List.flatMap_cons, standalone_chain, List.filter_append,
      List.singleton_append, List.filter_cons_of_pos inv.alive_next]

/-! ### `assertz` and `asserta` -/

/-- an update in either direction keeps the invariant, and the new clause (identifier `idx.next`) is
live at that end. The cases are those of `addWith`. -/
theorem addWith_spec (m : Mode) {idx : Index} (inv : Inv idx) (h : Head) :
    Inv (addWith m idx h) ∧ (addWith m idx h).live = m.extend idx.live idx.next := by
  unfold addWith
  split
  · next hp =>
    -- no live clause: the predicate is compiled afresh
    obtain ⟨h1, h2⟩ := inv.add_standalone h [] [] (List.nil_sublist _)
    refine ⟨h1, h2.trans ?_⟩
    rw [Mode.pick_none hp]; cases m <;> rfl
  · next t hp =>
    split
    · next segs hm =>
      -- the clause joins the subsequence of `t`
      obtain ⟨pre, s, post, s', hsegs, hpre, ht, hf, rfl⟩ := modifySegOf_some _ _ _ _ hm
      obtain ⟨sub, rfl, harg, rfl⟩ := mergeF_some hf
      have hsubmem : Seg.indexed sub ∈ idx.segs := by rw [hsegs]; simp
      have hsi := inv.subs sub hsubmem
      have hagree := inv.hdAdd_agree h sub hsubmem
      obtain ⟨l1, l2, hskel, hl1⟩ := m.skel_split inv hsegs hpre ht hp
      rw [hskel]
      refine ⟨inv.add_merge h m pre sub post _ _ hsegs harg
        (searchLit_eq .. ▸ foundOK_search hsi _ hagree _ _ hl1 ckeys)
        (searchStruct_eq .. ▸ foundOK_search hsi _ hagree _ _ hl1 skeys), ?_⟩
      have hls := live_split hsegs
      have hnd := inv.live_nodup
      rw [hls] at hnd hp
      rw [live_add, List.flatMap_append, List.flatMap_cons, List.filter_append, List.filter_append,
        Seg.chain, merge_eq, hls, ← Mode.extend_mid idx.next hnd hp
        (List.mem_filter.2 ⟨ht, (List.mem_filter.1 (hls ▸ Mode.pick_mem hp)).2⟩)]
      cases m <;> simp [Mode.extend, Seg.chain, List.filter_append, inv.alive_next]
    · -- a subsequence of its own at that end
      cases m
      · obtain ⟨h1, h2⟩ := inv.add_standalone h idx.segs []
          (by rw [List.append_nil]; exact List.Sublist.refl _)
        exact ⟨h1, h2.trans (by simp [Mode.extend, Index.live, Index.order])⟩
      · exact inv.add_standalone h [] idx.segs (List.Sublist.refl _)

theorem Inv.addBack {idx : Index} (inv : Inv idx) (h : Head) : Inv (addBack idx h) := by
  rw [addBack_eq]; exact (addWith_spec .append inv h).1

theorem Inv.addFront {idx : Index} (inv : Inv idx) (h : Head) : Inv (addFront idx h) := by
  rw [addFront_eq]; exact (addWith_spec .prepend inv h).1

theorem live_addBack {idx : Index} (inv : Inv idx) (h : Head) :
    (addBack idx h).live = idx.live ++ [idx.next] := by
  rw [addBack_eq]; exact (addWith_spec .append inv h).2

theorem live_addFront {idx : Index} (inv : Inv idx) (h : Head) :
    (addFront idx h).live = idx.next :: idx.live := by
  rw [addFront_eq]; exact (addWith_spec .prepend inv h).2

theorem hd_addWith (m : Mode) (idx : Index) (h : Head) (id : Nat) :
    (addWith m idx h).hd id = if id = idx.next then h else idx.hd id := by
  obtain ⟨segs, e⟩ := addWith_is_add m idx h
  rw [e, hd_add]; rfl

theorem next_addWith (m : Mode) (idx : Index) (h : Head) : (addWith m idx h).next = idx.next + 1 := by
  obtain ⟨segs, e⟩ := addWith_is_add m idx h
  rw [e]; rfl

theorem hd_addBack' (idx : Index) (h : Head) (id : Nat) :
    (addBack idx h).hd id = if id = idx.next then h else idx.hd id := by
  rw [addBack_eq]; exact hd_addWith .append idx h id

theorem hd_addFront' (idx : Index) (h : Head) (id : Nat) :
    (addFront idx h).hd id = if id = idx.next then h else idx.hd id := by
  rw [addFront_eq]; exact hd_addWith .prepend idx h id

-- the same with the invariant as an (unused) argument, the shape of `live_addBack`/`live_addFront`
theorem hd_addBack {idx : Index} (_inv : Inv idx) (h : Head) (id : Nat) :
    (addBack idx h).hd id = if id = idx.next then h else idx.hd id := hd_addBack' idx h id

theorem hd_addFront {idx : Index} (_inv : Inv idx) (h : Head) (id : Nat) :
    (addFront idx h).hd id = if id = idx.next then h else idx.hd id := hd_addFront' idx h id

theorem next_addBack (idx : Index) (h : Head) : (addBack idx h).next = idx.next + 1 := by
  rw [addBack_eq]; exact next_addWith .append idx h

theorem next_addFront (idx : Index) (h : Head) : (addFront idx h).next = idx.next + 1 := by
  rw [addFront_eq]; exact next_addWith .prepend idx h


/-! ### histories -/

/-- an update of a dynamic predicate. -/
inductive Op where
  | assertz (h : Head)
  | asserta (h : Head)
  | retract (id : Nat)
  deriving Repr

def Op.apply (idx : Index) : Op → Index
  | .assertz h => addBack idx h
  | .asserta h => addFront idx h
  | .retract id => remove idx id

/-- the index of a dynamic predicate after a history of updates, starting from no clauses. -/
def run (ops : List Op) : Index := ops.foldl Op.apply (build true [])

theorem Inv.apply {idx : Index} (inv : Inv idx) (op : Op) : Inv (op.apply idx) := by
  cases op with
  | assertz h => exact inv.addBack h
  | asserta h => exact inv.addFront h
  | retract id => exact inv.remove id

theorem inv_foldl (ops : List Op) (idx : Index) (inv : Inv idx) : Inv (ops.foldl Op.apply idx) :=
  List.foldlRecOn ops _ inv fun _ i op _ => i.apply op

theorem inv_run (ops : List Op) : Inv (run ops) := inv_foldl ops _ (inv_build true [])

theorem run_select_exact (ops : List Op) (call : Call) (wf : CallWF call) :
    (select (run ops) call).filter (fun id => compatHead ((run ops).hd id) call)
      = (run ops).live.filter (fun id => compatHead ((run ops).hd id) call) :=
  (inv_run ops).select_exact call wf

end Scryer.Index
