import ScryerModel.Model.Random
import ScryerModel.Proofs.Positional
/-!
Range and fuel lemmas for the samplers of `Model/Random.lean`.

Every sampler returns a value below its range and moves the read position forward: the
widening-multiply loop because the high word of `v * range` is below `range`, the multi-word
sampler by the invariant of its word-by-word descent (`tryDescend_lt`).  On fixnum bounds the
wrapping i64 arithmetic never wraps.  More fuel never changes a result (`*_mono`).  The last part
places the raw words accepted with a given result in a window of consecutive words (counted by
`card_accept` in `Props/C52.lean`).
-/
namespace Scryer.Random

/-! ### the raw words -/

theorem w32_lt (s : Stream) (p : Nat) : w32 s p < 2 ^ 32 := by
  unfold w32; exact (s p).toNat_lt

theorem nextU64_lt (s : Stream) (p : Nat) : (nextU64 s p).1 < 2 ^ 64 := by
  have h1 := w32_lt s p; have h2 := w32_lt s (p + 1)
  simp only [nextU64]; omega

theorem nextU128_lt (s : Stream) (p : Nat) : (nextU128 s p).1 < 2 ^ 128 := by
  have h1 := nextU64_lt s p; have h2 := nextU64_lt s (p + 2)
  simp only [nextU128]; omega

theorem gen_lt (w : Width) (s : Stream) (p : Nat) : (gen w s p).1 < 2 ^ w.bits := by
  cases w
  · exact nextU64_lt s p
  · exact nextU128_lt s p

theorem gen_pos (w : Width) (s : Stream) (p : Nat) : p < (gen w s p).2 := by
  cases w <;> simp [gen, nextU64, nextU128]

theorem bits_pos (w : Width) : 0 < w.bits := by cases w <;> simp [Width.bits]

/-! ### the widening-multiply loop: range and fuel -/

theorem sampleLoop_lt {w : Width} {s : Stream} {range zn fuel p : Nat} {r : Nat × Nat} (hr : 0 < range)
    (h : sampleLoop w s range zn fuel p = some r) : r.1 < range ∧ p < r.2 := by
  fun_induction sampleLoop w s range zn fuel p with
  | case1 p => cases h
  | case2 fuel p hc =>
    cases h
    exact ⟨Nat.div_lt_of_lt_mul (Nat.mul_lt_mul_of_pos_right (gen_lt w s p) hr), gen_pos w s p⟩
  | case3 fuel p hc ih => exact ⟨(ih h).1, Nat.lt_trans (gen_pos w s p) (ih h).2⟩

theorem sampleLoop_mono {w : Width} {s : Stream} {range zn fuel fuel' p : Nat} {r : Nat × Nat}
    (hle : fuel ≤ fuel') (h : sampleLoop w s range zn fuel p = some r) :
    sampleLoop w s range zn fuel' p = some r := by
  fun_induction sampleLoop w s range zn fuel p generalizing fuel' with
  | case1 p => cases h
  | case2 fuel p hc =>
    obtain ⟨m, rfl⟩ : ∃ m, fuel' = m + 1 := ⟨fuel' - 1, by omega⟩
    rw [sampleLoop, if_pos hc]; exact h
  | case3 fuel p hc ih =>
    obtain ⟨m, rfl⟩ : ∃ m, fuel' = m + 1 := ⟨fuel' - 1, by omega⟩
    rw [sampleLoop, if_neg hc]; exact ih (by omega) h

theorem sampleOffset_zero (w : Width) (s : Stream) (fuel p : Nat) :
    sampleOffset w s 0 fuel p = some (gen w s p) := rfl

theorem sampleOffset_lt {w : Width} {s : Stream} {range fuel p : Nat} {r : Nat × Nat} (hr : 0 < range)
    (h : sampleOffset w s range fuel p = some r) : r.1 < range ∧ p < r.2 := by
  rw [sampleOffset, if_neg (Nat.ne_of_gt hr)] at h
  exact sampleLoop_lt hr h

theorem sampleOffset_mono {w : Width} {s : Stream} {range fuel fuel' p : Nat} {r : Nat × Nat}
    (hle : fuel ≤ fuel') (h : sampleOffset w s range fuel p = some r) :
    sampleOffset w s range fuel' p = some r := by
  unfold sampleOffset at h ⊢
  split
  · rename_i h0; simpa [h0] using h
  · rename_i h0; simp only [h0, if_false] at h; exact sampleLoop_mono hle h

/-! ### the acceptance zone -/

/-- `n << n.leading_zeros()` does not overflow: it is a `b`-bit value with its top bit set. -/
theorem shifted_bounds {b n : Nat} (h0 : n ≠ 0) (hlt : n < 2 ^ b) :
    2 ^ (b - 1) ≤ n * 2 ^ leadingZeros b n ∧ n * 2 ^ leadingZeros b n < 2 ^ b := by
  have hl := (Nat.log2_lt h0).2 hlt
  have h1 := Nat.log2_self_le h0
  have h2 := @Nat.lt_log2_self n
  unfold leadingZeros
  constructor
  · calc 2 ^ (b - 1) = 2 ^ Nat.log2 n * 2 ^ (b - (Nat.log2 n + 1)) := by
          rw [← Nat.pow_add]; congr 1; omega
      _ ≤ n * 2 ^ (b - (Nat.log2 n + 1)) := Nat.mul_le_mul_right _ h1
  · calc n * 2 ^ (b - (Nat.log2 n + 1))
          < 2 ^ (Nat.log2 n + 1) * 2 ^ (b - (Nat.log2 n + 1)) :=
            Nat.mul_lt_mul_of_pos_right h2 (Nat.two_pow_pos _)
      _ = 2 ^ b := by rw [← Nat.pow_add]; congr 1; omega

theorem zone_eq (w : Width) {range : Nat} (h0 : range ≠ 0) (hlt : range < 2 ^ w.bits) :
    zone w range + 1 = range * 2 ^ leadingZeros w.bits range := by
  obtain ⟨h1, h2⟩ := shifted_bounds h0 hlt
  have hp : 0 < range * 2 ^ leadingZeros w.bits range :=
    Nat.lt_of_lt_of_le (Nat.two_pow_pos _) h1
  unfold zone
  rw [Nat.mod_eq_of_lt h2]
  generalize range * 2 ^ leadingZeros w.bits range = x at *
  generalize 2 ^ w.bits = B at *
  have : (x + (B - 1)) = (x - 1) + B := by omega
  rw [this, Nat.add_mod_right, Nat.mod_eq_of_lt (by omega)]
  omega

/-! ### on fixnum bounds the i64 arithmetic does not wrap -/

-- the literals are the model's: `2^55` (fixnum range), `2^63` and `2^64` (i64, u64)
theorem isFix_iff (n : Int) : isFix n = true ↔ -36028797018963968 ≤ n ∧ n < 36028797018963968 := by
  simp [isFix]

theorem wrapI64_eq {x : Int} (h1 : -9223372036854775808 ≤ x) (h2 : x < 9223372036854775808) :
    wrapI64 x = x := by
  unfold wrapI64
  rw [Int.emod_eq_of_lt (by omega) (by omega)]; omega

theorem toU64_eq {x : Int} (h1 : 0 ≤ x) (h2 : x < 18446744073709551616) : toU64 x = x.toNat := by
  unfold toU64
  rw [Int.emod_eq_of_lt h1 h2]

theorem genRangeI64_spec {s : Stream} {l u : Int} {fuel p : Nat} {r : Int × Nat}
    (hl : isFix l = true) (hu : isFix u = true) (hlu : l < u)
    (h : genRangeI64 s l u fuel p = some r) :
    l ≤ r.1 ∧ r.1 < u ∧ isFix r.1 = true ∧ p < r.2 := by
  rw [isFix_iff] at hl hu
  unfold genRangeI64 at h
  rw [wrapI64_eq (x := u - 1 - l) (by omega) (by omega),
    wrapI64_eq (x := u - 1 - l + 1) (by omega) (by omega), toU64_eq (by omega) (by omega)] at h
  split at h
  · cases h
  · rename_i x hx
    cases h
    have hs := sampleOffset_lt (by omega) hx
    rw [wrapI64_eq (x := (x.1 : Int)) (by omega) (by omega), wrapI64_eq (by omega) (by omega)]
    exact ⟨by omega, by omega, (isFix_iff _).2 (by omega), hs.2⟩

/-! ### the multi-word sampler: range -/

theorem fillWords_lt (s : Stream) (k p : Nat) :
    (fillWords s k p).1 < 2 ^ (64 * k) ∧ p ≤ (fillWords s k p).2 := by
  fun_induction fillWords s k p with
  | case1 p => exact ⟨Nat.one_pos, Nat.le_refl p⟩
  | case2 k p ih =>
    rw [Nat.mul_succ, Nat.pow_add, Nat.add_comm, Nat.mul_comm]
    exact ⟨Positional.mul_add_lt ih.1 (nextU64_lt s p), by omega⟩

/-- value of the words from index `i` upwards. -/
def hiPart (r i : Nat) : Nat := r / 2 ^ (64 * i)

theorem hiPart_succ (r i : Nat) : hiPart r i = hiPart r (i + 1) * 2 ^ 64 + word r i := by
  unfold hiPart word
  have : 2 ^ (64 * (i + 1)) = 2 ^ (64 * i) * 2 ^ 64 := by rw [← Nat.pow_add]; congr 1
  rw [this, ← Nat.div_div_eq_div_mul]
  have := Nat.div_add_mod (r / 2 ^ (64 * i)) (2 ^ 64)
  omega

theorem word_lt (r i : Nat) : word r i < 2 ^ 64 := Nat.mod_lt _ (Nat.two_pow_pos 64)

theorem tryDescend_le (s : Stream) (r i ri acc q : Nat) : q ≤ (tryDescend s r i ri acc q).2 := by
  -- the clauses of `tryDescend`: at word 0 reject or return; above it reject, descend, or fill the rest
  fun_induction tryDescend s r i ri acc q with
  | case1 => exact Nat.le_refl _
  | case2 => exact Nat.le_refl _
  | case3 => exact Nat.le_add_right _ 2
  | case4 _ _ _ _ ih => exact Nat.le_trans (Nat.le_add_right _ 2) ih
  | case5 i _ _ q => exact (fillWords_lt s (i + 1) q).2

/-- invariant of the descent: `acc` is the value of the words of `r` above `i` followed by `ri`, and
`ri` does not exceed word `i` of `r`; a result is produced at the first word that is smaller. -/
theorem tryDescend_lt {s : Stream} {r i ri acc p v p' : Nat} (hacc : acc = hiPart r (i + 1) * 2 ^ 64 + ri)
    (hri : ri ≤ word r i) (h : tryDescend s r i ri acc p = (some v, p')) : v < r := by
  induction i generalizing ri acc p with
  | zero =>
    simp only [tryDescend] at h
    split at h
    · cases h
    · cases h
      have := hiPart_succ r 0
      have h0 : hiPart r 0 = r := by simp [hiPart]
      omega
  | succ i ih =>
    simp only [tryDescend] at h
    split at h
    · rename_i heq
      split at h
      · cases h
      · exact ih (by rw [hacc, heq, ← hiPart_succ r (i + 1)]) (by omega) h
    -- `ri < word r (i + 1)`, so `acc + 1 ≤ hiPart r (i + 1)`, and the filled words are below `2 ^ (64 * (i + 1))`
    · cases h
      have hs := hiPart_succ r (i + 1)
      exact Nat.lt_of_lt_of_le (Positional.mul_add_lt (n := hiPart r (i + 1)) (by omega) (fillWords_lt s (i + 1) p).1)
        (Nat.div_mul_le_self _ _)

theorem lt_pow_numWords (r : Nat) : r < 2 ^ (64 * numWords r) := by
  unfold numWords
  have h1 : r < 2 ^ (Nat.log2 r + 1) := Nat.lt_log2_self
  have h2 : 2 ^ (Nat.log2 r + 1) ≤ 2 ^ (64 * (Nat.log2 r / 64 + 1)) :=
    Nat.pow_le_pow_right (by omega) (by omega)
  omega

theorem tryFill_spec {s : Stream} {r fuel p p' : Nat} {o : Option Nat}
    (h : tryFill s r fuel p = some (o, p')) : p < p' ∧ ∀ v, o = some v → v < r := by
  unfold tryFill at h
  split at h
  · cases h
  · rename_i x hx
    have h := Option.some.inj h
    have hw := word_lt r (numWords r - 1)
    -- the top word is drawn from `0 ..= words[n-1]`; the range wraps to 0 when that is all of u64
    have hx' : x.1 ≤ word r (numWords r - 1) ∧ p < x.2 := by
      by_cases h0 : (word r (numWords r - 1) + 1) % 2 ^ 64 = 0
      · rw [h0, sampleOffset_zero] at hx
        cases hx
        have : (gen .w64 s p).1 < 2 ^ 64 := nextU64_lt s p
        exact ⟨by omega, gen_pos .w64 s p⟩
      · have := sampleOffset_lt (by omega) hx
        have hm : (word r (numWords r - 1) + 1) % 2 ^ 64 ≤ word r (numWords r - 1) + 1 := Nat.mod_le _ _
        exact ⟨by omega, this.2⟩
    refine ⟨Nat.lt_of_lt_of_le hx'.2 ?_, fun v hv => ?_⟩
    · have := tryDescend_le s r (numWords r - 1) x.1 x.1 x.2
      rwa [h] at this
    subst hv
    have hhi : hiPart r (numWords r - 1 + 1) = 0 := by
      rw [hiPart, show numWords r - 1 + 1 = numWords r by unfold numWords; omega]
      exact Nat.div_eq_of_lt (lt_pow_numWords r)
    exact tryDescend_lt (by rw [hhi]; omega) hx'.1 h

theorem uniformLarge_lt {s : Stream} {r fuel k p : Nat} {x : Nat × Nat}
    (h : uniformLarge s r fuel k p = some x) : x.1 < r ∧ p < x.2 := by
  fun_induction uniformLarge s r fuel k p with
  | case1 => cases h
  | case2 => cases h
  | case3 k p v p' hv =>
    cases h
    exact ⟨(tryFill_spec hv).2 v rfl, (tryFill_spec hv).1⟩
  | case4 k p p' hv ih => exact ⟨(ih h).1, Nat.lt_trans (tryFill_spec hv).1 (ih h).2⟩

theorem uniformUBig_lt {s : Stream} {r fuel p : Nat} {x : Nat × Nat} (hr : 0 < r)
    (h : uniformUBig s r fuel p = some x) : x.1 < r ∧ p < x.2 := by
  unfold uniformUBig at h
  split at h
  · rename_i hlt
    rw [Nat.mod_eq_of_lt (a := r - 1) (by omega), Nat.sub_add_cancel hr, Nat.mod_eq_of_lt hlt] at h
    exact sampleOffset_lt hr h
  · exact uniformLarge_lt h

/-! ### `random/1`: the double `k / 2^50` -/

theorem ratioBits_spec {k : Nat} (hk : 0 < k) (hlt : k < 2 ^ 53) :
    ratioBits k / 2 ^ 52 = Nat.log2 k + 973 ∧
    (2 ^ 52 + ratioBits k % 2 ^ 52) * 2 ^ 50 = k * 2 ^ (1075 - (Nat.log2 k + 973)) := by
  -- a normal double with exponent field `e` and fraction `f` is `(2^52 + f) · 2^(e - 1075)`, `1075 = 1023 + 52`;
  -- for `k / 2^50` the exponent is `log2 k - 50`, biased by 1023: `973 = 1023 - 50`
  have h0 : k ≠ 0 := by omega
  have hl := (Nat.log2_lt h0).2 hlt
  -- the mantissa `k << (52 - log2 k)` is `k` normalised to 53 bits
  obtain ⟨hlo, hhi⟩ := shifted_bounds h0 hlt
  rw [show leadingZeros 53 k = 52 - Nat.log2 k by unfold leadingZeros; omega] at hlo hhi
  rw [ratioBits, if_neg h0]
  generalize hm : k * 2 ^ (52 - Nat.log2 k) = m at hlo hhi
  have hlt' : m - 2 ^ 52 < 2 ^ 52 := by omega
  rw [Nat.mul_comm _ (2 ^ 52), Nat.mul_add_div (Nat.two_pow_pos 52), Nat.mul_add_mod,
    Nat.div_eq_of_lt hlt', Nat.mod_eq_of_lt hlt', Nat.add_sub_cancel' hlo, ← hm, Nat.mul_assoc,
    ← Nat.pow_add, show 52 - Nat.log2 k + 50 = 1075 - (Nat.log2 k + 973) by omega]
  exact ⟨rfl, rfl⟩

/-- the double `k / 2^50` for `k < 2^50`: below `1.0`, `+0.0` at zero, otherwise normal and exact -/
theorem ratioBits_unit {k : Nat} (hk : k < 2 ^ 50) :
    ratioBits k < 0x3FF0000000000000 ∧ (k = 0 → ratioBits k = 0) ∧
      (0 < k → 1 ≤ ratioBits k / 2 ^ 52 ∧ ratioBits k / 2 ^ 52 ≤ 1022 ∧
        (2 ^ 52 + ratioBits k % 2 ^ 52) * 2 ^ 50 = k * 2 ^ (1075 - ratioBits k / 2 ^ 52)) := by
  by_cases h0 : k = 0
  · subst h0; exact ⟨Nat.zero_lt_succ _, fun _ => rfl, fun h => absurd h (Nat.lt_irrefl 0)⟩
  · have hl := (Nat.log2_lt h0).2 hk
    have hexp : 1 ≤ Nat.log2 k + 973 ∧ Nat.log2 k + 973 ≤ 1022 := by omega
    obtain ⟨e1, e2⟩ := ratioBits_spec (Nat.pos_of_ne_zero h0) (Nat.lt_trans hk (by decide))
    have hlt : ratioBits k < 1023 * 2 ^ 52 :=
      (Nat.div_lt_iff_lt_mul (Nat.two_pow_pos 52)).1 (e1 ▸ Nat.lt_succ_of_le hexp.2)
    rw [e1]
    exact ⟨hlt, fun h => absurd h h0, fun _ => ⟨hexp.1, hexp.2, e2⟩⟩

/-! ### the multi-word sampler and the callers of both: fuel -/

theorem tryFill_mono {s : Stream} {r fuel fuel' p : Nat} {y : Option Nat × Nat} (hle : fuel ≤ fuel')
    (h : tryFill s r fuel p = some y) : tryFill s r fuel' p = some y := by
  unfold tryFill at h ⊢
  split at h
  · cases h
  · rename_i x hx
    rw [sampleOffset_mono hle hx]
    exact h

theorem uniformLarge_mono {s : Stream} {r fuel fuel' k k' p : Nat} {x : Nat × Nat} (hle : fuel ≤ fuel')
    (hk : k ≤ k') (h : uniformLarge s r fuel k p = some x) : uniformLarge s r fuel' k' p = some x := by
  fun_induction uniformLarge s r fuel k p generalizing k' with
  | case1 => cases h
  | case2 => cases h
  | case3 k p v p' hv =>
    obtain ⟨m, rfl⟩ : ∃ m, k' = m + 1 := ⟨k' - 1, by omega⟩
    rw [uniformLarge, tryFill_mono hle hv]; exact h
  | case4 k p p' hv ih =>
    obtain ⟨m, rfl⟩ : ∃ m, k' = m + 1 := ⟨k' - 1, by omega⟩
    rw [uniformLarge, tryFill_mono hle hv]; exact ih (by omega) h

theorem uniformUBig_mono {s : Stream} {r fuel fuel' p : Nat} {x : Nat × Nat} (hle : fuel ≤ fuel')
    (h : uniformUBig s r fuel p = some x) : uniformUBig s r fuel' p = some x := by
  unfold uniformUBig at h ⊢
  split
  · rename_i hlt; rw [if_pos hlt] at h; exact sampleOffset_mono hle h
  · rename_i hlt; rw [if_neg hlt] at h; exact uniformLarge_mono hle hle h

theorem genRangeI64_mono {s : Stream} {l u : Int} {fuel fuel' p : Nat} {x : Int × Nat} (hle : fuel ≤ fuel')
    (h : genRangeI64 s l u fuel p = some x) : genRangeI64 s l u fuel' p = some x := by
  unfold genRangeI64 at h ⊢
  split at h
  · cases h
  · rename_i y hy
    rw [sampleOffset_mono hle hy]; exact h

theorem sysRandomInteger_mono {s : Stream} {l u : Int} {lb ub : Bool} {fuel fuel' p : Nat} {x : Res × Nat}
    (hle : fuel ≤ fuel') (h : sysRandomInteger s l u lb ub fuel p = some x) :
    sysRandomInteger s l u lb ub fuel' p = some x := by
  unfold sysRandomInteger at h ⊢
  by_cases hge : l ≥ u
  · simpa only [if_pos hge] using h
  · simp only [if_neg hge] at h ⊢
    split at h
    · rename_i hc
      rw [if_pos hc]
      split at h
      · cases h
      · rename_i y hy; rw [genRangeI64_mono hle hy]; exact h
    · rename_i hc
      rw [if_neg hc]
      split at h
      · cases h
      · rename_i y hy; rw [uniformUBig_mono hle hy]; exact h

/-! ### the raw words accepted with a given result -/

theorem ceil_le_iff (n d v : Nat) (hd : 0 < d) : (n + d - 1) / d ≤ v ↔ n ≤ v * d := by
  rw [Nat.div_le_iff_le_mul_add_pred hd, Nat.mul_comm d v]
  omega

/-- acceptance with high word `k`  ⇔  the product lies in the window `[k·B, k·B + range·m)`. -/
theorem accept_iff_window (B range m k x : Nat) (hZ : range * m ≤ B) :
    (x % B < range * m ∧ x / B = k) ↔ (k * B ≤ x ∧ x < k * B + range * m) := by
  have hdm := Nat.div_add_mod x B
  constructor
  · rintro ⟨h1, h2⟩
    rw [h2, Nat.mul_comm] at hdm
    omega
  · rintro ⟨h1, h2⟩
    have hd : x / B = k := Nat.div_eq_of_lt_le h1 (by rw [Nat.add_mul]; omega)
    rw [hd, Nat.mul_comm] at hdm
    exact ⟨by omega, hd⟩

/-- the window `[k·B, k·B + range·m)` contains the multiples `v·range` for exactly the `m`
    consecutive `v` starting at `⌈k·B / range⌉`. -/
theorem window_iff_Ico (B range m k v : Nat) (hr : 0 < range) :
    (k * B ≤ v * range ∧ v * range < k * B + range * m) ↔
      ((k * B + range - 1) / range ≤ v ∧ v < (k * B + range - 1) / range + m) := by
  rw [ceil_le_iff _ _ _ hr, ← Nat.not_le (b := v), ← Nat.not_le (b := v * range)]
  refine and_congr_right fun _ => not_congr ?_
  -- `⌈k·B / range⌉ + m ≤ v` says that `v - m` is at least the ceiling
  by_cases hm : m ≤ v
  · obtain ⟨v', rfl⟩ : ∃ v', v = v' + m := ⟨v - m, by omega⟩
    rw [Nat.add_le_add_iff_right, ceil_le_iff _ _ _ hr, Nat.add_mul, Nat.mul_comm m range]
    omega
  · have : v * range < m * range := Nat.mul_lt_mul_of_pos_right (by omega) hr
    generalize (k * B + range - 1) / range = c
    rw [Nat.mul_comm range m]
    omega

end Scryer.Random
