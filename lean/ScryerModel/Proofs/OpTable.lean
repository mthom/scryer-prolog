import ScryerModel.Model.OpTable
/-!
Lemmas for the operator table model (C43).

The table is an association list with unique keys (`wf`); `lookup_set` and `lookup_setAll` say what
an update does to the visible table. A call is analysed once, for every variant `opStepImpl fx`
(`opStepImpl_cases`): the tests that look at the call alone raise an ISO error or yield priority,
specifier and names, and the rest is `commit` (the `'|'` test, then the updates up to the first
clashing name), a single name being the one-element list. What is said of one variant is read off
`commit`: `opStepAtomic_spec` (an ISO error with the table untouched, or the updates `setAll` of an
`Accepted` call), `opStep_lax` (the code stops at the first clashing name: `PrefixMade`),
`impl_eq_iso_or_deviates` (as written, the list form leaves out the `'|'` test).
-/
namespace Scryer.OpTable

/-! ### the table: `lookup` after an update, unique keys, `current_op/3` -/

theorem hasKey_iff (e : Entry) (n : String) (c : Cls) :
    e.hasKey n c = true ↔ e.name = n ∧ e.spec.cls = c := by
  simp [Entry.hasKey]

theorem get_cons (e : Entry) (r : Table) (n : String) (c : Cls) :
    get (e :: r) n c = if n = e.name ∧ c = e.spec.cls then some e else get r n c := by
  simp only [get, List.find?_cons, eq_comm (a := n), eq_comm (a := c), ← hasKey_iff]
  cases e.hasKey n c <;> rfl

theorem set_cons (e : Entry) (r : Table) (n : String) (p : Nat) (s : Spec) :
    set (e :: r) n p s =
      if e.name = n ∧ e.spec.cls = s.cls then ⟨n, p, s⟩ :: r else e :: set r n p s := by
  simp only [set, ← hasKey_iff]

@[simp] theorem get_nil (n : String) (c : Cls) : get [] n c = none := rfl

theorem get_some_key {t : Table} {n c e} (h : get t n c = some e) :
    e.name = n ∧ e.spec.cls = c := by
  have := List.find?_some h
  exact (hasKey_iff e n c).1 this

theorem get_some_mem {t : Table} {n c e} (h : get t n c = some e) : e ∈ t :=
  List.mem_of_find?_eq_some h

theorem get_set (t : Table) (n : String) (p : Nat) (s : Spec) (m : String) (c : Cls) :
    get (set t n p s) m c = if m = n ∧ c = s.cls then some ⟨n, p, s⟩ else get t m c := by
  induction t with
  | nil => rw [set, get_cons]
  | cons e r ih =>
    rw [set_cons]
    by_cases hk : e.name = n ∧ e.spec.cls = s.cls
    · rw [if_pos hk, get_cons, get_cons, hk.1, hk.2]
      split <;> rfl
    · rw [if_neg hk, get_cons, ih, get_cons]
      by_cases h : m = n ∧ c = s.cls
      · rw [if_pos h, if_pos h, if_neg]
        exact fun h' => hk ⟨h'.1 ▸ h.1, h'.2 ▸ h.2⟩
      · rw [if_neg h, if_neg h]

theorem lookup_set (t : Table) (n : String) (p : Nat) (s : Spec) (m : String) (c : Cls) :
    lookup (set t n p s) m c =
      if m = n ∧ c = s.cls then (if p = 0 then none else some (p, s)) else lookup t m c := by
  unfold lookup; rw [get_set]
  by_cases h : m = n ∧ c = s.cls <;> simp [h]

theorem prio_set (t : Table) (n : String) (p : Nat) (s : Spec) (m : String) (c : Cls) :
    prio (set t n p s) m c = if m = n ∧ c = s.cls then p else prio t m c := by
  unfold prio; rw [get_set]
  by_cases h : m = n ∧ c = s.cls <;> simp [h]

theorem lookup_none_iff (t : Table) (n : String) (c : Cls) :
    lookup t n c = none ↔ prio t n c = 0 := by
  unfold lookup prio
  cases get t n c with
  | none => simp
  | some e => by_cases h : e.prio = 0 <;> simp [h]

theorem lookup_eq_some {t : Table} {n c p s} :
    lookup t n c = some (p, s) ↔ ∃ e, get t n c = some e ∧ e.prio ≠ 0 ∧ e.prio = p ∧ e.spec = s := by
  unfold lookup
  cases get t n c with
  | none => simp
  | some e => by_cases h : e.prio = 0 <;> simp [h]

theorem lookup_some_prio {t : Table} {n c p s} (h : lookup t n c = some (p, s)) :
    prio t n c = p ∧ p ≠ 0 := by
  unfold lookup at h
  unfold prio
  cases hg : get t n c with
  | none => rw [hg] at h; cases h
  | some e =>
    simp only [hg] at h
    by_cases h0 : e.prio = 0
    · rw [if_pos h0] at h; cases h
    · rw [if_neg h0] at h; cases h; exact ⟨rfl, h0⟩

theorem wf_set {t : Table} (h : wf t) (n : String) (p : Nat) (s : Spec) : wf (set t n p s) := by
  induction t with
  | nil => exact ⟨rfl, trivial⟩
  | cons e r ih =>
    rw [set_cons]
    by_cases hk : e.name = n ∧ e.spec.cls = s.cls
    · rw [if_pos hk]
      exact ⟨hk.1 ▸ hk.2 ▸ h.1, h.2⟩
    · rw [if_neg hk]
      refine ⟨?_, ih h.2⟩
      rw [get_set, if_neg hk]
      exact h.1

theorem wf_get_of_mem {t : Table} (h : wf t) {e : Entry} (he : e ∈ t) :
    get t e.name e.spec.cls = some e := by
  induction t with
  | nil => cases he
  | cons x r ih =>
    rw [get_cons]
    rcases List.mem_cons.1 he with rfl | hr
    · simp
    · have := ih h.2 hr
      by_cases hk : e.name = x.name ∧ e.spec.cls = x.spec.cls
      · have h1 := h.1
        rw [← hk.1, ← hk.2, this] at h1
        cases h1
      · rw [if_neg hk]; exact this

theorem visible_some {e : Entry} {x : Nat × Spec × String} :
    visible e = some x ↔ e.prio ≠ 0 ∧ x = (e.prio, e.spec, e.name) := by
  unfold visible
  by_cases h : e.prio = 0
  · simp [h]
  · simp [h, eq_comm]

theorem mem_currentOp {t : Table} {x : Nat × Spec × String} :
    x ∈ currentOp t ↔ ∃ e ∈ t, visible e = some x := by
  simp only [currentOp, List.mem_filterMap]

theorem mem_currentOp_iff_lookup {t : Table} (h : wf t) (p : Nat) (s : Spec) (n : String) :
    (p, s, n) ∈ currentOp t ↔ lookup t n s.cls = some (p, s) := by
  rw [mem_currentOp, lookup_eq_some]
  constructor
  · rintro ⟨e, he, hv⟩
    obtain ⟨h0, hx⟩ := visible_some.1 hv
    cases hx
    exact ⟨e, wf_get_of_mem h he, h0, rfl, rfl⟩
  · rintro ⟨e, hg, h0, rfl, rfl⟩
    exact ⟨e, get_some_mem hg, visible_some.2 ⟨h0, by rw [(get_some_key hg).1]⟩⟩

theorem mem_currentOpQ {t : Table} (h : wf t) (q : Pat) (x : Nat × Spec × String) :
    x ∈ currentOpQ true t q ↔ x ∈ currentOp t ∧ q.matches x = true := by
  obtain ⟨qp, qs, qn⟩ := q
  simp only [currentOpQ, List.mem_filter]
  -- for an `x` that matches `q` (`hm`) the pre-selection of each branch holds `x` iff the whole table does: a
  -- name or specifier bound in `q` is `x`'s own, and by `wf` an entry is what `get` finds under its key
  refine and_congr_left fun hm => ?_
  rw [mem_currentOp]
  cases qp with
  | none =>
    cases qn with
    | some n =>
      simp only [List.mem_filterMap, List.mem_cons, List.not_mem_nil, or_false, id]
      constructor
      · rintro ⟨e, ⟨o, ho, rfl⟩, hv⟩
        rcases ho with ho | ho | ho
        all_goals exact ⟨e, get_some_mem ho.symm, hv⟩
      · rintro ⟨e, he, hv⟩
        obtain ⟨h0, rfl⟩ := visible_some.1 hv
        have hname : n = e.name := by
          simp only [Pat.matches, Bool.and_eq_true, decide_eq_true_eq] at hm
          exact hm.2
        have hg := wf_get_of_mem h he
        refine ⟨e, ⟨some e, ?_, rfl⟩, hv⟩
        subst hname
        cases hc : e.spec.cls with
        | inf => left; rw [← hc]; exact hg.symm
        | pre => right; left; rw [← hc]; exact hg.symm
        | post => right; right; rw [← hc]; exact hg.symm
    | none =>
      simp only [List.mem_filterMap, List.mem_filter]
      constructor
      · rintro ⟨e, ⟨he, _⟩, hv⟩; exact ⟨e, he, hv⟩
      · rintro ⟨e, he, hv⟩
        refine ⟨e, ⟨he, ?_⟩, hv⟩
        obtain ⟨h0, rfl⟩ := visible_some.1 hv
        cases qs with
        | none => rfl
        | some s' =>
          have : s' = e.spec := by simpa [Pat.matches] using hm
          simp [this]
  | some p' =>
    cases qs with
    | none => simp only [if_true, List.mem_filterMap]
    | some s' =>
      cases qn with
      | none => simp only [if_true, List.mem_filterMap]
      | some n =>
        simp only
        constructor
        · intro hx
          cases hg : get t n s'.cls with
          | none => simp [hg] at hx
          | some e =>
            simp only [hg, Option.mem_toList] at hx
            exact ⟨e, get_some_mem hg, hx⟩
        · rintro ⟨e, he, hv⟩
          obtain ⟨h0, rfl⟩ := visible_some.1 hv
          have hmm : s' = e.spec ∧ n = e.name := by
            have : (p' = e.prio ∧ s' = e.spec) ∧ n = e.name := by simpa [Pat.matches] using hm
            exact ⟨this.1.2, this.2⟩
          have hg := wf_get_of_mem h he
          rw [hmm.1, hmm.2, hg]
          simpa using hv

theorem setAll_cons (t : Table) (p : Nat) (s : Spec) (n : String) (ns : List String) :
    setAll t p s (n :: ns) = setAll (set t n p s) p s ns := rfl

@[simp] theorem setAll_nil (t : Table) (p : Nat) (s : Spec) : setAll t p s [] = t := rfl

theorem wf_setAll {t : Table} (h : wf t) (p : Nat) (s : Spec) (ns : List String) :
    wf (setAll t p s ns) := by
  induction ns generalizing t with
  | nil => exact h
  | cons n r ih => rw [setAll_cons]; exact ih (wf_set h n p s)

theorem lookup_setAll (t : Table) (p : Nat) (s : Spec) (ns : List String) (m : String) (c : Cls) :
    lookup (setAll t p s ns) m c =
      if m ∈ ns ∧ c = s.cls then (if p = 0 then none else some (p, s)) else lookup t m c := by
  induction ns generalizing t with
  | nil => simp
  | cons n r ih =>
    rw [setAll_cons, ih, lookup_set]
    by_cases hc : c = s.cls <;> by_cases hm : m = n <;> by_cases hr : m ∈ r <;> simp [hc, hm, hr]

theorem prio_setAll_other (t : Table) (p : Nat) (s : Spec) (ns : List String) (m : String) (c : Cls)
    (hc : c ≠ s.cls) : prio (setAll t p s ns) m c = prio t m c := by
  induction ns generalizing t with
  | nil => rfl
  | cons n r ih => rw [setAll_cons, ih, prio_set, if_neg (fun h => hc h.2)]

/-! ### the argument checks, in terms of the arguments -/

theorem checkPriority_spec (a : Arg) :
    match checkPriority a with
    | .ok p => ∃ i : Int, a = .int i ∧ 0 ≤ i ∧ i ≤ 1200 ∧ p = i.toNat
    | .error e =>
      (∃ i : Int, a = .int i ∧ (i < 0 ∨ 1200 < i) ∧ e = .domPriority i) ∨
      ((∀ i, a ≠ .int i) ∧ e = .typeInteger a) := by
  cases a with
  | int i =>
    simp only [checkPriority]
    by_cases hi : i < 0 ∨ 1200 < i
    · rw [if_pos hi]; exact .inl ⟨i, rfl, hi, rfl⟩
    · rw [if_neg hi]; exact ⟨i, rfl, by omega, by omega, rfl⟩
  | _ => exact .inr ⟨by simp, rfl⟩

theorem checkPriority_ok {a : Arg} {p : Nat} (h : checkPriority a = .ok p) :
    ∃ i : Int, a = .int i ∧ 0 ≤ i ∧ i ≤ 1200 ∧ p = i.toNat := by
  have := checkPriority_spec a; rwa [h] at this

theorem checkPriority_le {a : Arg} {p : Nat} (h : checkPriority a = .ok p) : p ≤ 1200 := by
  obtain ⟨i, -, h0, h1, rfl⟩ := checkPriority_ok h
  omega

theorem checkSpec_spec (a : Arg) :
    match checkSpec a with
    | .ok s => ∃ x, a = .atom x ∧ Spec.ofAtom? x = some s
    | .error e =>
      (∃ x, a = .atom x ∧ Spec.ofAtom? x = none ∧ e = .domSpecifier x) ∨
      ((∀ x, a ≠ .atom x) ∧ e = .typeAtom a) := by
  cases a with
  | atom x =>
    simp only [checkSpec]
    cases hx : Spec.ofAtom? x with
    | none => exact .inl ⟨x, rfl, hx, rfl⟩
    | some s => exact ⟨x, rfl, hx⟩
  | _ => exact .inr ⟨by simp, rfl⟩

theorem validOp_none {a : String} : validOp a = none ↔ a ≠ "," ∧ a ≠ "{}" ∧ a ≠ "[]" := by
  unfold validOp
  by_cases h1 : a = ","
  · simp [h1]
  · by_cases h2 : a = "{}"
    · simp [h2]
    · by_cases h3 : a = "[]"
      · simp [h3]
      · simp [h1, h2, h3]

theorem validOp_some {a : String} {e : Err} (h : validOp a = some e) :
    (a = "," ∧ e = .permModify ",") ∨ (a = "{}" ∧ e = .permCreate "{}") ∨
    (a = "[]" ∧ e = .permCreate "[]") := by
  unfold validOp at h
  split at h
  · next h1 => exact .inl ⟨h1, (Option.some.inj h).symm⟩
  · split at h
    · next h2 => exact .inr (.inl ⟨h2, (Option.some.inj h).symm⟩)
    · split at h
      · next h3 => exact .inr (.inr ⟨h3, (Option.some.inj h).symm⟩)
      · cases h

theorem listCheck_spec (es : List Arg) (tl : Arg) :
    match listCheck es tl with
    | .ok (some ns) => tl = .atom "[]" ∧ es = ns.map .atom ∧ ∀ n ∈ ns, validOp n = none
    | .ok none => tl ≠ .var ∧ tl ≠ .atom "[]"
    | .error e =>
      (e = .inst ∧ (Arg.var ∈ es ∨ tl = .var)) ∨
      (∃ x ∈ es, x ≠ .var ∧ (∀ a, x ≠ .atom a) ∧ e = .typeAtom x) ∨
      (∃ a, Arg.atom a ∈ es ∧ validOp a = some e) := by
  induction es with
  | nil =>
    cases tl with
    | atom a => by_cases ha : a = "[]" <;> simp [listCheck, ha]
    | _ => simp [listCheck]
  | cons x r ih =>
    cases x with
    | atom a =>
      simp only [listCheck]
      cases hv : validOp a with
      | some e => exact .inr (.inr ⟨a, List.mem_cons_self, hv⟩)
      | none =>
        cases hr : listCheck r tl with
        | error e =>
          rw [hr] at ih
          rcases ih with ⟨h1, h2⟩ | ⟨y, hy, h2⟩ | ⟨b, hb, h2⟩
          · exact .inl ⟨h1, h2.imp (List.mem_cons_of_mem _) id⟩
          · exact .inr (.inl ⟨y, List.mem_cons_of_mem _ hy, h2⟩)
          · exact .inr (.inr ⟨b, List.mem_cons_of_mem _ hb, h2⟩)
        | ok o =>
          rw [hr] at ih
          cases o with
          | none => exact ih
          | some ns =>
            obtain ⟨h1, h2, h3⟩ := ih
            exact ⟨h1, by simp [h2], by simpa [hv] using h3⟩
    | var => exact .inl ⟨rfl, .inl List.mem_cons_self⟩
    | int i => exact .inr (.inl ⟨.int i, List.mem_cons_self, by simp, by simp, rfl⟩)
    | other y => exact .inr (.inl ⟨.other y, List.mem_cons_self, by simp, by simp, rfl⟩)

theorem listCheck_map {ns : List String} (hv : ∀ n ∈ ns, validOp n = none) :
    listCheck (ns.map .atom) (.atom "[]") = .ok (some ns) := by
  induction ns with
  | nil => rfl
  | cons n r ih =>
    simp only [List.map_cons, listCheck, hv n List.mem_cons_self,
      ih fun m hm => hv m (List.mem_cons_of_mem _ hm)]

/-! ### `commit`: the updates of a call in closed form -/

theorem declare_eq (t : Table) (p : Nat) (s : Spec) (n : String) :
    declare t p s n =
      if p ≠ 0 ∧ conflict t s n = true then .error (.permCreate n) else .ok (set t n p s) := by
  unfold declare
  by_cases h0 : p = 0
  · simp [h0]
  · cases conflict t s n <;> simp [h0]

theorem conflict_set (t : Table) (n : String) (p : Nat) (s : Spec) (m : String) :
    conflict (set t n p s) s m = conflict t s m := by
  unfold conflict
  rw [prio_set, prio_set]
  cases s <;> simp [Spec.cls]

/-- Is the third argument a list: only then does the variant decide on the `'|'` test (`Outcome`). -/
def OpArg.isList : OpArg → Bool
  | .one _ => false
  | .cons .. => true

/-- what `op/3` does once `op_priority` and `op_specifier` have passed: the `'|'` test
    (`member(OpSpec,[xfx,xfy,yfx]), (Priority >= 1001 ; Priority == 0)`, made if `bar`), then
    `maplist(op_(P,S), Names)` up to the first name `OpDecl::submit` rejects; `atomic` = look for that
    name before the first update. -/
def commit (bar atomic : Bool) (t : Table) (p : Nat) (s : Spec) (ns : List String) :
    Table × Option Err :=
  if bar && ns.contains "|" && !barOk p s then (t, some (.permCreate "|"))
  else
    match (if p = 0 then none else ns.find? (conflict t s)) with
    | none => (setAll t p s ns, none)
    | some n =>
      (if atomic then t else setAll t p s (ns.takeWhile (!conflict t s ·)), some (.permCreate n))

/-- `maplist(op_(P,S), Names)` in closed form. -/
theorem applyList_eq (t : Table) (p : Nat) (s : Spec) (ns : List String) :
    applyList t p s ns = commit false false t p s ns := by
  unfold commit
  simp only [Bool.false_and, Bool.false_eq_true, if_false]
  induction ns generalizing t with
  | nil => cases p <;> rfl
  | cons n r ih =>
    have hc : conflict (set t n p s) s = conflict t s := funext (conflict_set t n p s)
    simp only [applyList, declare_eq]
    by_cases h0 : p = 0
    · subst h0; simp [ih, setAll_cons]
    · cases hn : conflict t s n <;> simp [h0, hn, ih, hc, setAll_cons]

/-- with a single name there is nothing to undo, and the `'|'` rule matters only for `'|'`. -/
theorem commit_one {b b' : Bool} (a a' : Bool) (t : Table) (p : Nat) (s : Spec) {x : String}
    (h : x = "|" → b = b') : commit b a t p s [x] = commit b' a' t p s [x] := by
  by_cases hx : x = "|"
  · cases h hx; cases hc : conflict t s x <;> simp [commit, hc]
  · cases hc : conflict t s x <;> simp [commit, hc, Ne.symm hx]

/-! ### a call analysed once, for every variant (`Outcome`) -/

/-- what a successful `op/3` call has established. -/
structure Accepted (t : Table) (c : Call) (p : Nat) (s : Spec) (ns : List String) : Prop where
  prio : checkPriority c.prio = .ok p
  spec : checkSpec c.spec = .ok s
  names : opNames c.op = some ns
  valid : ∀ n ∈ ns, validOp n = none
  bar : "|" ∈ ns → barOk p s = true
  noClash : p ≠ 0 → ∀ n ∈ ns, conflict t s n = false

theorem barCheck_eq_false {ns : List String} {p : Nat} {s : Spec} :
    (ns.contains "|" && !barOk p s) = false ↔ ("|" ∈ ns → barOk p s = true) := by
  cases barOk p s <;> simp

theorem atomsOf_map (ns : List String) : atomsOf (ns.map .atom) = some ns := by
  induction ns with
  | nil => rfl
  | cons n r ih => simp [atomsOf, ih]

theorem atomsOf_some {es : List Arg} {ns : List String} (h : atomsOf es = some ns) :
    es = ns.map .atom := by
  induction es generalizing ns with
  | nil => cases h; rfl
  | cons x r ih =>
    cases x with
    | atom a =>
      simp only [atomsOf, Option.map_eq_some_iff] at h
      obtain ⟨ns', h1, rfl⟩ := h
      simp [ih h1]
    | _ => cases h

theorem opNames_shape {o : OpArg} {ns : List String} (h : opNames o = some ns) :
    o.elems = ns.map .atom ∧ (∀ hd tl tail, o = .cons hd tl tail → tail = .atom "[]") ∧
    (∀ x, o = .one x → ∃ a, x = .atom a) := by
  cases o with
  | one a =>
    cases a with
    | atom a =>
      cases h
      exact ⟨rfl, fun _ _ _ h => OpArg.noConfusion h, fun x hx => ⟨a, by cases hx; rfl⟩⟩
    | _ => cases h
  | cons hd tl tail =>
    simp only [opNames] at h
    split at h
    · next ht =>
      refine ⟨atomsOf_some h, ?_, fun x hx => OpArg.noConfusion hx⟩
      intro hd' tl' tail' heq
      cases heq; exact ht
    · cases h

theorem opNames_one {x : Arg} {ns : List String} (h : opNames (.one x) = some ns) :
    ∃ a, ns = [a] := by
  cases x <;> cases h
  exact ⟨_, rfl⟩

theorem isoErr_validOp {t : Table} {c : Call} {a : String} {e : Err} (hv : validOp a = some e)
    (ha : Arg.atom a ∈ c.op.elems) : IsoErr t c e := by
  rcases validOp_some hv with ⟨rfl, rfl⟩ | ⟨rfl, rfl⟩ | ⟨rfl, rfl⟩
  · exact .comma ha
  · exact .curly ha
  · exact .nil ha

/-- the two possible outcomes of a call under the all-or-nothing variant `opStepAtomic`. -/
def StepSpec (t : Table) (c : Call) (r : Table × Option Err) : Prop :=
  (∃ e, r = (t, some e) ∧ IsoErr t c e) ∨
  (∃ p s ns, Accepted t c p s ns ∧ r = (setAll t p s ns, none))

/-- `op/3` in two phases, for all variants `f fx` at once: the clauses up to `op_specifier` look at
    the call alone and either raise an ISO error or yield priority, specifier and names; the rest is
    `commit`, the only place where the table and the variant matter. -/
def Outcome (t : Table) (c : Call) (f : Fixes → Table × Option Err) : Prop :=
  (∃ e, IsoErr t c e ∧ f = fun _ => (t, some e)) ∨
  ∃ p s ns, checkPriority c.prio = .ok p ∧ checkSpec c.spec = .ok s ∧ opNames c.op = some ns ∧
    (∀ n ∈ ns, validOp n = none) ∧
    f = fun fx => commit (fx.bar || !c.op.isList) fx.atomic t p s ns

theorem finishBar_eq (t : Table) (P S : Arg) :
    finishBar t P S = finish ⟨true, false⟩ t P S true ["|"] := by
  unfold finishBar finish
  cases checkPriority P with
  | error e => rfl
  | ok p =>
    cases checkSpec S with
    | error e => rfl
    | ok s => cases hb : barOk p s <;> simp [hb]

/-- the common tail of `op/3` (`op_priority`, `op_specifier`, then the updates) for all variants.
    `l` is the `isList` flag the branch passes to `finish`, `g` what it makes of the variant (`id`, or
    a constant in the `Op == '|'` branch); `h`: on these names the tests of `finish` are `commit`'s. -/
theorem finish_outcome {t : Table} {c : Call} {ns : List String} (hP : c.prio ≠ .var)
    (hS : c.spec ≠ .var) (hn : opNames c.op = some ns) (hv : ∀ n ∈ ns, validOp n = none)
    (g : Fixes → Fixes) (l : Bool)
    (h : ∀ fx p s, commit ((g fx).bar && l) ((g fx).atomic && l) t p s ns =
      commit (fx.bar || !c.op.isList) fx.atomic t p s ns) :
    Outcome t c fun fx => finish (g fx) t c.prio c.spec l ns := by
  unfold finish
  have hps := checkPriority_spec c.prio
  cases hp : checkPriority c.prio with
  | error e =>
    rw [hp] at hps
    rcases hps with ⟨i, h1, h2, rfl⟩ | ⟨h1, rfl⟩
    · exact .inl ⟨_, .domPrio i h1 h2, rfl⟩
    · exact .inl ⟨_, .typePrio hP h1, rfl⟩
  | ok p =>
    have hss := checkSpec_spec c.spec
    cases hs : checkSpec c.spec with
    | error e =>
      rw [hs] at hss
      rcases hss with ⟨x, h1, h2, rfl⟩ | ⟨h1, rfl⟩
      · exact .inl ⟨_, .domSpec x h1 h2, rfl⟩
      · exact .inl ⟨_, .typeSpec hS h1, rfl⟩
    | ok s =>
      refine .inr ⟨p, s, ns, hp, hs, hn, hv, funext fun fx => ?_⟩
      rw [← h, commit]
      -- the `'|'` test is literally the same on both sides; the look-ahead is `find?`
      refine ite_congr rfl (fun _ => rfl) fun _ => ?_
      rw [applyList_eq, commit]
      by_cases h0 : p = 0
      · cases ((g fx).atomic && l) <;> simp [h0]
      · cases ((g fx).atomic && l)
        · simp [h0]
        · cases ns.find? (conflict t s) <;> simp [h0]

theorem opStepImpl_cases (t : Table) (c : Call) : Outcome t c fun fx => opStepImpl fx t c := by
  obtain ⟨P, S, O⟩ := c
  unfold opStepImpl
  by_cases hP : P = .var
  · subst hP; exact .inl ⟨_, .instPrio rfl, rfl⟩
  by_cases hS : S = .var
  · subst hS; simp only [hP, if_false, if_true]; exact .inl ⟨_, .instSpec rfl, rfl⟩
  simp only [hP, hS, if_false]
  cases O with
  | one a =>
    cases a with
    | var => exact .inl ⟨_, .instOp (by simp [OpArg.elems]), rfl⟩
    | atom a =>
      simp only
      by_cases hbar : a = "|"
      · subst hbar
        -- the `Op == '|'` branch is the list tail of one fixed variant on `["|"]`, whatever `fx`: `g` and `l`
        -- are left to unification with the right side of `finishBar_eq` (`fun _ => ⟨true, false⟩` and `true`)
        simp only [if_true, finishBar_eq]
        exact finish_outcome (c := ⟨P, S, .one (.atom "|")⟩) hP hS rfl (by decide) (fun _ => _) _
          fun fx p s => commit_one _ _ t p s fun _ => by simp [OpArg.isList]
      · simp only [hbar, if_false]
        cases hv : validOp a with
        | some e => exact .inl ⟨_, isoErr_validOp hv (by simp [OpArg.elems]), rfl⟩
        | none =>
          exact finish_outcome (c := ⟨P, S, .one (.atom a)⟩) hP hS rfl (by simpa using hv) id _
            fun fx p s => commit_one _ _ t p s fun h => absurd h hbar
    | _ => exact .inl ⟨_, .typeList1 _ rfl (by simp) (by simp), rfl⟩
  | cons hd tl tail =>
    simp only
    have hspec := listCheck_spec (hd :: tl) tail
    cases hl : listCheck (hd :: tl) tail with
    | error e =>
      rw [hl] at hspec
      rcases hspec with ⟨rfl, h1 | h1⟩ | ⟨x, hx, h1, h2, rfl⟩ | ⟨a, ha, hv⟩
      · exact .inl ⟨_, .instOp h1, rfl⟩
      · exact .inl ⟨_, .instTail hd tl (h1 ▸ rfl), rfl⟩
      · exact .inl ⟨_, .typeElem hd tl tail x rfl hx h1 h2, rfl⟩
      · exact .inl ⟨_, isoErr_validOp hv ha, rfl⟩
    | ok o =>
      rw [hl] at hspec
      cases o with
      | none => exact .inl ⟨_, .typeList2 hd tl tail rfl hspec.1 hspec.2, rfl⟩
      | some ns =>
        obtain ⟨h1, h2, h3⟩ := hspec
        refine finish_outcome (c := ⟨P, S, .cons hd tl tail⟩) hP hS ?_ h3 id _ fun fx p s => by
          simp [OpArg.isList]
        simp only [opNames, h1, if_true, h2, atomsOf_map]

/-! ### the all-or-nothing variant -/

theorem opStepAtomic_spec (t : Table) (c : Call) : StepSpec t c (opStepAtomic t c) := by
  rcases opStepImpl_cases t c with ⟨e, hi, hf⟩ | ⟨p, s, ns, hp, hs, hn, hvalid, hf⟩ <;>
    rw [show opStepAtomic t c = _ from congrFun hf ⟨true, true⟩]
  · exact .inl ⟨e, rfl, hi⟩
  have hel : ∀ n ∈ ns, Arg.atom n ∈ c.op.elems := fun n hm => by
    rw [(opNames_shape hn).1]
    exact List.mem_map.2 ⟨n, hm, rfl⟩
  simp only [commit, Bool.true_or, Bool.true_and]
  cases hb : (ns.contains "|" && !barOk p s) with
  | true =>
    simp only [Bool.and_eq_true, List.contains_iff_mem, Bool.not_eq_true'] at hb
    exact .inl ⟨_, rfl, .bar p s (hel _ hb.1) hp hs hb.2⟩
  | false =>
    simp only [Bool.false_eq_true, if_false]
    cases hf : (if p = 0 then none else ns.find? (conflict t s)) with
    | none =>
      refine .inr ⟨p, s, ns, ⟨hp, hs, hn, hvalid, barCheck_eq_false.1 hb, fun h0 n hn => ?_⟩, rfl⟩
      rw [if_neg h0] at hf
      simpa using List.find?_eq_none.1 hf n hn
    | some n =>
      have h0 : p ≠ 0 := fun h0 => by rw [if_pos h0] at hf; cases hf
      rw [if_neg h0] at hf
      exact .inl ⟨_, rfl, .clash n p s (hel _ (List.mem_of_find?_eq_some hf)) hp h0 hs
        (List.find?_some hf)⟩

theorem accepted_no_isoErr {t : Table} {c : Call} {p : Nat} {s : Spec} {ns : List String}
    (ha : Accepted t c p s ns) (e : Err) : ¬ IsoErr t c e := by
  obtain ⟨i, hpi, hi0, hi1, hpe⟩ := checkPriority_ok ha.prio
  have hsx := checkSpec_spec c.spec
  rw [ha.spec] at hsx
  obtain ⟨x, hsx, hxs⟩ := hsx
  obtain ⟨hel, htail, hone⟩ := opNames_shape ha.names
  have hatom : ∀ y, y ∈ c.op.elems → ∃ n, n ∈ ns ∧ .atom n = y := fun y hy =>
    List.mem_map.1 (hel ▸ hy)
  have hname : ∀ n, Arg.atom n ∈ c.op.elems → n ∈ ns := by
    intro n hn
    obtain ⟨m, hm, heq⟩ := hatom _ hn
    cases heq; exact hm
  intro h
  cases h with
  | instPrio h => rw [hpi] at h; cases h
  | instSpec h => rw [hsx] at h; cases h
  | instOp h => obtain ⟨n, _, heq⟩ := hatom _ h; cases heq
  | instTail hd tl h => have := htail _ _ _ h; cases this
  | typePrio _ h => exact h i hpi
  | typeSpec _ h => exact h x hsx
  | typeList1 y h1 _ h3 => obtain ⟨a, rfl⟩ := hone y h1; exact h3 a rfl
  | typeList2 hd tl tail h1 _ h3 => exact h3 (htail _ _ _ h1)
  | typeElem hd tl tail y h1 h2 _ h4 =>
    have : y ∈ c.op.elems := by rw [h1]; exact h2
    obtain ⟨n, _, rfl⟩ := hatom _ this
    exact h4 n rfl
  | domPrio j h1 h2 =>
    rw [hpi] at h1; cases h1; omega
  | domSpec a h1 h2 =>
    rw [hsx] at h1; cases h1; rw [hxs] at h2; cases h2
  | comma h => have := ha.valid _ (hname _ h); revert this; decide
  | nil h => have := ha.valid _ (hname _ h); revert this; decide
  | curly h => have := ha.valid _ (hname _ h); revert this; decide
  | bar p' s' h1 h2 h3 h4 =>
    rw [ha.prio] at h2; rw [ha.spec] at h3
    cases h2; cases h3
    rw [ha.bar (hname _ h1)] at h4; cases h4
  | clash n p' s' h1 h2 h3 h4 h5 =>
    rw [ha.prio] at h2; rw [ha.spec] at h4
    cases h2; cases h4
    rw [ha.noClash h3 n (hname _ h1)] at h5; cases h5

/-! ### accepted updates keep the protected names and `Inv` -/

theorem protected_setAll {t : Table} {p : Nat} {s : Spec} {ns : List String}
    (hv : ∀ n ∈ ns, validOp n = none) {n : String} (hn : validOp n ≠ none) (cl : Cls) :
    lookup (setAll t p s ns) n cl = lookup t n cl := by
  rw [lookup_setAll, if_neg]
  rintro ⟨hm, _⟩
  exact hn (hv n hm)

theorem accepted_protected {t : Table} {c : Call} {p : Nat} {s : Spec} {ns : List String}
    (ha : Accepted t c p s ns) {n : String} (hn : validOp n ≠ none) (cl : Cls) :
    lookup (setAll t p s ns) n cl = lookup t n cl :=
  protected_setAll ha.valid hn cl

theorem conflict_eq_false {t : Table} {s : Spec} {n : String} :
    conflict t s n = false ↔
      (s.cls = .inf → lookup t n .post = none) ∧ (s.cls = .post → lookup t n .inf = none) := by
  simp [conflict, lookup_none_iff]

theorem lookup_setAll_some {t : Table} {p p' : Nat} {s s' : Spec} {ns : List String} {m : String}
    {c : Cls} (h : lookup (setAll t p s ns) m c = some (p', s')) :
    (m ∈ ns ∧ c = s.cls ∧ p ≠ 0 ∧ p' = p ∧ s' = s) ∨ lookup t m c = some (p', s') := by
  rw [lookup_setAll] at h
  by_cases hc : m ∈ ns ∧ c = s.cls
  · rw [if_pos hc] at h
    by_cases h0 : p = 0
    · simp [h0] at h
    · simp only [h0, if_false, Option.some.injEq, Prod.mk.injEq] at h
      exact .inl ⟨hc.1, hc.2, h0, h.1.symm, h.2.symm⟩
  · rw [if_neg hc] at h
    exact .inr h

theorem inv_setAll {t : Table} {p : Nat} {s : Spec} {ns : List String} (hle : p ≤ 1200)
    (hvalid : ∀ n ∈ ns, validOp n = none) (hbar : "|" ∈ ns → barOk p s = true)
    (hnoClash : p ≠ 0 → ∀ n ∈ ns, conflict t s n = false) (hi : Inv t) :
    Inv (setAll t p s ns) := by
  refine ⟨wf_setAll hi.wf p s ns, ?_, ?_, ?_, ?_⟩
  · -- a new infix (postfix) cell is visible only where no postfix (infix) cell was
    intro n
    rw [lookup_setAll, lookup_setAll]
    by_cases hn : n ∈ ns ∧ p ≠ 0
    · obtain ⟨h1, h2⟩ := conflict_eq_false.1 (hnoClash hn.2 n hn.1)
      cases hcls : s.cls with
      | inf => right; rw [if_neg (by simp)]; exact h1 hcls
      | post => left; rw [if_neg (by simp)]; exact h2 hcls
      | pre => rw [if_neg (by simp), if_neg (by simp)]; exact hi.noInfPost n
    · -- elsewhere an update can only hide a cell
      have keep : ∀ c, lookup t n c = none →
          (if n ∈ ns ∧ c = s.cls then (if p = 0 then none else some (p, s)) else lookup t n c) =
            none := by
        intro c h
        by_cases hc : n ∈ ns ∧ c = s.cls
        · rw [if_pos hc, if_pos (Decidable.not_not.1 fun h0 => hn ⟨hc.1, h0⟩)]
        · rw [if_neg hc, h]
      exact (hi.noInfPost n).imp (keep _) (keep _)
  · intro n cl p' s' h
    rcases lookup_setAll_some h with ⟨-, rfl, h0, rfl, rfl⟩ | h
    · exact ⟨Nat.pos_of_ne_zero h0, hle, rfl⟩
    · exact hi.range n _ p' s' h
  · intro cl
    rw [protected_setAll hvalid (by decide), protected_setAll hvalid (by decide)]
    exact hi.nilCurly cl
  · have hb : "|" ∈ ns → s.cls = .inf ∧ (1001 ≤ p ∨ p = 0) := fun hm => by
      simpa [barOk] using hbar hm
    have hother : ∀ cl, cl ≠ .inf → lookup (setAll t p s ns) "|" cl = lookup t "|" cl := by
      intro cl hcl
      rw [lookup_setAll, if_neg]
      rintro ⟨hm, rfl⟩
      exact hcl (hb hm).1
    refine ⟨?_, ?_, ?_⟩
    · rw [hother _ (by decide)]; exact hi.bar.1
    · rw [hother _ (by decide)]; exact hi.bar.2.1
    · intro p' s' h
      rcases lookup_setAll_some h with ⟨hm, -, h0, rfl, rfl⟩ | h
      · exact (hb hm).2.resolve_right h0
      · exact hi.bar.2.2 p' s' h

theorem accepted_inv {t : Table} {c : Call} {p : Nat} {s : Spec} {ns : List String}
    (ha : Accepted t c p s ns) (hi : Inv t) : Inv (setAll t p s ns) :=
  inv_setAll (checkPriority_le ha.prio) ha.valid ha.bar ha.noClash hi

/-! ### the ISO step stops at the first clashing name -/

/-- ISO 8.14.3.1: "in the event of an error being detected in an Operator list argument, it is
    undefined which, if any, of the atoms in the list is made an operator". What the code does in
    that event: the call is `op(p, s, [pre…, n, post…])` with admissible names, priority not 0,
    `n` the first element that clashes (infix against postfix), the error is
    `permission_error(create, operator, n)` and exactly the elements in front of `n` have been
    made operators (`t'` is the resulting table). -/
def PrefixMade (t : Table) (c : Call) (e : Err) (t' : Table) : Prop :=
  ∃ hd tl p s pre n post, c.op = .cons hd tl (.atom "[]") ∧
    hd :: tl = (pre ++ n :: post).map .atom ∧ (∀ m ∈ pre ++ n :: post, validOp m = none) ∧
    checkPriority c.prio = .ok p ∧ p ≠ 0 ∧ checkSpec c.spec = .ok s ∧
    ("|" ∈ pre ++ n :: post → barOk p s = true) ∧
    (∀ m ∈ pre, conflict t s m = false) ∧ conflict t s n = true ∧
    e = .permCreate n ∧ t' = setAll t p s pre

theorem opStep_lax (t : Table) (c : Call) :
    opStep t c = opStepAtomic t c ∨
    ∃ e, (opStep t c).2 = some e ∧ opStepAtomic t c = (t, some e) ∧
      PrefixMade t c e (opStep t c).1 := by
  rcases opStepImpl_cases t c with ⟨e, hi, hf⟩ | ⟨p, s, ns, hp, hs, hn, hvalid, hf⟩ <;>
    rw [show opStepAtomic t c = _ from congrFun hf ⟨true, true⟩,
      show opStep t c = _ from congrFun hf ⟨true, false⟩]
  · exact .inl rfl
  cases ho : c.op with
  | one x =>
    rw [ho] at hn
    obtain ⟨a, rfl⟩ := opNames_one hn
    exact .inl (commit_one _ _ t p s fun _ => rfl)
  | cons hd tl tail =>
    obtain ⟨hel, htail, -⟩ := opNames_shape hn
    simp only [commit, Bool.true_or, Bool.true_and]
    cases hb : (ns.contains "|" && !barOk p s) with
    | true => exact .inl rfl
    | false =>
      simp only [Bool.false_eq_true, if_false]
      cases hf : (if p = 0 then none else ns.find? (conflict t s)) with
      | none => exact .inl rfl
      | some n =>
        have h0 : p ≠ 0 := fun h0 => by rw [if_pos h0] at hf; cases hf
        rw [if_neg h0] at hf
        obtain ⟨hcn, pre, post, rfl, hpre⟩ := List.find?_eq_some_iff_append.1 hf
        have hpre' : ∀ m ∈ pre, conflict t s m = false := fun m hm => by simpa using hpre m hm
        have htw : (pre ++ n :: post).takeWhile (!conflict t s ·) = pre := by
          rw [List.takeWhile_append_of_pos (by simpa using hpre'), List.takeWhile_cons_of_neg (by simp [hcn]),
            List.append_nil]
        refine .inr ⟨.permCreate n, rfl, rfl, hd, tl, p, s, pre, n, post, ?_, ?_, hvalid, hp, h0, hs,
          barCheck_eq_false.1 hb, hpre', hcn, rfl, congrArg (setAll t p s) htw⟩
        · rw [ho, htail _ _ _ ho]
        · rw [ho] at hel; exact hel

/-- outcome of a call under the ISO step `opStep`: rejected with an ISO error and the table
    untouched, accepted with exactly the updates of its names, or the ISO-undefined event. -/
def StepSpecLax (t : Table) (c : Call) (r : Table × Option Err) : Prop :=
  StepSpec t c r ∨ ∃ e, r.2 = some e ∧ IsoErr t c e ∧ PrefixMade t c e r.1

theorem opStep_spec (t : Table) (c : Call) : StepSpecLax t c (opStep t c) := by
  rcases opStep_lax t c with h | ⟨e, he, ha, hpm⟩
  · left; rw [h]; exact opStepAtomic_spec t c
  · right
    refine ⟨e, he, ?_, hpm⟩
    rcases opStepAtomic_spec t c with ⟨e', hr, hi⟩ | ⟨p, s, ns, _, hr⟩
    · rw [ha] at hr
      cases congrArg Prod.snd hr
      exact hi
    · rw [ha] at hr
      cases congrArg Prod.snd hr

theorem prefixMade_inv {t : Table} {c : Call} {e : Err} {t' : Table} (h : PrefixMade t c e t')
    (hi : Inv t) : Inv t' := by
  obtain ⟨hd, tl, p, s, pre, n, post, -, -, hv, hp, -, -, hb, hpre, -, -, rfl⟩ := h
  exact inv_setAll (checkPriority_le hp) (fun m hm => hv m (List.mem_append_left _ hm))
    (fun hm => hb (List.mem_append_left _ hm)) (fun _ => hpre) hi

theorem prefixMade_protected {t : Table} {c : Call} {e : Err} {t' : Table} (h : PrefixMade t c e t')
    {n : String} (hn : validOp n ≠ none) (cl : Cls) : lookup t' n cl = lookup t n cl := by
  obtain ⟨hd, tl, p, s, pre, n', post, -, -, hv, -, -, -, -, -, -, -, rfl⟩ := h
  exact protected_setAll (fun m hm => hv m (List.mem_append_left _ hm)) hn cl

/-! ### `op/3` as written against the ISO step -/

/-- the inputs on which `op/3` as written leaves the ISO step: a list whose elements pass
    `list_of_op_atoms`, valid priority and specifier, and `'|'` among the elements with a
    priority/specifier the `'|'` rule forbids. -/
def Deviates (c : Call) : Prop :=
  ∃ hd tl tail ns p s, c.op = .cons hd tl tail ∧ listCheck (hd :: tl) tail = .ok (some ns) ∧
    checkPriority c.prio = .ok p ∧ checkSpec c.spec = .ok s ∧ "|" ∈ ns ∧ barOk p s = false

theorem impl_eq_iso_or_deviates (t : Table) (c : Call) :
    opStepImpl asIs t c = opStep t c ∨ Deviates c := by
  rcases opStepImpl_cases t c with ⟨e, hi, hf⟩ | ⟨p, s, ns, hp, hs, hn, hvalid, hf⟩ <;>
    rw [show opStepImpl asIs t c = _ from congrFun hf asIs,
      show opStep t c = _ from congrFun hf ⟨true, false⟩]
  · exact .inl rfl
  cases ho : c.op with
  | one x => exact .inl rfl
  | cons hd tl tail =>
    cases hb : (ns.contains "|" && !barOk p s) with
    | false => left; simp only [commit, Bool.and_assoc, hb, Bool.and_false]; rfl
    | true =>
      simp only [Bool.and_eq_true, List.contains_iff_mem, Bool.not_eq_true'] at hb
      obtain ⟨hel, htail, -⟩ := opNames_shape hn
      refine .inr ⟨hd, tl, tail, ns, p, s, ho, ?_, hp, hs, hb.1, hb.2⟩
      rw [htail _ _ _ ho, ← listCheck_map hvalid, ← hel, ho]
      rfl

/-! ### the default table -/

theorem lookup_none_of_key {t : Table} {n : String} {c : Cls}
    (h : ∀ e ∈ t, ¬(e.name = n ∧ e.spec.cls = c)) : lookup t n c = none := by
  unfold lookup
  cases hg : get t n c with
  | none => rfl
  | some e => exact absurd (get_some_key hg) (h e (get_some_mem hg))

instance wfDec : (t : Table) → Decidable (wf t)
  | [] => isTrue trivial
  | e :: r => have := wfDec r; inferInstanceAs (Decidable (get r e.name e.spec.cls = none ∧ wf r))

theorem default_wf : wf defaultTable := by decide +kernel

theorem default_inv : Inv defaultTable := by
  have hpost : ∀ e ∈ defaultTable, e.spec.cls ≠ .post := by decide +kernel
  have hrange : ∀ e ∈ defaultTable, 1 ≤ e.prio ∧ e.prio ≤ 1200 := by decide +kernel
  have hnil : ∀ e ∈ defaultTable, e.name ≠ "[]" := by decide +kernel
  have hcurly : ∀ e ∈ defaultTable, e.name ≠ "{}" := by decide +kernel
  have hbar : ∀ e ∈ defaultTable, e.name ≠ "|" := by decide +kernel
  have hname : ∀ {n}, (∀ e ∈ defaultTable, e.name ≠ n) → ∀ c, lookup defaultTable n c = none :=
    fun h c => lookup_none_of_key fun e he hk => h e he hk.1
  refine ⟨default_wf, ?_, ?_, fun c => ⟨hname hnil c, hname hcurly c⟩, hname hbar _, hname hbar _, ?_⟩
  · intro n; right; exact lookup_none_of_key fun e he hk => hpost e he hk.2
  · intro n c p s h
    obtain ⟨e, hg, -, rfl, rfl⟩ := lookup_eq_some.1 h
    have := hrange e (get_some_mem hg)
    exact ⟨this.1, this.2, (get_some_key hg).2⟩
  · intro p s h
    rw [hname hbar] at h
    cases h

end Scryer.OpTable
