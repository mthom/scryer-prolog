import ScryerModel.Model.AllSolRun
import ScryerModel.Proofs.Solve
/-
Fuel monotonicity of `Scryer.AllSol.solveX` (the interpreter of Model/AllSolRun.lean): a run that
is not out of fuel is unchanged by more fuel. Reuses the lemmas of Proofs/Solve.lean, whose
`step_mono` is parametric in the recursive call.
-/
namespace Scryer.AllSol
open Scryer.Solve

variable {k n : Nat}

theorem canBeList_mono {s : St} {l : Term} {c c' : Unit → Res} (hc : Res.Le (c ()) (c' ())) :
    Res.Le (canBeList n s l c) (canBeList (n + k) s l c') := by
  unfold canBeList
  refine (isPartialList_le n l).elim (fun _ => .oofR) fun b => ?_
  cases b with
  | false => exact raise_mono
  | true => exact hc

theorem groupAnswers_le {σ : Subst} {c' : Nat} {ws l : Term} : ∀ gs : List (Term × List Term),
    Le none (groupAnswers n σ c' ws l gs) (groupAnswers (n + k) σ c' ws l gs)
  | [] => .refl _
  | (w, ts) :: gs => by
    unfold groupAnswers
    refine (unify_le n σ w ws).elim (fun _ => .bot) fun o => ?_
    cases o with
    | none => exact groupAnswers_le gs
    | some σ1 =>
      dsimp only
      refine (unify_le n σ1 l _).elim (fun _ => .bot) fun o2 => ?_
      cases o2 with
      | none => exact groupAnswers_le gs
      | some σ2 => exact (groupAnswers_le gs).elim (fun _ => .bot) fun _ => .refl _

theorem analyse_le (cfg : Cfg) (σ : Subst) (t' g' : Term) :
    Le none (analyse cfg n σ t' g') (analyse cfg (n + k) σ t' g') := by
  unfold analyse
  cases analysePure cfg t' g' with
  | fail => rfl
  | run goal ws al =>
    dsimp only
    exact (unify_le n σ _ _).elim (fun _ => .bot) fun _ => .refl _

theorem finishX_mono {σa : Subst} {c' : Nat} {wsT l : Term} {ok : Bool}
    {groups : List (Term × List Term)} :
    Res.Le (finishX n σa c' wsT l ok groups) (finishX (n + k) σa c' wsT l ok groups) := by
  unfold finishX
  cases ok with
  | false => rfl
  | true =>
    simp only [if_true]
    exact (groupAnswers_le groups).elim (fun _ => .oofR) fun _ => .refl _

section
variable {rec rec' : Term → St → Res} (hx : RExt rec rec') {s : St}
include hx

theorem findallX_mono {t g l tl : Term} :
    Res.Le (findallX rec n s t g l tl) (findallX rec' (n + k) s t g l tl) :=
  canBeList_mono <| canBeList_mono <| (callGoal_mono hx).strict fun e => by
    -- the `split` is on `rG.exc`: the goal threw, or its solutions are collected
    rw [e]; split
    · rfl
    · refine (instances_le _ s.ctr).elim (fun _ => .oofR) fun ts => ?_
      dsimp only
      exact (unify_le n s.σ l _).elim (fun _ => .oofR) fun _ => .refl _

theorem bagofX_mono {cfg : Cfg} {isSet : Bool} {t g l : Term} :
    Res.Le (bagofX cfg isSet rec n s t g l) (bagofX cfg isSet rec' (n + k) s t g l) := by
  refine canBeList_mono ?_
  refine (resolve_le n t).elim (fun _ => .oofR) fun t' => ?_
  refine (resolve_le n g).elim (fun _ => .oofR) fun g' => ?_
  dsimp only
  refine (analyse_le cfg s.σ t' g').elim (fun _ => .oofR) fun o => ?_
  cases o with
  | none => rfl
  | some x =>
    exact (callGoal_mono hx).strict fun e => by
      -- the `split` is on `rG.exc`, as in `findallX_mono`
      rw [e]; split
      · rfl
      · exact (instances_le _ s.ctr).elim (fun _ => .oofR) fun _ => finishX_mono

theorem stepX_mono {cfg : Cfg} {prog : Prog} {g : Term} :
    Res.Le (stepX cfg prog rec n g s) (stepX cfg prog rec' (n + k) g s) := by
  unfold stepX
  cases classifyX g with
  | findall t g1 l tl => exact findallX_mono hx
  | bagof isSet t g1 l => exact bagofX_mono hx
  | «forall» c a => exact hx _ s
  | other =>
    dsimp only
    -- a module-qualified goal `_ : G1` runs `G1`; anything else is a `step` of Model/Solve (`step_mono`)
    split
    · exact hx _ s
    · exact step_mono hx

end

theorem solveX_mono (cfg : Cfg) (prog : Prog) (k : Nat) : ∀ (n : Nat) (g : Term) (s : St),
    Res.Le (solveX cfg n prog g s) (solveX cfg (n + k) prog g s)
  | 0, _, _ => .oofR
  | n + 1, g, s => by rw [Nat.succ_add]; exact stepX_mono (solveX_mono cfg prog k n)

end Scryer.AllSol
