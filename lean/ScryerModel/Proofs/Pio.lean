import ScryerModel.Proofs.Stream
import ScryerModel.Model.Pio
/-! Lemmas for C47 (`Model/Pio.lean`). The file is `encodeAll cps`; the byte position after `m`
characters is `(encodeAll (cps.take m)).length`, so a block read there is a `take`/`drop` of `cps`
(`readBlock_append`, with `readBlock_at` its instance at `cps.take m ++ cps.drop m`), and a partially
materialised list is determined by the number of blocks read: waking its tail either ends it
without a read or reads one block that the file still had (`forceStep_spec`). -/
namespace Scryer.Pio
open Scryer.Utf8 Scryer.Stream

theorem flatten_chunksF (fuel k : Nat) (s : List Nat) (hk : 1 ≤ k) : s.length ≤ fuel →
    (chunksF fuel k s).flatten = s := by
  fun_induction chunksF fuel k s with
  | case1 k s => intro h; exact (List.eq_nil_of_length_eq_zero (by omega)).symm
  | case2 => intro _; rfl
  | case3 fuel k s hs ih =>
    intro h
    have := List.length_pos_iff.2 hs
    rw [List.flatten_cons, ih hk (by rw [List.length_drop]; omega), List.take_append_drop]

theorem chunksF_bounds (fuel k : Nat) (s : List Nat) (hk : 1 ≤ k) :
    ∀ c ∈ chunksF fuel k s, c ≠ [] ∧ c.length ≤ k := by
  fun_induction chunksF fuel k s with
  | case1 | case2 => nofun
  | case3 fuel k s hs ih =>
    intro c hc
    rcases List.mem_cons.1 hc with rfl | h
    · exact ⟨fun h0 => (List.take_eq_nil_iff.1 h0).elim (by omega) hs,
        by rw [List.length_take]; omega⟩
    · exact ih hk c h

theorem readBlock_append (k : Nat) (pre post : List Nat) (hs : ∀ c ∈ post, isScalar c = true) :
    readBlock k (encodeAll (pre ++ post)) (encodeAll pre).length =
      if post = [] then none
      else some (post.take k, (encodeAll (pre ++ post.take k)).length) := by
  unfold readBlock
  rw [encodeAll_append, List.length_append, List.drop_left, takeChars_encodeAll k post hs,
    encodeAll_append, List.length_append]
  have := length_le_encodeAll post
  by_cases hd : post = []
  · rw [if_pos hd, if_pos (by rw [hd]; rfl)]
  · have := List.length_pos_iff.2 hd
    rw [if_neg hd, if_neg (by omega)]

theorem readBlock_at (k : Nat) (cps : List Nat) (hs : ∀ c ∈ cps, isScalar c = true) (m : Nat) :
    readBlock k (encodeAll cps) (encodeAll (cps.take m)).length =
      if cps.drop m = [] then none
      else some ((cps.drop m).take k, (encodeAll (cps.take (m + k))).length) := by
  have h := readBlock_append k (cps.take m) (cps.drop m) fun x hx => hs x (List.mem_of_mem_drop hx)
  rwa [List.take_append_drop, ← List.take_add] at h

/-- `fuel` is `renderAll`'s and `f2` is `chunksF`'s: each only has to bound the number of blocks of `post`, so
    the two need not agree (`lazyChars` runs on the byte length + 1, `chunks` on the character length). -/
theorem renderAll_eq_chunksF (k : Nat) (hk : 1 ≤ k) :
    ∀ (fuel f2 : Nat) (pre post : List Nat), (∀ c ∈ post, isScalar c = true) →
      post.length < fuel → post.length ≤ f2 →
      renderAll fuel k (encodeAll (pre ++ post)) (encodeAll pre).length = chunksF f2 k post
  | 0, _, _, _, _, h, _ => by omega
  | fuel+1, f2, pre, post, hs, h1, h2 => by
    unfold renderAll
    rw [readBlock_append k pre post hs]
    by_cases hd : post = []
    · rw [if_pos hd, hd]
      cases f2 <;> simp [chunksF]
    · have hpos := List.length_pos_iff.2 hd
      obtain ⟨f2', rfl⟩ : ∃ f, f2 = f + 1 := ⟨f2 - 1, by omega⟩
      have ih := renderAll_eq_chunksF k hk fuel f2' (pre ++ post.take k) (post.drop k)
        (fun x hx => hs x (List.mem_of_mem_drop hx)) (by rw [List.length_drop]; omega)
        (by rw [List.length_drop]; omega)
      rw [List.append_assoc, List.take_append_drop] at ih
      rw [if_neg hd, chunksF, if_neg hd]
      simp only
      rw [ih]

/-- the invariant of the partially materialised list over the file `encodeAll cps`; the last
    conjunct: every block read so far began before the end of the file. -/
def LLInv (k : Nat) (cps : List Nat) (l : LL) : Prop :=
  l.have_ = cps.take (k * l.reads) ∧ l.off = (encodeAll (cps.take (k * l.reads))).length ∧
    (l.fin = true → cps.length ≤ k * l.reads) ∧ k * l.reads < cps.length + k

theorem LLInv_init (k : Nat) (cps : List Nat) (hk : 1 ≤ k) : LLInv k cps LL.init := by
  refine ⟨by simp [LL.init], by simp [LL.init, encodeAll], by simp [LL.init], by simp [LL.init]; omega⟩

theorem forceStep_fin (k : Nat) (bytes : List Nat) {l : LL} (hf : l.fin = true) :
    forceStep k bytes l = l := by
  unfold forceStep; rw [if_pos hf]

theorem forceStep_spec (k : Nat) (cps : List Nat) (hs : ∀ c ∈ cps, isScalar c = true) {l : LL}
    (h : LLInv k cps l) :
    LLInv k cps (forceStep k (encodeAll cps) l) ∧
      ((forceStep k (encodeAll cps) l).fin = true ∧ (forceStep k (encodeAll cps) l).reads = l.reads ∨
        k * l.reads < cps.length ∧ (forceStep k (encodeAll cps) l).reads = l.reads + 1) := by
  cases hf : l.fin with
  | true => rw [forceStep_fin k _ hf]; exact ⟨h, .inl ⟨hf, rfl⟩⟩
  | false =>
    unfold forceStep
    rw [if_neg (by rw [hf]; exact Bool.false_ne_true), h.2.1, readBlock_at k cps hs]
    by_cases hd : cps.length ≤ k * l.reads
    · rw [if_pos (List.drop_eq_nil_iff.2 hd)]
      -- `rw [h.2.1]` has rewritten the `off` inside `{ l with fin := true }` as well
      exact ⟨⟨h.1, rfl, fun _ => hd, h.2.2.2⟩, .inl ⟨rfl, rfl⟩⟩
    · rw [if_neg (mt List.drop_eq_nil_iff.1 hd)]
      exact ⟨⟨by rw [h.1, Nat.mul_succ, List.take_add], by rw [Nat.mul_succ], nofun,
        by show k * (l.reads + 1) < _; rw [Nat.mul_succ]; omega⟩, .inr ⟨by omega, rfl⟩⟩

theorem demand_fin : ∀ (fuel k : Nat) (bytes : List Nat) (n : Nat) (l : LL), l.fin = true →
    demand fuel k bytes n l = l
  | 0, _, _, _, _, _ => rfl
  | fuel+1, k, bytes, n, l, h => by unfold demand; simp [h]

/-- the invariant is kept; no more blocks are read than cell `n` needs; and the fuel does not cut the run short:
    a step that neither stops nor ends the list spends one fuel and reads one block, so `n + 2 ≤ fuel + l.reads`
    is kept, and at fuel 0 it says that `n + 2` blocks of `k ≥ 1` characters (or the whole file) are there. -/
theorem demand_spec (k : Nat) (cps : List Nat) (hs : ∀ c ∈ cps, isScalar c = true) (hk : 1 ≤ k) (n : Nat) :
    ∀ (fuel : Nat) (l : LL), LLInv k cps l →
      LLInv k cps (demand fuel k (encodeAll cps) n l) ∧
      (demand fuel k (encodeAll cps) n l).reads ≤ max l.reads (n / k + 1) ∧
      (n + 2 ≤ fuel + l.reads → ((demand fuel k (encodeAll cps) n l).fin = true ∨
          n < (demand fuel k (encodeAll cps) n l).have_.length))
  | 0, l, h => by
    refine ⟨h, Nat.le_max_left _ _, fun hf => ?_⟩
    right
    show n < l.have_.length
    -- all `n + 2` steps were reads: `k · reads` characters are there, or all of them
    obtain ⟨r, hr⟩ : ∃ r, l.reads = r + 1 := ⟨l.reads - 1, by omega⟩
    have h4 := h.2.2.2
    have := Nat.le_mul_of_pos_left r (show 0 < k by omega)
    rw [h.1, List.length_take]
    rw [hr, Nat.mul_succ] at h4 ⊢
    omega
  | fuel+1, l, h => by
    unfold demand
    split
    · rename_i hc
      refine ⟨h, Nat.le_max_left _ _, fun _ => ?_⟩
      simp only [Bool.or_eq_true, decide_eq_true_eq] at hc
      exact hc
    · rename_i hc
      simp only [Bool.or_eq_true, decide_eq_true_eq, not_or, Bool.not_eq_true, Nat.not_lt] at hc
      obtain ⟨hi, hr⟩ := forceStep_spec k cps hs h
      obtain ⟨j1, j3, j4⟩ := demand_spec k cps hs hk n fuel _ hi
      rcases hr with ⟨hf, hr⟩ | ⟨hd, hr⟩
      · rw [hr] at j3
        exact ⟨j1, j3, fun _ => .inl (by rw [demand_fin _ _ _ _ _ hf]; exact hf)⟩
      · -- the `k · reads` cells that are there do not reach cell `n`
        have hlen := hc.2
        rw [h.1, List.length_take, Nat.min_eq_left (Nat.le_of_lt hd)] at hlen
        have : l.reads ≤ n / k := (Nat.le_div_iff_mul_le (by omega)).2 (by rw [Nat.mul_comm]; exact hlen)
        exact ⟨j1, by omega, fun hf => j4 (by omega)⟩
end Scryer.Pio
