import ScryerModel.Proofs.QuoteEsc
import ScryerModel.Proofs.QuoteMin
/-! C55: no token fusion — lexing a printed token followed by whatever `requires_space` lets follow it
    (`Cont`, `TokText`; `safe_of_reqSpace`: a "no" of `requires_space` grants it), then a whole sequence of
    printed items by an invariant over the printer's fold (`SeqInv`, kept by every item: `step_item`). One atom
    printed and read alone is the case of a token with nothing after it. -/
namespace Scryer.Quote
open Scryer.CharClass

variable {u : UC}

/-- what must hold between the last character `ac` of a token text and the character `c` after it for
    the token to end where its text ends -/
def Safe (u : UC) (ac c : Char) : Prop :=
  (alpha_numeric_char u ac = true → alpha_numeric_char u c = false) ∧
  (graphic_token_char u ac = true → graphic_token_char u c = false) ∧
  (ac = '\'' → c ≠ '\'') ∧ (ac = '0' → c ≠ '\'')

/-- the text `k` may follow the token text `x`: it starts, if at all, with a character that is `Safe` after
    the last one of `x`, and not with `.` and a digit -/
def Cont (u : UC) (x k : List Char) : Prop :=
  (∀ c k' ac, k = c :: k' → x.getLast? = some ac → Safe u ac c) ∧ NoDotDigit k

theorem stops_of_cont {p : Char → Bool} {x k : List Char} {ac : Char} (hc : Cont u x k)
    (hl : x.getLast? = some ac) (hp : ∀ c, Safe u ac c → p c = false) : stops p k := by
  cases k with
  | nil => trivial
  | cons c k' => exact hp c (hc.1 c k' ac rfl hl)

theorem safe_of_reqSpace (hu : UCWF u) {ac c : Char} (h : reqSpaceChars u ac c = false) : Safe u ac c := by
  unfold reqSpaceChars at h
  refine ⟨fun ha => ?_, fun hg => ?_, fun e => ?_, fun e => ?_⟩
  · by_cases h0 : ac = '0'
    · simp [h0] at h; exact h.2
    · simp [h0, ha] at h; exact h.2
  · have h0 : ac ≠ '0' := ne_of_class hg rfl
    simpa [h0, (gt_facts hu hg).2.1, hg] using h
  · -- the quote is in none of the classes asked about before `single_quote_char`
    have q1 : alpha_numeric_char u '\'' = false := by rw [alnum_ascii hu (by decide)]; decide
    have q3 : capital_letter_char u '\'' = false := cap_false hu _ (by decide) (by decide)
    subst e
    simpa [q1, q3, graphic_token_char, graphic_char, backslash_char, variable_indicator_char, sign_char,
      single_quote_char] using h
  · subst e
    simp at h; exact h.1.1

theorem cont_nil (t : List Char) : Cont u t [] := ⟨fun _ _ _ e => (nomatch e), fun _ _ e => nomatch e⟩

/-- the characters the printer pushes, and the space -/
def neutralList : List Char := '(' :: ' ' :: punctList

theorem cont_neutral (hu : UCWF u) (t : List Char) {c : Char} (hc : c ∈ neutralList) (k : List Char) :
    Cont u t (c :: k) := by
  have : ∀ x ∈ neutralList, x.toNat < 128 ∧ alpha_numeric_char asciiUC x = false ∧
      graphic_token_char asciiUC x = false ∧ x ≠ '\'' ∧ x ≠ '.' := by decide +kernel
  obtain ⟨h1, h2, h3, h4, h5⟩ := this c hc
  refine ⟨fun c' k' ac e _ => ?_, fun d k' e => absurd (List.cons.inj e).1 h5⟩
  rw [← (List.cons.inj e).1]
  exact ⟨fun _ => (wf_alnum hu h1).trans h2, fun _ => h3, fun _ => h4, fun _ => h4⟩

theorem getLast_append_ne {a b : List Char} (hb : b ≠ []) : (a ++ b).getLast? = b.getLast? := by
  simp [List.getLast?_append]
  cases h : b.getLast? with
  | none => simp [List.getLast?_eq_none_iff] at h; exact absurd h hb
  | some x => simp

theorem cont_suffix {a x k : List Char} (hx : x ≠ []) (h : Cont u (a ++ x) k) : Cont u x k :=
  ⟨fun c k' ac e hac => h.1 c k' ac e (by rw [getLast_append_ne hx]; exact hac), h.2⟩

/-- big-step token reading: `Lexes u b cs ts` — reading `cs` (with the layout flag `b` for the first
    token) yields exactly the tokens `ts`; every step consumes at least one character. -/
inductive Lexes (u : UC) : Bool → List Char → List Tok → Prop
  | done {b : Bool} {cs : List Char} : nextTokFrom u b cs = .eof → Lexes u b cs []
  | step {b : Bool} {cs rest : List Char} {t : Tok} {ts : List Tok} :
      nextTokFrom u b cs = .tok t rest → rest.length < cs.length → Lexes u false rest ts →
      Lexes u b cs (t :: ts)

theorem tokensFuel_of_lexes {b : Bool} {cs : List Char} {ts : List Tok} (h : Lexes u b cs ts) :
    b = false → ∀ n, cs.length < n → tokensFuel u n cs = some ts := by
  induction h with
  | done h0 =>
    intro hb n hn
    subst hb
    cases n with
    | zero => omega
    | succ n => simp [tokensFuel, nextTok_eq, h0]
  | step h0 hl _ ih =>
    intro hb n hn
    subst hb
    cases n with
    | zero => omega
    | succ n => simp [tokensFuel, nextTok_eq, h0, ih rfl n (by omega)]

theorem tokens_of_lexes {cs : List Char} {ts : List Tok} (h : Lexes u false cs ts) : tokens u cs = some ts :=
  tokensFuel_of_lexes h rfl _ (by omega)

theorem lexes_space {b : Bool} {cs : List Char} {ts : List Tok} (h : Lexes u true cs ts) :
    Lexes u b (' ' :: cs) ts := by
  cases h with
  | done h0 => exact .done ((nextTokFrom_space b cs).trans h0)
  | step h0 hl hr => exact .step ((nextTokFrom_space b cs).trans h0) (by simp; omega) hr

/-- the tokens an atom text denotes -/
def atomToks (s : List Char) : List Tok :=
  if s = ['[', ']'] then [.punct '[', .punct ']']
  else if s = ['{', '}'] then [.punct '{', .punct '}'] else [.name s]

theorem alnum_space (hu : UCWF u) : alpha_numeric_char u ' ' = false := by
  rw [alnum_ascii hu (by decide)]; decide

/-- the text `x` is read as the tokens `ts` whatever `Cont` lets follow it (`lex`). The other fields serve the
    sequence proof, where `x` is appended to what was printed before: `headSafe` gives the `NoDotDigit` half of
    `Cont` for `x ++ k` after that text; `ne` and `lastNotSpace`: what follows `x` comes after `x`'s own last
    character, with the layout flag off. -/
structure TokText (u : UC) (x : List Char) (ts : List Tok) : Prop where
  ne : x ≠ []
  lastNotSpace : x.getLast? ≠ some ' '
  headSafe : ∀ k, NoDotDigit (x ++ k)
  lex : ∀ (b : Bool) (k : List Char) (tk : List Tok), Cont u x k → Lexes u false k tk →
    Lexes u b (x ++ k) (ts ++ tk)

theorem noDotDigit_cons {c : Char} (h : c ≠ '.') (r k : List Char) : NoDotDigit (c :: r ++ k) :=
  fun _ _ e => absurd (List.cons.inj e).1 h

theorem TokText.one {x : List Char} {ac : Char} {t : Tok} (hac : x.getLast? = some ac) (hs : ac ≠ ' ')
    (hh : ∀ k, NoDotDigit (x ++ k))
    (hlex : ∀ b k, Cont u x k → nextTokFrom u b (x ++ k) = .tok t k) : TokText u x [t] :=
  have hx : x ≠ [] := fun e => by rw [e] at hac; cases hac
  ⟨hx, by rw [hac]; simpa using hs, hh, fun b k _ hc hl =>
    .step (hlex b k hc) (by simp [List.length_pos_iff.2 hx]) hl⟩

theorem tokText_brackets (hu : UCWF u) (a b : Char) (ha : a ∈ punctList) (hb : b ∈ punctList) :
    TokText u [a, b] [.punct a, .punct b] := by
  have : ∀ x ∈ punctList, x ≠ ' ' ∧ x ≠ '.' := by decide
  refine ⟨by simp, by simpa using (this b hb).1, noDotDigit_cons (this a ha).2 _, ?_⟩
  intro b' k tk _ hl
  exact .step (nextTokFrom_punct hu b' a ha (b :: k)) (by simp)
    (.step (nextTokFrom_punct hu false b hb k) (by simp) hl)

theorem atomToks_name {s : List Char} (h1 : s ≠ ['[', ']']) (h2 : s ≠ ['{', '}']) : atomToks s = [.name s] := by
  simp [atomToks, h1, h2]

theorem tokText_atom (hu : UCWF u) (s : List Char) : TokText u (printAtom u true s) (atomToks s) := by
  have hb := nonQuoted_brackets hu
  by_cases b1 : s = ['[', ']']
  · subst b1; rw [printAtom_of_nonQuoted hb.1]; exact tokText_brackets hu '[' ']' (by decide) (by decide)
  by_cases b2 : s = ['{', '}']
  · subst b2; rw [printAtom_of_nonQuoted hb.2]; exact tokText_brackets hu '{' '}' (by decide) (by decide)
  rw [atomToks_name b1 b2]
  by_cases hq : nonQuotedToken u s = true
  · rw [printAtom_of_nonQuoted hq]
    -- letter-digit, graphic, `[]` and `{}` (dealt with above), `!`, `;`
    rcases (nonQuoted_cases hu).1 hq with ⟨c, r, rfl, hs, hall⟩ | ⟨⟨hne, hall⟩, h1, h2⟩ | h | h | rfl | rfl
    · obtain ⟨ac, hac⟩ : ∃ ac, (c :: r).getLast? = some ac := ⟨_, List.getLast?_eq_some_getLast (by simp)⟩
      have ne := small_ne hu hs
      have hal : alpha_numeric_char u ac = true := by
        rcases List.mem_cons.1 (List.mem_of_getLast? hac) with rfl | hm
        · exact small_alnum hu hs
        · exact hall ac hm
      exact .one hac (ne_of_class hal (alnum_space hu)) (noDotDigit_cons (ne '.' (by decide) (by decide)) _)
        (fun b k hc => nextTokFrom_small hu b hs hall (stops_of_cont hc hac fun _ h => h.1 hal))
    · obtain ⟨ac, hac⟩ : ∃ ac, s.getLast? = some ac := ⟨_, List.getLast?_eq_some_getLast hne⟩
      have hag := hall ac (List.mem_of_getLast? hac)
      refine .one hac (ne_of_class hag rfl) ?_
        (fun b k hc => nextTokFrom_graphic hu b hne hall h1 h2 (stops_of_cont hc hac fun _ h => h.2.1 hag))
      -- after a leading `.` comes another graphic token character, not a digit
      intro k d k' e
      match s, e with
      | [], _ => exact absurd rfl hne
      | [_], e => exact absurd (congrArg (· :: []) (List.cons.inj e).1) h2
      | _ :: d' :: _, e =>
        rw [← (List.cons.inj (List.cons.inj e).2).1]
        exact (gt_facts hu (hall d' (by simp))).2.2.2.2.1
    · exact absurd h b1
    · exact absurd h b2
    · exact .one rfl (by decide) (noDotDigit_cons (by decide) _)
        (fun b k _ => nextTokFrom_solo_name hu b '!' (by decide) k)
    · exact .one rfl (by decide) (noDotDigit_cons (by decide) _)
        (fun b k _ => nextTokFrom_solo_name hu b ';' (by decide) k)
  · rw [printAtom_quoted hq]
    have hlast : ('\'' :: (s.flatMap (charToString u true) ++ ['\''])).getLast? = some '\'' := by
      rw [← List.cons_append]; exact List.getLast?_concat
    refine .one hlast (by decide) (noDotDigit_cons (by decide) _) (fun b k hc => ?_)
    rw [List.cons_append, List.append_assoc]
    exact nextTokFrom_quoted hu b s k (stops_of_cont hc hlast fun c h => by simpa using h.2.2.1 rfl)

theorem decDigit_ok : ∀ m, m < 10 → (Char.ofNat (48 + m)).isDigit = true ∧ (Char.ofNat (48 + m)).toNat - 48 = m := by
  decide

theorem decDigits_spec (n : Nat) :
    (∀ d ∈ decDigits n, d.isDigit = true) ∧ digitsVal (decDigits n) = n ∧ decDigits n ≠ [] :=
  (Positional.Numeral.of_eq (by decide) (fun n => by rw [decDigits]; rfl) n).spec (by decide) decDigit_ok

theorem alnum_of_digit (hu : UCWF u) {c : Char} (hc : c.isDigit = true) : alpha_numeric_char u c = true := by
  rw [alnum_ascii hu (digit_ascii hc), hc, Bool.or_true]

/-- a digit string; what `Safe` lets follow its last digit is not alphanumeric: no digit, no `_`, `x`, `o`, `b` -/
theorem tokText_digits (hu : UCWF u) {ds : List Char} (hne : ds ≠ []) (h1 : ∀ d ∈ ds, d.isDigit = true) :
    TokText u ds [.int (digitsVal ds)] := by
  obtain ⟨ac, hac⟩ : ∃ ac, ds.getLast? = some ac := ⟨_, List.getLast?_eq_some_getLast hne⟩
  have hd := h1 ac (List.mem_of_getLast? hac)
  have hal := alnum_of_digit hu hd
  have ne : ∀ x : Char, x.toNat < 128 → alpha_numeric_char asciiUC x = true → ∀ {c}, Safe u ac c → c ≠ x :=
    fun x hx ha _ hs => (ne_of_class ((wf_alnum hu hx).trans ha) (hs.1 hal)).symm
  cases ds with
  | nil => exact absurd rfl hne
  | cons d0 ds' =>
    refine .one hac (ne_of_class hd (by decide))
      (noDotDigit_cons (ne_of_class (h1 d0 (by simp)) (by decide)) _) (fun b k hc => ?_)
    rw [List.cons_append, nextTokFrom_digit hu b (h1 d0 (by simp))]
    exact numberToken_int h1
      (stops_of_cont hc hac fun c hs => Bool.eq_false_iff.2 fun hc => ne_of_class (alnum_of_digit hu hc) (hs.1 hal) rfl)
      (fun c k' e => have hs := hc.1 c k' ac e hac
        ⟨ne '_' (by decide) (by decide) hs, fun h0 =>
          ⟨ne 'x' (by decide) (by decide) hs, ne 'o' (by decide) (by decide) hs, ne 'b' (by decide) (by decide) hs,
            hs.2.2.2 (by rw [h0] at hac; exact (Option.some.inj hac).symm)⟩⟩) hc.2

theorem tokText_nat (hu : UCWF u) (n : Nat) : TokText u (decDigits n) [.int n] := by
  obtain ⟨h1, h2, h3⟩ := decDigits_spec n
  simpa only [h2] using tokText_digits hu h3 h1

/-- the printed items of the theorem: atoms (any text, printed with `quoted = true`), non-negative
    integers, the characters the printer pushes (`, ) [ ] | { }`, `(`) and explicit spaces; `amb` is the
    text the ambiguity check is given (anything). -/
inductive PItem where
  | atom (amb s : List Char)
  | nat (amb : List Char) (n : Nat)
  | punct (c : Char)
  | open
  | space

def PItem.Valid : PItem → Prop
  | .punct c => c ∈ punctList
  | _ => True

def PItem.toItem (u : UC) : PItem → Item
  | .atom amb s => .tok amb (printAtom u true s)
  | .nat amb n => .tok amb (decDigits n)
  | .punct c => .ch c
  | .open => .ch '('
  | .space => .ch ' '

def endsSpace (t : List Char) : Bool := t.getLast? == some ' '

/-- the tokens an item stands for; `(` is `Open` after a space and `OpenCT` otherwise -/
def PItem.toks (prevSpace : Bool) : PItem → List Tok
  | .atom _ s => atomToks s
  | .nat _ n => [.int n]
  | .punct c => [.punct c]
  | .open => [if prevSpace then .punct '(' else .openCT]
  | .space => []

/-- print the items one after the other (as `HCPrinter::print` does) and collect the expected tokens -/
def renderT (u : UC) (items : List PItem) : Out × List Tok :=
  items.foldl (fun (p : Out × List Tok) x =>
    (emit u true p.1 (x.toItem u), p.2 ++ x.toks (endsSpace p.1.text))) (Out.empty, [])

theorem reqSpace_after_space (hu : UCWF u) (oc : Char) : reqSpaceChars u ' ' oc = false := by
  have a := alnum_space hu
  have c : capital_letter_char u ' ' = false := cap_false hu _ (by decide) (by decide)
  have g : graphic_token_char u ' ' = false := by
    show graphic_token_char asciiUC ' ' = false
    decide
  simp [reqSpaceChars, a, c, g, variable_indicator_char, sign_char, single_quote_char]

theorem requiresSpace_after_space (hu : UCWF u) (xs y : List Char) : requiresSpace u (xs ++ [' ']) y = false := by
  cases y with
  | nil => simp [requiresSpace]
  | cons d y' => simp [requiresSpace, reqSpace_after_space hu]

theorem emitItem_text (hu : UCWF u) (o : Out) (amb x : List Char) :
    ∃ sep, (emitItem u true o amb x).text = o.text ++ sep ++ x ∧
      (sep = [' '] ∨ (sep = [] ∧ requiresSpace u o.text x = false)) := by
  unfold emitItem
  by_cases ha : ambiguityCheck u true o amb = true
  · exact ⟨[' '], by simp [ha, requiresSpace_after_space hu], .inl rfl⟩
  · by_cases hr : requiresSpace u o.text x = true
    · exact ⟨[' '], by simp [ha, hr], .inl rfl⟩
    · exact ⟨[], by simp [ha, hr], .inr ⟨rfl, by simpa using hr⟩⟩

/-- the invariant of the sequence proof: whatever acceptable continuation follows the text printed so
    far, reading both yields the expected tokens followed by the continuation's tokens. -/
def SeqInv (u : UC) (p : Out × List Tok) : Prop :=
  ∀ k tk, Cont u p.1.text k → Lexes u (endsSpace p.1.text) k tk → Lexes u false (p.1.text ++ k) (p.2 ++ tk)

theorem endsSpace_append {a x : List Char} (hx : x ≠ []) (hl : x.getLast? ≠ some ' ') :
    endsSpace (a ++ x) = false := by
  simp only [endsSpace, getLast_append_ne hx]
  cases h : x.getLast? with
  | none => simp
  | some c => rw [h] at hl; simp at hl ⊢; exact hl

theorem step_tok (hu : UCWF u) (p : Out × List Tok) (hp : SeqInv u p) (amb x : List Char) (ts : List Tok)
    (hx : TokText u x ts) : SeqInv u (emitItem u true p.1 amb x, p.2 ++ ts) := by
  intro k tk hc hl
  obtain ⟨sep, e, hsep⟩ := emitItem_text hu p.1 amb x
  simp only [e] at hc hl ⊢
  rw [endsSpace_append hx.ne hx.lastNotSpace] at hl
  have hxk := fun b => hx.lex b k tk (cont_suffix hx.ne hc) hl
  rw [List.append_assoc, List.append_assoc, List.append_assoc]
  rcases hsep with rfl | ⟨rfl, hr⟩
  · exact hp _ _ (cont_neutral hu _ (by decide) _) (lexes_space (hxk true))
  · refine hp _ _ ⟨fun c k' ac e' hac => ?_, hx.headSafe k⟩ (hxk _)
    -- `requires_space` looked at the last character printed and the first of `x`, and said no
    cases hxs : x with
    | nil => exact absurd hxs hx.ne
    | cons d x' =>
      rw [hxs] at e' hr
      rw [← (List.cons.inj e').1]
      exact safe_of_reqSpace hu (by simpa [requiresSpace, hac] using hr)

theorem step_ch (hu : UCWF u) (p : Out × List Tok) (hp : SeqInv u p) {c : Char} (hc : c ∈ neutralList)
    (ts : List Tok)
    (h : ∀ k tk, Lexes u (c == ' ') k tk → Lexes u (endsSpace p.1.text) (c :: k) (ts ++ tk)) :
    SeqInv u (pushChar p.1 c, p.2 ++ ts) := by
  intro k tk _ hl
  have es : endsSpace (p.1.text ++ [c]) = (c == ' ') := by simp [endsSpace]
  simp only [pushChar, es] at hl ⊢
  rw [List.append_assoc, List.append_assoc]
  exact hp _ _ (cont_neutral hu _ hc _) (h k tk hl)

theorem step_item (hu : UCWF u) (p : Out × List Tok) (hp : SeqInv u p) (x : PItem) (hv : x.Valid) :
    SeqInv u (emit u true p.1 (x.toItem u), p.2 ++ x.toks (endsSpace p.1.text)) := by
  cases x with
  | atom amb s => exact step_tok hu p hp amb _ _ (tokText_atom hu s)
  | nat amb n => exact step_tok hu p hp amb _ _ (tokText_nat hu n)
  | punct c =>
    have hc : c ∈ punctList := hv
    have : ∀ x ∈ punctList, (x == ' ') = false := by decide
    refine step_ch hu p hp (List.mem_cons_of_mem _ (List.mem_cons_of_mem _ hc)) _ fun k tk hl => ?_
    rw [this c hc] at hl
    exact .step (nextTokFrom_punct hu _ c hc k) (by simp) hl
  | «open» =>
    exact step_ch hu p hp (by decide) _ fun k tk hl =>
      .step (nextTokFrom_open hu _ k) (by simp) hl
  | space => exact step_ch hu p hp (by decide) [] fun k tk hl => lexes_space hl

theorem seqInv_renderT (hu : UCWF u) (items : List PItem) (hv : ∀ x ∈ items, x.Valid) :
    SeqInv u (renderT u items) :=
  List.foldlRecOn items _ (fun k tk _ hl => by simpa [Out.empty, endsSpace] using hl)
    fun p hp x hx => step_item hu p hp x (hv x hx)

theorem SeqInv.tokens {p : Out × List Tok} (h : SeqInv u p) : tokens u p.1.text = some p.2 := by
  simpa using tokens_of_lexes (h [] [] (cont_nil _) (.done rfl))

theorem tokens_printAtom (hu : UCWF u) (s : List Char) : tokens u (printAtom u true s) = some (atomToks s) := by
  simpa using tokens_of_lexes ((tokText_atom hu s).lex false [] [] (cont_nil _) (.done rfl))

theorem atomOfTokens_atomToks (s : List Char) : atomOfTokens (atomToks s) = some s := by
  unfold atomToks
  split
  · subst s; rfl
  split
  · subst s; rfl
  · rfl

end Scryer.Quote
