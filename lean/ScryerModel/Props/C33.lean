import ScryerModel.Proofs.Heap
/-!
# C33 — Heap writes never exceed the reserved capacity

Model: `Model/Heap.lean` (mirror of `src/machine/heap.rs`, with the guard of `copy_pstr_within`
FIXED as in `notes/findings/C33-1.md`). Every write the mirrored code performs is logged as a
`Write` record `(off, size, lo, hi, cap)`: `[lo, hi)` is the region the write is entitled to — the
free region `[byte_len, byte_cap)` for the direct operations, the reserved interval for writes
through a `ReservedHeapSection` — and `cap` the capacity at the time of the write.
-/
namespace Scryer.Heap

/-- **Capacity invariant, every operation sequence.** Starting from any heap that satisfies the
invariant, after ANY sequence of operations (pushes, reservations with writes, string allocation,
string copying, slice copying, appending, truncation, list and functor writing, grows that succeed
or fail in any pattern): `byte_len ≤ byte_cap`, both are multiples of the cell size, the memory
contents are exactly the `byte_len` bytes written, and every write ever logged stayed inside its
region, which in turn was inside the allocation of that moment. -/
theorem C33_capacity_invariant (h : Heap) (ops : List Op) (i : Inv h) :
    (run h ops).len ≤ (run h ops).cap ∧ 8 ∣ (run h ops).len ∧ 8 ∣ (run h ops).cap ∧
    (run h ops).mem.length = (run h ops).len ∧
    ∀ w ∈ (run h ops).log, w.lo ≤ w.off ∧ w.off + w.size ≤ w.hi ∧ w.hi ≤ w.cap := by
  have r := run_inv ops h i
  exact ⟨r.len_le, Nat.dvd_of_mod_eq_zero r.len8, Nat.dvd_of_mod_eq_zero r.cap8, r.memLen, r.logOk⟩

/-- The heaps the code starts from satisfy the invariant: `Heap::new()` … -/
theorem C33_new_heap_inv : Inv ({} : Heap) :=
  ⟨Nat.le_refl _, rfl, rfl, by decide, rfl, fun _ hw => by cases hw⟩

/-- … and `Heap::with_cell_capacity(n)` whenever it returns a heap (the real function leaves the
`isize::MAX` bound to `Layout::from_size_align(..).unwrap()`, which panics beyond it). -/
theorem C33_with_cell_capacity_inv (n : Nat) (b : Option Nat) (h : Heap)
    (e : withCellCapacity n b = some h) (hmax : n * 8 ≤ isizeMax) : Inv h := by
  unfold withCellCapacity at e
  split at e
  · cases e
  · cases e
    exact ⟨Nat.zero_le _, rfl, heapIndex_mod n, hmax, rfl, fun _ hw => by cases hw⟩

/-- **Every operation sequence from a fresh heap**: no write outside the capacity of the moment,
whatever the fill level reached. -/
theorem C33_fresh_heap_all_sequences (n : Nat) (b : Option Nat) (h : Heap)
    (e : withCellCapacity n b = some h) (hmax : n * 8 ≤ isizeMax) (ops : List Op) :
    (run h ops).len ≤ (run h ops).cap ∧
    ∀ w ∈ (run h ops).log, w.off + w.size ≤ w.cap := by
  have r := C33_capacity_invariant h ops (C33_with_cell_capacity_inv n b h e hmax)
  exact ⟨r.1, fun w hw => by have := r.2.2.2.2 w hw; omega⟩

/-- **One step**: each single operation keeps the invariant; when it reports `AllocError` or
panics, nothing was written (`byte_len`, contents and log are those before the call; only
successful grows may have enlarged the capacity); it never leaves the model (`stuck`). -/
theorem C33_step (h : Heap) (op : Op) (i : Inv h) :
    match step h op with
    | .ok h' _ => Inv h' ∧ h.cap ≤ h'.cap
    | .allocErr h' => h'.len = h.len ∧ h'.mem = h.mem ∧ h'.log = h.log ∧ h.cap ≤ h'.cap ∧ Inv h'
    | .panic h' => h'.len = h.len ∧ h'.mem = h.mem ∧ h'.log = h.log ∧ h.cap ≤ h'.cap ∧ Inv h'
    | .contract h' => h' = h
    | .stuck => False := by
  have p := step_post h op i
  generalize step h op = r at p ⊢
  cases r with
  | ok h' a => exact p
  | allocErr h' => exact ⟨p.len_eq, p.mem_eq, p.log_eq, p.cap_le, p.inv i⟩
  | panic h' => exact ⟨p.len_eq, p.mem_eq, p.log_eq, p.cap_le, p.inv i⟩
  | contract h' => exact p
  | stuck => exact p

/-- **A failed grow leaves `(len, cap, contents)` unchanged**: `grow` returning `false` … -/
theorem C33_failed_grow_unchanged (h h' : Heap) (e : h.grow = .failed h') : h' = h := by
  have g := grow_spec h
  rw [e] at g
  exact g.1

/-- … and an operation that fails because its FIRST grow fails (no allocation succeeds:
budget 0) returns the heap it was given, bit for bit. -/
theorem C33_failed_operation_unchanged (h h' : Heap) (op : Op) (i : Inv h)
    (hb : h.budget = some 0) (e : step h op = .allocErr h') : h' = h := by
  have p := step_post h op i
  rw [e] at p
  exact p.budget0 hb

/-- **Inside a reservation**: `reserve(n)` followed by `write_with(f)`, for any writer `f` that
only uses the section's `push_cell` / `push_pstr_segment` / `push_pstr` (`SecStep`) and writes at
most `n` cells: every write of the call is logged with exactly the reserved interval
`[byte_len, byte_len + 8·n)` as its region (and, by the invariant, stays inside it). -/
theorem C33_reservation_interval {α : Type} (h h2 : Heap) (n : Nat) (f : Section → Section × α) (a : α)
    (i : Inv h) (hf : ∀ sec, SecStep sec (f sec).1) (e : h.withReserved n f = .ok h2 a) :
    ∀ w ∈ h2.log, w ∈ h.log ∨ (w.lo = h.len ∧ w.hi = h.len + n * 8) := by
  unfold Heap.withReserved at e
  split at e
  · cases e
  · have spec := growUntil_spec loopFuel h (n * 8)
    generalize growUntil loopFuel h (n * 8) = r at e spec
    cases r with
    | ok h' u =>
      cases e
      have g := spec.1
      have hci := cellLen_heapIndex (g.inv i)
      intro w hw
      have := (hf ⟨h', h'.cellLen, heapIndex h'.cellLen, heapIndex h'.cellLen + n * 8⟩).logNew w hw
      rw [hci, g.len_eq, g.log_eq] at this
      exact this
    | allocErr h' => cases e
    | panic h' => cases e
    | contract h' => cases e
    | stuck => cases e

/-- instance for `allocate_pstr`: all its writes lie in the interval it reserved. -/
theorem C33_allocate_pstr_interval (h h2 : Heap) (src : List Nat) (c : Cell) (i : Inv h)
    (e : h.allocatePstr src = .ok h2 c) :
    Inv h2 ∧ ∀ w ∈ h2.log, w ∈ h.log ∨
      (w.lo = h.len ∧ w.hi = h.len + computePstrSize src * 8 ∧ w.lo ≤ w.off ∧ w.off + w.size ≤ w.hi ∧ w.hi ≤ w.cap) := by
  have p := allocatePstr_post h src i
  rw [e] at p
  refine ⟨p.1, fun w hw => ?_⟩
  have := C33_reservation_interval h h2 (computePstrSize src) (pstrWriter src) c i
    (fun sec => pstrWriter_fst src sec ▸ (pushPstr_wrote sec src).step) e w hw
  rcases this with o | n
  · exact Or.inl o
  · exact Or.inr ⟨n.1, n.2, p.1.logOk w hw⟩

/-- **The size relation `allocate_pstr` / `allocate_cstr` / `functor_writer` rely on**: the
number `compute_pstr_size(s)` — handed to `reserve` as a number of CELLS — is at least the number
of cells `push_pstr(s)` writes plus the tail cell of `allocate_cstr`; indeed
`4·cells + 8 ≤ compute_pstr_size(s)`, for every string (any length mod 8, any NUL pattern). -/
theorem C33_pstr_reservation_suffices (sec : Section) (src : List Nat) :
    4 * ((sec.pushPstr src).1.cellLen - sec.cellLen) + 8 ≤ computePstrSize src ∧
    ((sec.pushPstr src).1.cellLen - sec.cellLen) + 1 ≤ computePstrSize src := by
  have h := Nat.sub_le_iff_le_add'.mpr (pushPstr_wrote sec src).cells
  have d := Nat.div_mul_le_self (computePstrSize src - 8) 4
  have h8 : 8 ≤ computePstrSize src := Nat.le_add_left _ _
  generalize (computePstrSize src - 8) / 4 = q at h d
  generalize (sec.pushPstr src).1.cellLen - sec.cellLen = k at h ⊢
  omega

/-- arithmetic the code leaves unchecked: `compute_pstr_size(s) ≤ 16·len(s) + 8` for every
string, so its `usize` additions (and the `+ 1` of `allocate_cstr`) cannot overflow for strings
shorter than 2^59 bytes. -/
theorem C33_compute_pstr_size_bound (src : List Nat) : computePstrSize src ≤ 16 * src.length + 8 := by
  have := cps_bound (src.length + 1) src (by omega)
  unfold computePstrSize heapIndex
  omega

/-! ## witnesses: what the invariant is sensitive to -/

/-- the state of finding C33-1, reached by real operations: a 32-cell heap, `"abcdefg"`
allocated, 29 more cells pushed: `byte_len = 248`, `byte_cap = 256`. -/
def witnessHeap : Heap :=
  run ((withCellCapacity 32 (some 0)).getD {})
    (Op.allocPstr [97, 98, 99, 100, 101, 102, 103] :: (List.range 29).map fun k => Op.pushCell (.raw k))

/-- **Witness (finding C33-1).** With the guard of the ORIGINAL code
(`free_space() >= copy_size`) `copy_pstr_within` breaks the invariant on a reachable state:
the copy of the 7-byte string ends at `byte_len = 264 > byte_cap = 256`, the last logged write is
`[256, 264)`. With the fixed guard the same call fails cleanly (no grow allowed here). -/
theorem C33_witness_old_copy_guard :
    (witnessHeap.len, witnessHeap.cap) = (248, 256) ∧
    (witnessHeap.copyPstrWithinG copyNeedOld 0).lenCap = some (264, 256) ∧
    ((witnessHeap.copyPstrWithinG copyNeedOld 0).heapD {}).log.head? = some ⟨256, 8, 248, 256, 256⟩ ∧
    (witnessHeap.copyPstrWithin 0).lenCap = some (248, 256) := by
  decide +kernel

/-- **The defect characterised for every state**: whenever the string at `loc` has length ≡ 7
(mod 8) and exactly `copy_size` bytes are free, the original guard lets the copy run 8 bytes past
the capacity. -/
theorem C33_old_guard_overruns (h : Heap) (loc : Nat) (str : List Nat) (t : Nat)
    (hloc : ¬ loc > h.len) (hs : scanSliceToStr h.mem h.len loc = some (str, t))
    (h7 : str.length % 8 = 7) (hfree : h.freeSpace = str.length + 1) :
    ∃ h', h.copyPstrWithinG copyNeedOld loc = .ok h' t ∧ h'.len = h.len + h.freeSpace + 8 ∧ h'.cap = h.cap := by
  have ha : pstrSentinelLength str.length = 1 := by rw [sentinel_eq]; omega
  unfold Heap.copyPstrWithinG
  rw [if_neg hloc, hs]
  dsimp only
  rw [growUntil_fits h _ (by unfold copyNeedOld; rw [ha, hfree]; exact Nat.le_refl _)]
  dsimp only
  rw [if_pos ha]
  exact ⟨_, rfl, by show h.len + (str.length + pstrSentinelLength str.length + heapIndex 1) = _;
                    rw [ha, hfree]; unfold heapIndex; omega, rfl⟩

/-- bytes of `"a\0b\0c"` -/
def nulString : List Nat := [97, 0, 98, 0, 99]

/-- **Witness (units of `compute_pstr_size`).** The value is NOT a bound in the unit its
documentation states (bytes): for `"a\0b\0c"` it is 64 bytes = 8 cells while `push_pstr` writes 9
cells (72 bytes), 10 with the tail cell of `allocate_cstr`. Reserving `cell_index!(size) + 1`
cells ("fixing" the unit mismatch) would let `allocate_cstr` write 16 bytes beyond its
reservation, and at the right fill level beyond the capacity: on a 10-cell heap with one cell in
use the reservation of 9 cells fits exactly and `byte_len` ends at 88 > 80. The code as it is
(size taken as cells) reserves 65 cells and stays inside (`C33_pstr_reservation_suffices`). -/
theorem C33_witness_pstr_size_is_not_a_byte_bound :
    computePstrSize nulString = 64 ∧
    ((⟨{}, 0, 0, 0⟩ : Section).pushPstr nulString).1.cellLen = 9 ∧
    (((run ((withCellCapacity 10 (some 0)).getD {}) [Op.pushCell (.raw 0)]).allocateCstrG
        (fun s => cellIndex (computePstrSize s)) nulString).lenCap = some (88, 80)) := by
  decide +kernel

/-- **Witness (caller contract of `sized_iter_to_heap_list`).** The reservation is computed from
`size`, the writes from the iterator: an iterator that yields more than `size` items overruns the
reservation (1-item reservation = 3 cells on a heap with exactly 3 free cells; 2 items write 5).
All callers in the code base pass the iterator's own length. -/
theorem C33_witness_list_contract :
    ((run ((withCellCapacity 4 (some 0)).getD {}) [Op.pushCell (.raw 0)]).sizedIterToHeapList 1
        [.raw 1, .raw 2]).lenCap = some (48, 32) := by
  decide +kernel

/-! ## non-vacuity -/

/-- the hypotheses are satisfiable and the interesting branches are reached: a sequence that grows
(0 → 524288), reserves, allocates strings of length 7 and 8 and one with NULs, copies the 7-byte
string at a fill level where the extra cell matters, fails a grow, truncates. -/
def demoOps : List Op :=
  [.pushCell (.raw 1), .allocCstr [97, 98, 99, 100, 101, 102, 103], .allocPstr [1, 2, 3, 4, 5, 6, 7, 8],
   .allocCstr nulString, .copyPstrWithin 8, .reserveWrite 3 [.raw 1, .raw 2], .heapList 2 [.raw 1, .raw 2],
   .functor (errorStub [104, 105]), .copySliceToEnd 1 3, .append (encodeCell (.raw 9)),
   .setBudget (some 0), .reserveWrite 100000 [], .truncate 2, .grow]

example : ((run {} demoOps).len, (run {} demoOps).cap) = (16, 524288) := by decide +kernel

example : (step (run {} (demoOps.take 11)) (.reserveWrite 100000 [])).lenCap = some (264, 524288) ∧
    (match step (run {} (demoOps.take 11)) (.reserveWrite 100000 []) with
      | .allocErr _ => true | _ => false) = true := by decide +kernel

example : Inv (run {} demoOps) := run_inv _ _ C33_new_heap_inv

/-- the fixed guard on the witness state when a grow is allowed: the heap doubles first. -/
example : ({ witnessHeap with budget := none }.copyPstrWithin 0).lenCap = some (264, 512) := by
  decide +kernel

end Scryer.Heap
