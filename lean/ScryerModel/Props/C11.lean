import ScryerModel.Proofs.Trail
/-
C11 — Backtracking restores exactly the pre-goal state.

Theorems about `Scryer.Trail` (Model/Trail.lean), the mirror of `MachineState::trail`,
`Machine::unwind_trail`, the choice point instructions, `cut_body` and the global-variable table.
A *goal* is any sequence of operations: allocations of heap / attributed / stack variables, bindings
of old and new variables, attribute-list relinking, `bb_put`, `bb_b_put`, `bb_get`, and — nested to any
depth — choice point creation, backtracking into inner choice points (`retry`, `trust`) and cuts.
Every state reachable from the empty machine is covered (`Inv` holds for all of them).
-/
namespace Scryer.Trail

/-- Every reachable machine state satisfies the invariant: choice points are properly nested, `hb` is
    at or above the saved heap top of every choice point, and unwinding the trail to any choice point
    and truncating re-creates the store that existed when that choice point was created (with the
    `bb_put`s made since then, which are meant to persist). -/
theorem C11_invariant_of_reachable_states (ops : List Op) : Inv (run init ops) :=
  run_inv ops init init_inv

/-- Backtracking (`retry*`: the choice point stays; `trust*`: it is popped) puts the machine into the
    store recorded when the newest choice point was created: every heap cell and stack cell that
    existed then has its old content (cells unbound then are unbound again, cells bound then keep
    their value), newer cells are gone, and the trail is cut back to its old length. -/
theorem C11_backtracking_recreates_choice_point_store (ops : List Op) (cp : CP) (rest : List CP)
    (hc : (run init ops).cps = cp :: rest) :
    (step (run init ops) .retry).st = cp.snap ∧ (step (run init ops) .trust).st = cp.snap
    ∧ (step (run init ops) .retry).trail.length = cp.tr
    ∧ (step (run init ops) .trust).cps = rest := by
  have hi := C11_invariant_of_reachable_states ops
  have hs := hi.snap cp (hc ▸ List.mem_cons_self ..)
  rw [step_retry hc, step_trust hc]
  exact ⟨hs, hs, dropTo_length _ _ (hc ▸ hi.wf).2.1, rfl⟩

/-- the snapshot of a new choice point is the current store. -/
theorem C11_snapshot_is_store_at_creation (m : M) :
    ∃ cp, (step m .pushChoice).cps = cp :: m.cps ∧ cp.snap = m.st ∧ cp.h = m.st.heap.length
      ∧ cp.tr = m.trail.length := ⟨_, rfl, rfl, rfl, rfl⟩

/-- **Main theorem.** Take any reachable state (`run init pre`), create a choice point, run any goal
    that does not itself remove that choice point (it may create, backtrack into, exhaust and cut any
    number of inner choice points, to any depth: `keeps 0 ops`), then fail.  The store is exactly the
    pre-goal store — heap and stack cell for cell — except that the keys assigned by `bb_put/2`
    during the goal hold the last value put (`overrides … (puts ops)` touches nothing else); the
    trail and the older choice points are as before. -/
theorem C11_goal_failure_restores_pre_goal_state (pre ops : List Op) (hk : keeps 0 ops = true) :
    (step (run (step (run init pre) .pushChoice) ops) .trust).st = overrides (run init pre).st (puts ops)
    ∧ (step (run (step (run init pre) .pushChoice) ops) .trust).st.heap = (run init pre).st.heap
    ∧ (step (run (step (run init pre) .pushChoice) ops) .trust).st.stack = (run init pre).st.stack
    ∧ (step (run (step (run init pre) .pushChoice) ops) .trust).trail = (run init pre).trail
    ∧ (step (run (step (run init pre) .pushChoice) ops) .trust).cps
        = mapSnap (fun s => overrides s (puts ops)) (run init pre).cps := by
  rw [fail_keeps hk (step_inv _ .pushChoice (C11_invariant_of_reachable_states pre)) rfl]
  exact ⟨rfl, (overrides_heap _ _).1, (overrides_heap _ _).2, dropTo_self _, rfl⟩

/-- Without `bb_put/2` in the goal the pre-goal store is restored exactly, including every
    global variable: `bb_b_put/2` assignments (and the heap copies cached by `bb_get/2`) revert. -/
theorem C11_failure_restores_store_exactly (pre ops : List Op) (hk : keeps 0 ops = true)
    (hp : puts ops = []) :
    (step (run (step (run init pre) .pushChoice) ops) .trust).st = (run init pre).st := by
  have := (C11_goal_failure_restores_pre_goal_state pre ops hk).1
  simpa [hp, overrides] using this

/-- `bb_put/2` persists: after the failure of a goal whose last `bb_put` on key `k` stored `v` (no
    later `bb_put` on `k`; any `bb_b_put`s on `k` before or after it), `bb_get(k, X)` gives `v`. -/
theorem C11_bb_put_persists (pre ops1 ops2 : List Op) (k v : Nat)
    (hk : keeps 0 (ops1 ++ .bbPut k v :: ops2) = true) (hn : ∀ p ∈ puts ops2, p.1 ≠ k) :
    ((step (run (step (run init pre) .pushChoice) (ops1 ++ .bbPut k v :: ops2)) .trust).st.bb k).get = some v := by
  rw [(C11_goal_failure_restores_pre_goal_state pre _ hk).1, puts_append, overrides_append]
  show ((overrides (overrideBB _ k v) (puts ops2)).bb k).get = some v
  rw [overrides_bb_of_ne k _ _ hn]
  simp [overrideBB, setBB, BB.get]

/-- Conditional trailing is safe, and it is exactly the bindings of cells newer than `hb` that go
    unrecorded: binding the unbound heap variable at `h` adds a trail entry iff `h < hb`; when it
    does not, the cell lies at or above the saved heap top of *every* choice point, i.e. in the part
    of the heap that backtracking to any of them discards. -/
theorem C11_untrailed_bindings_are_discarded_cells (m : M) (hi : Inv m) (h v : Nat)
    (hu : m.st.heap[h]? = some .unbound) :
    ((step m (.bind h v)).trail = .heapVar h :: m.trail ↔ h < m.hb)
    ∧ (¬ h < m.hb → (step m (.bind h v)).trail = m.trail
        ∧ ∀ cp ∈ m.cps, (restore (step m (.bind h v)) cp).heap.length ≤ h) := by
  have hs : (step m (.bind h v)).trail = trailHeap m h (.heapVar h) := by
    dsimp only [step]; rw [hu]
  rw [hs, trailHeap]
  by_cases hlt : h < m.hb
  · exact ⟨⟨fun _ => hlt, fun _ => if_pos hlt⟩, fun hn => absurd hlt hn⟩
  · rw [if_neg hlt]
    refine ⟨⟨fun ht => ?_, fun h' => absurd h' hlt⟩, fun _ => ⟨rfl, fun cp hm => ?_⟩⟩
    · exact absurd (congrArg List.length ht) (Nat.ne_of_lt (Nat.lt_succ_self _))
    · simp only [restore, trunc, List.length_take]
      exact Nat.le_trans (Nat.min_le_left _ _) (Nat.le_trans (hi.hb cp hm) (Nat.not_lt.1 hlt))

/-- the same for stack variables: recorded iff older than the newest choice point (`h < b`). -/
theorem C11_stack_binding_trailed_iff_older_than_choice_point (m : M) (h v : Nat)
    (hu : m.st.stack[h]? = some .unbound) :
    (step m (.bindStack h v)).trail = (if h < m.b then .stackVar h :: m.trail else m.trail) := by
  dsimp only [step]; rw [hu]

/-! ## the pinned rule for `TrailedBlackboardOffset` breaks "bb_put persists" (finding C11-1) -/

/-- `unwind_trail` with the pinned, unconditional restore. -/
def undoToPinned (n : Nat) : List TE → Store → Store
  | [], s => s
  | e :: rest, s => if n ≤ rest.length then undoToPinned n rest (undo1Pinned s e) else s

/-- `bb_b_put(k,1), ( bb_b_put(k,5), bb_put(k,2), fail ; bb_get(k,X) )`: the model (repaired rule)
    answers 2 — what the same goal without the inner `bb_b_put` answers on the pinned code, too —
    whereas unwinding with the pinned rule resurrects the overridden value 1. -/
example :
    let m := run init [.bbBPut 7 1, .pushChoice, .bbBPut 7 5, .bbPut 7 2]
    ((step m .trust).st.bb 7).get = some 2
    ∧ ((undoToPinned 1 m.trail m.st).bb 7).get = some 1 := by decide +kernel

/-! ## non-vacuity -/

/-- old heap variable bound under a choice point (trailed), new one (not trailed), attributed
    variable, stack variable, nested choice point cut away, then failure: everything is back. -/
example :
    let pre := [Op.newVar, .newAttrVar, .newStackVar, .newCell 3]
    let goal := [Op.newVar, .bind 0 10, .bind 3 11, .bind 1 12, .bindStack 0 13, .pushChoice, .newVar,
                 .bind 4 14, .relink 2 (.val 9), .cut 1, .bbBPut 2 5]
    keeps 0 goal = true
    ∧ (run (step (run init pre) .pushChoice) goal).st.heap
        = [.val 10, .val 12, .val 9, .val 11, .val 14]
    ∧ (run (step (run init pre) .pushChoice) goal).trail.length = 5
    ∧ (step (run (step (run init pre) .pushChoice) goal) .trust).st.heap = [.unbound, .attr, .val 3]
    ∧ (step (run (step (run init pre) .pushChoice) goal) .trust).st.stack = [.unbound] := by decide +kernel

/-- inner choice point backtracked into and exhausted inside the goal -/
example : keeps 0 [Op.pushChoice, .newVar, .retry, .bbBPut 1 1, .trust, .newVar] = true := by decide +kernel

end Scryer.Trail
