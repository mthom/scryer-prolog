import ScryerModel.Proofs.FsTreeLaws
/-!
# C48 — file-system predicates reflect and change the real file system

The operating system is outside every model. What is proved here is the SPECIFICATION the real
predicates are compared against after every step of the correspondence run (`vlib/props/C48.py`):
`Model/FsTree.lean`, a finite path map with POSIX path resolution, the system calls `std::fs`
uses, std's `create_dir_all`, and the argument checks of `src/lib/files.pl`. Frame properties are
stated through `get`: a successful call changes `get` at the touched path(s) only. All theorems
hold for every tree (`WF`: every entry's parent is a directory), every working directory and every
path text; none is bounded.
-/
namespace Scryer.FsTree

/-! ## path_segments/2 -/

/-- `path_segments/2` round trip, path → segments → path, for EVERY path text (empty segments,
leading / trailing / doubled separators included). -/
theorem C48_segments_join_split (p : List Char) : joinC (splitC p) = p := by
  -- `splitC`'s clauses: 1 the empty text; 2 a separator; 3 another character, put in front of the
  -- first segment of the rest; 4 the same when the rest has no segment, which does not happen
  fun_induction splitC p with
  | case1 => rfl
  | case2 cs ih => rw [joinC_cons _ (splitC_ne_nil cs), ih]; rfl
  | case3 c cs _ s ss hs ih => rw [joinC_cons_head, ← hs, ih]
  | case4 _ cs _ hs => exact absurd hs (splitC_ne_nil cs)

/-- round trip segments → path → segments: for every NON-EMPTY list of separator-free segments
(the empty list joins to `""`, which splits to `[""]`: see the example below). -/
theorem C48_segments_split_join {ss : List (List Char)} (hne : ss ≠ [])
    (h : ∀ s ∈ ss, '/' ∉ s) : splitC (joinC ss) = ss := by
  induction ss with
  | nil => exact absurd rfl hne
  | cons s r ih =>
    have hs := h s List.mem_cons_self
    cases r with
    | nil => have := splitC_append hs (r := []) rfl; rwa [List.append_nil] at this
    | cons t r' =>
      rw [joinC_cons _ (List.cons_ne_nil t r'), splitC_append hs (splitC_cons_sep _), List.append_nil,
        ih (List.cons_ne_nil t r') fun x hx => h x (List.mem_cons_of_mem _ hx)]

/-- the segments of a path: at least one, none contains the separator, one more than there are
separators. So path ↦ segments is a bijection between path texts and non-empty lists of
separator-free segments. -/
theorem C48_segments_shape (p : List Char) :
    splitC p ≠ [] ∧ (∀ s ∈ splitC p, '/' ∉ s) ∧ (splitC p).length = p.count '/' + 1 := by
  refine ⟨splitC_ne_nil p, ?_, ?_⟩
  · fun_induction splitC p with
    | case1 => exact List.forall_mem_cons.2 ⟨List.not_mem_nil, fun _ h => nomatch h⟩
    | case2 cs ih => exact List.forall_mem_cons.2 ⟨List.not_mem_nil, ih⟩
    | case3 c cs hc s ss hs ih =>
      rw [hs] at ih
      obtain ⟨h1, h2⟩ := List.forall_mem_cons.1 ih
      exact List.forall_mem_cons.2 ⟨fun hm => (List.mem_cons.1 hm).elim (fun e => hc e.symm) h1, h2⟩
    | case4 _ cs _ hs => exact absurd hs (splitC_ne_nil cs)
  · fun_induction splitC p with
    | case1 => rfl
    | case2 cs ih => rw [List.length_cons, ih, List.count_cons_self]
    | case3 c cs hc s ss hs ih => rw [List.count_cons_of_ne hc, ← ih, hs]; rfl
    | case4 _ cs _ hs => exact absurd hs (splitC_ne_nil cs)

example : splitC (joinC []) = [[]] := rfl
example : splitC ['/'] = [[], []] := rfl
example : joinC [['a'], [], ['b']] = ['a', '/', '/', 'b'] := rfl

/-! ## documented errors: `must_be(chars, Path)` -/

/-- a non-list (an atom, a number, a list with a non-list tail) is a `type_error(list, _)`,
whatever else is wrong with it -/
theorem C48_error_not_a_list (a : Chars) (h : a.tail = .bad) : mustBeChars a = .error .eTypeList := by
  simp [mustBeChars, h]

/-- the first element that is neither a variable nor a character is a `type_error(character, _)`,
even when the list is partial or has unbound elements: type errors come before instantiation
errors -/
theorem C48_error_not_a_character (a : Chars) (k : Nat) (ht : a.tail ≠ .bad)
    (hb : firstBad a.elems = some k) : mustBeChars a = .error (.eTypeChar k) := by
  simp [mustBeChars, ht, hb]

/-- without ill-typed parts, a partial list or an unbound element is an `instantiation_error` -/
theorem C48_error_not_instantiated (a : Chars) (ht : a.tail ≠ .bad) (hb : firstBad a.elems = none)
    (hv : a.tail = .var ∨ a.elems.any (· == .var) = true) : mustBeChars a = .error .eInst := by
  rcases hv with hv | hv
  · simp [mustBeChars, hb, hv]
  · by_cases h2 : a.tail = .var
    · simp [mustBeChars, hb, h2]
    · simp [mustBeChars, ht, hb, h2, hv]

/-- a missing file is an `existence_error(file, Path)` for `file_size/2`, `delete_file/1`,
`rename_file/2`, `file_copy/2` (with the path text as given), and the tree is untouched -/
theorem C48_error_missing_file (cfg : Cfg) (fs : Fs) (a b : Chars) (sz : IntArg) (s : String)
    (ha : mustBeChars a = .ok s) (hin : escapes fs cfg.cwd s = false) (hf : isFile fs cfg.cwd s = false) :
    step cfg fs (.fileSize a sz) = (fs, .eNoFile s) ∧ step cfg fs (.deleteFile a) = (fs, .eNoFile s) ∧
    step cfg fs (.rename a b) = (fs, .eNoFile s) ∧ step cfg fs (.copy a b) = (fs, .eNoFile s) := by
  refine ⟨?_, ?_, ?_, ?_⟩
  · unfold isFile at hf
    cases hs : stat fs cfg.cwd s with
    | none => simp [step, ha, hin, hs]
    | some e =>
      cases e with
      | dir => simp [step, ha, hin, hs]
      | file b => rw [hs] at hf; simp at hf
  · simp [step, ha, hin, hf]
  · simp [step, ha, hin, hf]
  · simp [step, ha, hin, hf]

/-- a missing directory is an `existence_error(directory, Path)` for `delete_directory/1` -/
theorem C48_error_missing_directory (cfg : Cfg) (fs : Fs) (a : Chars) (s : String)
    (ha : mustBeChars a = .ok s) (hin : escapes fs cfg.cwd s = false) (hf : isDir fs cfg.cwd s = false) :
    step cfg fs (.deleteDir a) = (fs, .eNoDir s) := by
  simp [step, ha, hin, hf]

/-! ## queries reflect the tree -/

/-- `file_exists/1` and `directory_exists/1` never hold together, and what a path resolves to is
what the tree has at the lexical normal form of the path (`.`/empty components dropped, `..`
removing a name): no symbolic links, so `path_canonical/2` = normal form of the segment list. -/
theorem C48_resolution_is_normal_form {fs : Fs} (h : WF fs) {cwd : Path} {s : String} {p : Path}
    {e : Entry} (hr : resolve fs cwd s = .found p e) :
    p = lexNorm (if isAbs s then [] else cwd) (comps s) ∧ get fs p = some e ∧
    realpath fs cwd s = some (renderAbs p) ∧ ¬ (isFile fs cwd s = true ∧ isDir fs cwd s = true) := by
  refine ⟨resolve_found_lexNorm hr, resolve_found h hr, by simp [realpath, hr], ?_⟩
  cases e <;> simp [isFile, isDir, stat, hr]

/-- `directory_files/2` lists exactly the names that have an entry below the directory -/
theorem C48_directory_files (fs : Fs) (d : Path) (n : Name) :
    n ∈ children fs d ↔ get fs (d ++ [n]) ≠ none := mem_children fs d n

/-- the query predicates (and `path_segments/2`) never change the tree -/
theorem C48_queries_change_nothing (cfg : Cfg) (fs : Fs) (a : Chars) (sz : IntArg) (l : ListArg)
    (sg : SegsArg) :
    (step cfg fs (.fileExists a)).1 = fs ∧ (step cfg fs (.dirExists a)).1 = fs ∧
    (step cfg fs (.fileSize a sz)).1 = fs ∧ (step cfg fs (.dirFiles a l)).1 = fs ∧
    (step cfg fs (.canonical a l)).1 = fs ∧ (step cfg fs (.segments a sg)).1 = fs := by
  have q : ∀ {op}, (∀ x, Effect cfg fs op x → x.1 = fs) → (step cfg fs op).1 = fs :=
    fun h => h _ (step_effect cfg fs _)
  -- for a query `Effect` has the constructor `same` only
  refine ⟨q ?_, q ?_, q ?_, q ?_, q ?_, rfl⟩ <;> (rintro _ ⟨⟩; rfl)

/-! ## mutations: frame properties -/

/-- `make_directory/1`: success means the path named nothing in an existing directory, and the
only change is a new empty directory there. (On an existing path, a missing parent, a file used
as a directory … the call fails and — `C48_failure_changes_nothing` — leaves the tree alone.) -/
theorem C48_make_directory_frame {fs fs' : Fs} (h : WF fs) {cwd : Path} {s : String}
    (hm : mkdir fs cwd s = .ok fs') :
    ∃ k, get fs k = none ∧ get fs k.dropLast = some .dir ∧
      (∀ q, get fs' q = if q = k then some .dir else get fs q) ∧ children fs' k = [] := by
  obtain ⟨k, hk, hn, hp, rfl⟩ := mkdir_spec h hm
  exact ⟨k, hn, hp, fun q => get_set hk, children_set_new h hk hn _⟩

/-- `delete_directory/1`: success means the path named an EMPTY directory; it is gone and nothing
else changed -/
theorem C48_delete_directory_frame {fs fs' : Fs} (h : WF fs) {cwd : Path} {s : String}
    (hm : rmdir fs cwd s = .ok fs') :
    ∃ k, get fs k = some .dir ∧ children fs k = [] ∧
      ∀ q, get fs' q = if q = k then none else get fs q := by
  obtain ⟨k, hr, hc, hk, rfl⟩ := rmdir_ok hm
  exact ⟨k, resolve_found h hr, hc, fun q => get_erase hk⟩

/-- `delete_file/1`: success means the path named a file; it is gone and nothing else changed -/
theorem C48_delete_file_frame {fs fs' : Fs} (h : WF fs) {cwd : Path} {s : String}
    (hm : unlink fs cwd s = .ok fs') :
    ∃ k b, get fs k = some (.file b) ∧ ∀ q, get fs' q = if q = k then none else get fs q := by
  obtain ⟨k, b, hr, rfl⟩ := unlink_ok hm
  have hg := resolve_found h hr
  exact ⟨k, b, hg, fun q => get_erase (file_ne_root hg)⟩

/-- `rename_file/2`: the source file's content is at the target (an existing FILE is
overwritten; a directory is never a target), the source name is free, nothing else changed;
renaming a file to itself changes nothing -/
theorem C48_rename_file_frame {fs fs' : Fs} (h : WF fs) {cwd : Path} {a b : String}
    (hm : rename fs cwd a b = .ok fs') :
    ∃ ps bytes, get fs ps = some (.file bytes) ∧
      (fs' = fs ∨ ∃ pd, pd ≠ ps ∧ get fs pd ≠ some .dir ∧
        ∀ q, get fs' q = if q = pd then some (.file bytes) else if q = ps then none else get fs q) := by
  obtain ⟨ps, bytes, hg, hc⟩ := rename_spec h hm
  refine ⟨ps, bytes, hg, ?_⟩
  rcases hc with rfl | ⟨pd, hne, ⟨hpd, hnd, _⟩, rfl⟩
  · exact Or.inl rfl
  · right
    refine ⟨pd, hne, hnd, fun q => ?_⟩
    rw [get_set hpd, get_erase (file_ne_root hg)]

/-- `file_copy/2` (repaired, /repo 1b3e3bb; see `C48_file_copy_pinned_truncates`): afterwards the target has the
source's content — so `file_size/2` of both agree —, the source still has it, and nothing else
changed -/
theorem C48_file_copy_frame {fs fs' : Fs} (h : WF fs) {cwd : Path} {a b : String}
    (hm : copy false fs cwd a b = .ok fs') :
    ∃ ps pd bytes, get fs ps = some (.file bytes) ∧ get fs' ps = some (.file bytes) ∧
      get fs' pd = some (.file bytes) ∧ get fs pd ≠ some .dir ∧ ∀ q, q ≠ pd → get fs' q = get fs q := by
  obtain ⟨ps, bytes, hg, hc⟩ := copy_spec h hm
  rcases hc with rfl | ⟨pd, ht, ⟨hpd, hnd, _⟩, rfl⟩
  · exact ⟨ps, ps, bytes, hg, hg, hg, by rw [hg]; nofun, fun _ _ => rfl⟩
  · have hne : pd ≠ ps := fun e => Bool.false_ne_true (ht e)
    rw [if_neg hne]
    refine ⟨ps, pd, bytes, hg, ?_, ?_, hnd, fun q hq => ?_⟩
    · rw [get_set hpd, if_neg (Ne.symm hne)]; exact hg
    · rw [get_set hpd, if_pos rfl]
    · rw [get_set hpd, if_neg hq]

/-- the pinned `file_copy/2` (finding C48-1): when source and target texts name the same file,
`std::fs::copy` truncates it before reading, so the "copy" is empty: for a non-empty file this
contradicts `C48_file_copy_frame` (content preserved). -/
theorem C48_file_copy_pinned_truncates {fs : Fs} {cwd : Path} {a b : String} {p : Path}
    {bytes x : List UInt8} (ha : resolve fs cwd a = .found p (.file bytes))
    (hb : resolve fs cwd b = .found p (.file x)) (hp : p ≠ []) :
    ∃ fs', copy true fs cwd a b = .ok fs' ∧ get fs' p = some (.file []) := by
  refine ⟨set fs p (.file []), by simp [copy, ha, hb], ?_⟩
  rw [get_set hp]; simp

/-- a failing call of any predicate except `make_directory_path/1` leaves the tree alone -/
theorem C48_failure_changes_nothing (cfg : Cfg) (fs : Fs) (op : Op)
    (hop : ∀ a, op ≠ .mkdirPath a) (hw : ∀ p b, op ≠ .envWrite p b)
    (hno : (step cfg fs op).2 ≠ .yes) : (step cfg fs op).1 = fs := by
  have key : ∀ x, Effect cfg fs op x → x.2 ≠ .yes → x.1 = fs := by
    intro x he
    cases he with
    | same => exact fun _ => rfl
    | mkdirPath a => exact absurd rfl (hop a)
    | write p b => exact absurd rfl (hw p b)
    | _ => exact ofExcept_unchanged
  exact key _ (step_effect cfg fs op) hno

/-! ## algebraic laws -/

/-- `make_directory(P)` then `directory_exists(P)`. `h` is not used, here and in the two laws of
`make_directory_path/1` below: the name `mkdir` creates is free by `walk`'s own test
(`walk_missing_last`), so resolution finds the new directory in any path map -/
theorem C48_make_directory_then_exists {fs fs' : Fs} (h : WF fs) {cwd : Path} {s : String}
    (hm : mkdir fs cwd s = .ok fs') : isDir fs' cwd s = true ∧ isFile fs' cwd s = false := by
  refine ⟨mkdir_then_isDir hm, ?_⟩
  obtain ⟨par, n, _, hr, rfl⟩ := mkdir_ok hm
  rw [isFile, stat, mkdir_then_found hr]

/-- `make_directory(P)` on something that exists fails -/
theorem C48_make_directory_existing {fs : Fs} {cwd : Path} {s : String}
    (hex : stat fs cwd s ≠ none) : mkdir fs cwd s = .error .exist := mkdir_existing hex

/-- delete after create restores the tree: `make_directory(P), delete_directory(P)` -/
theorem C48_create_delete_restores {fs fs1 : Fs} (h : WF fs) {cwd : Path} {s : String}
    (hm : mkdir fs cwd s = .ok fs1) :
    ∃ fs2, rmdir fs1 cwd s = .ok fs2 ∧ ∀ q, get fs2 q = get fs q := by
  obtain ⟨par, n, _, hr, rfl⟩ := mkdir_ok hm
  have hk := append_ne_nil par n
  obtain ⟨h1, hl, hnd, hndd⟩ := resolve_missing_last hr
  refine ⟨erase (set fs (par ++ [n]) .dir) (par ++ [n]), ?_, fun q => ?_⟩
  · rw [rmdir, hl, if_neg fun he => hnd (Option.some.inj he), if_neg fun he => hndd (Option.some.inj he),
      mkdir_then_found hr]
    dsimp only
    rw [if_neg (not_not_intro (children_set_new h hk h1 _)), if_neg hk]
  · rw [get_erase hk, get_set hk]
    split
    · next hq => rw [hq, h1]
    · rfl

/-- after `delete_file(P)` / `delete_directory(P)` neither `file_exists(P)` nor
`directory_exists(P)` -/
theorem C48_delete_then_gone {fs fs' : Fs} (h : WF fs) {cwd : Path} {s : String}
    (hm : unlink fs cwd s = .ok fs' ∨ rmdir fs cwd s = .ok fs') :
    isFile fs' cwd s = false ∧ isDir fs' cwd s = false := by
  rcases hm with hm | hm
  · have hwf := unlink_wf h hm
    obtain ⟨p, b, hr, rfl⟩ := unlink_ok hm
    exact erase_then_gone hwf (file_ne_root (resolve_found h hr)) hr
  · have hwf := rmdir_wf h hm
    obtain ⟨p, hr, _, hp, rfl⟩ := rmdir_ok hm
    exact erase_then_gone hwf hp hr

/-- `delete_directory/1` refuses a directory that has an entry -/
theorem C48_delete_directory_nonempty {fs : Fs} {cwd : Path} {s : String} {p : Path} {n : Name}
    (hr : resolve fs cwd s = .found p .dir) (hc : get fs (p ++ [n]) ≠ none) :
    ∀ fs', rmdir fs cwd s ≠ .ok fs' := by
  intro fs' hm
  obtain ⟨p', hr', hc', _⟩ := rmdir_ok hm
  rw [hr] at hr'; cases hr'
  exact absurd ((mem_children fs p n).2 hc) (by rw [hc']; exact List.not_mem_nil)

/-- `make_directory_path/1` (std's `create_dir_all`): whether it succeeds or fails half-way, the
result is a tree in which only directories were added — every old entry is unchanged -/
theorem C48_make_directory_path_frame {fs : Fs} (h : WF fs) (cwd : Path) (s : String) :
    WF (createDirAll fs cwd s).1 ∧
    ∀ q, get (createDirAll fs cwd s).1 q = get fs q ∨
      (get fs q = none ∧ get (createDirAll fs cwd s).1 q = some .dir) := createDirAll_inv h cwd s

/-- `make_directory_path(P)` then `directory_exists(P)` -/
theorem C48_make_directory_path_then_exists {fs fs' : Fs} (h : WF fs) {cwd : Path} {s : String}
    (hc : createDirAll fs cwd s = (fs', none)) (hne : rcomps s ≠ []) : isDir fs' cwd s = true := by
  unfold createDirAll at hc
  split at hc
  · next he => exact absurd (List.reverse_eq_nil_iff.1 he) hne
  · exact cdaAt_isDir _ hc

/-- `make_directory_path/1` is idempotent: a second call succeeds and changes nothing -/
theorem C48_make_directory_path_idempotent {fs fs' : Fs} (h : WF fs) {cwd : Path} {s : String}
    (hc : createDirAll fs cwd s = (fs', none)) : createDirAll fs' cwd s = (fs', none) := by
  unfold createDirAll at hc ⊢
  split at hc
  · cases hc; rfl
  · exact cdaAt_of_isDir _ (cdaAt_isDir _ hc)

/-- resolution is stable under growth: what a path named keeps its meaning when entries are added
elsewhere (used for: queries agree with the tree after any later `make_directory…`/`file_copy`
to a new name) -/
theorem C48_resolution_stable {fs fs' : Fs} (hx : ∀ q, get fs q ≠ none → get fs' q = get fs q)
    {cwd : Path} {s : String} {p : Path} {e : Entry} (hr : resolve fs cwd s = .found p e) :
    resolve fs' cwd s = .found p e := by
  have := resolve_extends hx (cwd := cwd) (s := s)
  rwa [hr] at this

/-! ## the invariant over operation sequences -/

/-- every step of every script keeps the path map a tree (parents are directories); by induction
(`C48_script_invariant`) this holds after any sequence of operations, so all the statements above
apply at every step of a history. `hcfg` is not used: the truncating `file_copy` too writes a file
over a file (`copy_wf`) -/
theorem C48_step_invariant (cfg : Cfg) (hcfg : cfg.truncSelf = false) {fs : Fs} (h : WF fs) (op : Op) :
    WF (step cfg fs op).1 := (step_effect cfg fs op).wf h

theorem C48_script_invariant (cfg : Cfg) (hcfg : cfg.truncSelf = false) (ops : List Op) {fs : Fs}
    (h : WF fs) : WF (exec cfg fs ops) := by
  induction ops generalizing fs with
  | nil => exact h
  | cons op r ih => exact ih (C48_step_invariant cfg hcfg h op)

/-- the empty scratch directory is a tree -/
theorem C48_empty_tree_wf : WF [] := by
  intro p e h
  by_cases hp : p = []
  · rw [hp]; rfl
  · rw [get, if_neg hp] at h; cases h

end Scryer.FsTree
