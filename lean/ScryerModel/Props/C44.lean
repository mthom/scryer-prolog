import ScryerModel.Proofs.Flags
/-!
# C44 — Prolog flags read back what was set

Statements over the clause-level model `Model/Flags.lean`: `get f v st` / `set f v st` are
clause resolution (`solve`) over the flag clauses of `builtins.pl` *with the corrections of
findings C44-1…C44-5* (`cpfFixed`, `spfFixed`); `st` is the machine state that stores flag
values; `run ops st` is the state after an arbitrary history `ops` of reads and writes.
Every theorem is for all flag terms, value terms (valid or not, bound or unbound) and all
histories. The `example`s at the end show that the theorems are *false* for the clauses as
they are in the pinned commit (`cpfPinned`, `spfPinned`) — the model is sensitive to a
one-token deviation in a clause — and that hypotheses are satisfiable.
The table of errors is ISO/IEC 13211-1 8.17.1.3 a–e and 8.17.2.3 a–b; for a read-only flag an
appropriate value other than the current one is refused silently, as builtins.pl documents
("The flags that are read only will fail if you try to change their values").
-/
namespace Scryer.Flags

/-- all pairs reported by `current_prolog_flag(F, V)` with both arguments unbound. -/
def enumerate (st : St) : List (Term × Term) :=
  (get (.var 0) (.var 1) st).answers.map fun a => (a.f, a.v)

/-- the value reported by `current_prolog_flag(f, V)` with `f` given and `V` unbound. -/
def getValue (f : Term) (st : St) : Option Term :=
  (get f (.var 1) st).answers.head?.map fun a => a.v

/-- **Given = enumerated.** For a given (nonvar) flag term `f` and any value pattern `v`,
    `current_prolog_flag(f, v)` has exactly the solutions that the enumeration
    `current_prolog_flag(F, v)` reports for `F = f`, in every state; and the enumeration itself
    raises no error. -/
theorem C44_given_eq_enumerated (st : St) (f v : Term) (n : Nat) (hf : f.isVar = false) :
    (get f v st).answers = ((get (.var n) v st).answers.filter fun a => decide (a.f = f)) ∧
    (get (.var n) v st).err = none := by
  rw [get_eq_spec, get_eq_spec]
  exact ⟨given_eq_enumerated_spec f v n st hf, rfl⟩

/-- the same in lookup form: the value read for a given flag is the one the enumeration lists
    for it (and a flag is listed at most with that value). -/
theorem C44_get_eq_enumerate_lookup (st : St) (f : Term) (hf : f.isVar = false) :
    getValue f st = (enumerate st).lookup f := by
  unfold getValue enumerate
  rw [(C44_given_eq_enumerated st f (.var 1) 0 hf).1]
  exact head?_filter_eq_lookup _ f

/-- **Reading never changes a flag.** -/
theorem C44_get_pure (st : St) (f v : Term) : (get f v st).st = st := get_st f v st

/-- **set succeeds exactly when the value then reads back**, after every history of reads and
    writes (flag and value bound; otherwise see `C44_set_error_table`). -/
theorem C44_set_succeeds_iff_reads_back (ops : List Op) (f v : Term)
    (hf : f.isVar = false) (hv : v.isVar = false) :
    let st := run ops St.init
    (set f v st).succeeded = (get f v (set f v st).st).succeeded := by
  intro st
  rw [get_eq_spec, set_eq_spec]
  exact set_iff_reads_back_spec f v st (wf_run ops _ wf_init) hf hv

/-- a successful write reads back, for every flag term, value term and state. -/
theorem set_then_get (f v : Term) (st : St) (hs : (set f v st).succeeded = true) :
    getValue f (set f v st).st = some v := by
  unfold getValue
  rw [get_eq_spec]
  revert hs
  rw [set_eq_spec]
  fun_cases specSet f v st
  -- `specSet` succeeds in two branches only: an appropriate value stored in a writable flag ...
  case case5 s k hk hc hw _ => simp [specGet, hk, value_store k v st hw hc]
  -- ... and the current value of a read-only flag; the other six have no answer
  case case6 s k hk _ _ hval _ => simp [specGet, hk, hval]
  all_goals simp [Outcome.succeeded]

/-- after a successful `set_prolog_flag(f, v)` reading `f` with an unbound value gives `v`. -/
theorem C44_set_then_get_value (ops : List Op) (f v : Term)
    (hf : f.isVar = false) (hv : v.isVar = false) :
    let st := run ops St.init
    (set f v st).succeeded = true → getValue f (set f v st).st = some v :=
  set_then_get f v _

/-- **Read-only flags never change**: whatever the history (from any state), `max_arity`,
    `bounded`, `integer_rounding_function`, `max_integer`, `min_integer` answer a read exactly
    as they did at the start; a write to one of them leaves the whole state alone and can
    succeed only with the value the flag already has. -/
theorem C44_readonly_never_change (k : Flag) (hk : k.writable = false) (ops : List Op)
    (st : St) (v : Term) :
    (get (A k.name) v (run ops st)).answers = (get (A k.name) v st).answers ∧
    (get (A k.name) v (run ops st)).err = (get (A k.name) v st).err ∧
    (set (A k.name) v st).st = st ∧
    ((set (A k.name) v st).succeeded = true → k.value st = some v) := by
  -- a read of `k` depends on the state through `k.value` only
  simp only [get_eq_spec, specGet_known, Flag.answer, value_readonly k hk (run ops st) st, true_and]
  refine ⟨?_, ?_⟩
  · rw [set_eq_spec]; exact specSet_readonly_st k hk v st
  · rw [set_eq_spec]
    cases hv : v.isVar with
    | true => simp [specSet_anyvar (A k.name) v st (by simp [hv]), Outcome.succeeded]
    | false =>
      rw [specSet_known k v st hv]
      cases k.vclass v <;> simp [Outcome.succeeded, hk]
      by_cases hval : k.value st = some v <;> simp [hval]

/-- **Last write wins**: after any history the value of a writable flag is the value of the
    last effective write to it in the history (a `set` with that flag name and an appropriate
    value), or its starting value if there is none. -/
theorem C44_value_after_history (k : Flag) (hk : k.writable = true) (ops : List Op) (st : St) :
    k.value (run ops st) = expectedValue k ops (k.value st) := value_run k hk ops st

/-- **Error table of `set_prolog_flag/2`** (ISO 8.17.1.3), every case, for every state:
    a/b unbound flag or value → instantiation_error; c flag not an atom → type_error(atom, F);
    d unknown atom → domain_error(prolog_flag, F); e inappropriate value →
    domain_error(flag_value, F+V) (insufficiently instantiated write options →
    instantiation_error); otherwise no error. An error never changes the state and gives no
    solution. -/
theorem C44_set_error_table (st : St) (f v : Term) :
    (set f v st).err =
      (if f.isVar || v.isVar then some (A "instantiation_error")
       else match f with
        | .atom s =>
          match Flag.ofName? s with
          | none => some (.c2 "domain_error" (A "prolog_flag") f)
          | some k =>
            match k.vclass v with
            | .ok => none
            | .inst => some (A "instantiation_error")
            | .bad => some (.c2 "domain_error" (A "flag_value") (.c2 "+" f v))
        | _ => some (.c2 "type_error" (A "atom") f)) ∧
    ((set f v st).err ≠ none → (set f v st).st = st ∧ (set f v st).answers = []) := by
  rw [set_eq_spec]
  -- both sides branch alike (unbound argument, flag not an atom, unknown atom, class of the
  -- value); each of the eight branches of `specSet` carries its conditions, under which the
  -- table computes to the branch's error, and the five with an error return `st` and no answer
  fun_cases specSet f v st <;> simp_all [Err.term]

/-- **Error table of `current_prolog_flag/2`** (ISO 8.17.2.3): a flag that is neither a
    variable nor an atom → type_error(atom, F); an atom that is not a flag →
    domain_error(prolog_flag, F); otherwise no error. -/
theorem C44_get_error_table (st : St) (f v : Term) :
    (get f v st).err =
      match f with
      | .var _ => none
      | .atom s =>
        match Flag.ofName? s with
        | none => some (.c2 "domain_error" (A "prolog_flag") f)
        | some _ => none
      | _ => some (.c2 "type_error" (A "atom") f) := by
  rw [get_eq_spec]
  -- as for `set`: each of the six branches of `specGet` carries the conditions under which the table
  -- computes to its error
  fun_cases specGet f v st <;> simp_all [Err.term]

/-- **double_quotes takes effect on subsequent reads**: after a successful write the reader
    produces chars / codes / an atom accordingly; the other two behaviours are untouched. -/
theorem C44_double_quotes_takes_effect (st : St) (cs : List Char) :
    readDoubleQuoted (set (A "double_quotes") (A "chars") st).st cs
        = mkList (cs.map fun c => A (String.singleton c)) ∧
    readDoubleQuoted (set (A "double_quotes") (A "codes") st).st cs
        = mkList (cs.map fun c => .int c.toNat) ∧
    readDoubleQuoted (set (A "double_quotes") (A "atom") st).st cs = A (String.ofList cs) ∧
    (∀ v, unifyCyclic (set (A "double_quotes") v st).st = unifyCyclic st ∧
          callUndefined (set (A "double_quotes") v st).st = callUndefined st) := by
  rw [show A "double_quotes" = A Flag.doubleQuotes.name from rfl]
  refine ⟨?_, ?_, ?_, ?_⟩
  iterate 3
    rw [set_store rfl rfl (by decide)]
    simp [Flag.store, readDoubleQuoted]
  · intro v
    rcases set_st_cases _ v st with e | e <;> rw [e] <;> exact ⟨rfl, rfl⟩

/-- **occurs_check takes effect on subsequent unifications**: `true` → `X = f(X)` fails,
    `false` → it succeeds, `error` → it raises; the other two behaviours are untouched. -/
theorem C44_occurs_check_takes_effect (st : St) :
    unifyCyclic (set (A "occurs_check") (A "true") st).st = .fails ∧
    unifyCyclic (set (A "occurs_check") (A "false") st).st = .succeeds ∧
    unifyCyclic (set (A "occurs_check") (A "error") st).st = .raises ∧
    (∀ v cs, readDoubleQuoted (set (A "occurs_check") v st).st cs = readDoubleQuoted st cs ∧
          callUndefined (set (A "occurs_check") v st).st = callUndefined st) := by
  rw [show A "occurs_check" = A Flag.occursCheck.name from rfl]
  refine ⟨?_, ?_, ?_, ?_⟩
  iterate 3
    rw [set_store rfl rfl (by decide)]
    simp [Flag.store, unifyCyclic]
  · intro v cs
    rcases set_st_cases _ v st with e | e <;> rw [e] <;> exact ⟨rfl, rfl⟩

/-- **unknown takes effect on subsequent calls** of undefined procedures: `error` →
    existence_error, `fail` → silent failure, `warning` → failure with a warning. -/
theorem C44_unknown_takes_effect (st : St) :
    callUndefined (set (A "unknown") (A "error") st).st = .existenceError ∧
    callUndefined (set (A "unknown") (A "fail") st).st = .failsSilently ∧
    callUndefined (set (A "unknown") (A "warning") st).st = .failsWithWarning ∧
    (∀ v cs, readDoubleQuoted (set (A "unknown") v st).st cs = readDoubleQuoted st cs ∧
          unifyCyclic (set (A "unknown") v st).st = unifyCyclic st) := by
  rw [show A "unknown" = A Flag.unknown.name from rfl]
  refine ⟨?_, ?_, ?_, ?_⟩
  iterate 3
    rw [set_store rfl rfl (by decide)]
    simp [Flag.store, callUndefined]
  · intro v cs
    rcases set_st_cases _ v st with e | e <;> rw [e] <;> exact ⟨rfl, rfl⟩

/-- the behaviours after any history are those of the last effective writes: e.g. the reader
    mode is determined by `expectedValue` of `double_quotes` over the history. -/
theorem C44_behaviour_after_history (ops : List Op) (st st' : St)
    (h : ∀ k : Flag, k.writable = true → expectedValue k ops (k.value st) = k.value st') :
    (run ops st).dq = st'.dq ∧ (run ops st).unk = st'.unk ∧ (run ops st).oc = st'.oc :=
  ⟨dq_of_value _ _ (by rw [value_run _ rfl, h _ rfl]),
   unk_of_value _ _ (by rw [value_run _ rfl, h _ rfl]),
   oc_of_value _ _ (by rw [value_run _ rfl, h _ rfl])⟩

/-! ## Non-vacuity, and sensitivity to the clause-level deviations of the pinned commit -/

-- the corrected clauses: given and enumerated agree on integer_rounding_function
example : (get (A "integer_rounding_function") (.var 1) St.init).answers
    = [⟨A "integer_rounding_function", A "toward_zero"⟩] := by decide +kernel
-- finding C44-1: with `Value == toward_zero` (pinned clause) the given-flag read FAILS although
-- the enumeration lists the flag, so `C44_given_eq_enumerated` is false for the pinned clauses
example : (solve cpfPinned ⟨A "integer_rounding_function", .var 1⟩ St.init).answers = [] ∧
    ((solve cpfPinned ⟨.var 0, .var 1⟩ St.init).answers.filter
      fun a => decide (a.f = A "integer_rounding_function"))
      = [⟨A "integer_rounding_function", A "toward_zero"⟩] := by decide +kernel
-- finding C44-2: the pinned clauses accept `down` (then it does not read back) and reject the
-- actual value `toward_zero`: `C44_set_succeeds_iff_reads_back` is false for them
example : (solve spfPinned ⟨A "integer_rounding_function", A "down"⟩ St.init).succeeded = true ∧
    (solve cpfPinned ⟨A "integer_rounding_function", A "down"⟩ St.init).succeeded = false ∧
    (solve spfPinned ⟨A "integer_rounding_function", A "toward_zero"⟩ St.init).succeeded = false ∧
    (solve cpfPinned ⟨A "integer_rounding_function", A "toward_zero"⟩ St.init).succeeded = true := by
  decide +kernel
-- finding C44-3: inappropriate value of `unknown` / `occurs_check`: the pinned clauses report the
-- FLAG as invalid; `C44_set_error_table` requires domain_error(flag_value, F+V)
example : (solve spfPinned ⟨A "unknown", A "foo"⟩ St.init).err
      = some (.c2 "domain_error" (A "prolog_flag") (A "unknown")) ∧
    (set (A "unknown") (A "foo") St.init).err
      = some (.c2 "domain_error" (A "flag_value") (.c2 "+" (A "unknown") (A "foo"))) := by decide +kernel
-- finding C44-4: `max_arity` reads as 255 but the pinned `set_prolog_flag/2` has no clause for it
example : (solve spfPinned ⟨A "max_arity", .int 255⟩ St.init).err
      = some (.c2 "domain_error" (A "prolog_flag") (A "max_arity")) ∧
    (solve cpfPinned ⟨A "max_arity", .int 255⟩ St.init).succeeded = true ∧
    (set (A "max_arity") (.int 255) St.init).succeeded = true := by decide +kernel
-- finding C44-5: the pinned `answer_write_options/1` lets `[]` through whatever is stored: the
-- flag then "has" two values at once and the enumeration by value reports it for `[]`
example :
    let st := (set (A "answer_write_options") (mkList [.c1 "quoted" (A "true")]) St.init).st
    (solve cpfPinned ⟨A "answer_write_options", nil⟩ st).succeeded = true ∧
    (solve cpfPinned ⟨A "answer_write_options", .var 1⟩ st).answers
      = [⟨A "answer_write_options", mkList [.c1 "quoted" (A "true")]⟩] ∧
    (get (A "answer_write_options") nil st).succeeded = false := by decide +kernel
-- apart from those places the pinned and the corrected clauses agree, e.g.:
example : solve spfPinned ⟨A "double_quotes", A "codes"⟩ St.init
    = set (A "double_quotes") (A "codes") St.init := by decide +kernel
-- histories really change the state, and the read-back hypotheses are satisfiable
example : (run [.set (A "double_quotes") (A "codes"), .get (.var 0) (.var 1),
                .set (A "occurs_check") (A "error"), .set (A "double_quotes") (A "foo")] St.init)
    = ⟨.codes, .error, .stoError, none⟩ := by decide +kernel
example : enumerate St.init = [(A "max_arity", .int 255), (A "bounded", A "false"),
    (A "integer_rounding_function", A "toward_zero"), (A "double_quotes", A "chars"),
    (A "unknown", A "error"), (A "occurs_check", A "false"), (A "answer_write_options", nil)] := by
  decide +kernel
-- write options: validation outcomes of all three kinds are reached
example : checkWriteOptions (mkList [.c1 "quoted" (A "true"), .c1 "max_depth" (.int 3)]) = .ok := by
  decide +kernel
example : checkWriteOptions (mkList [.c1 "quoted" (A "foo")]) = .bad := by decide +kernel
example : checkWriteOptions (cons (.c1 "quoted" (A "true")) (.var 0)) = .inst := by decide +kernel
example : (set (A "answer_write_options") (mkList [.c1 "max_depth" (.int (-1))]) St.init).err
    = some (.c2 "domain_error" (A "flag_value")
        (.c2 "+" (A "answer_write_options") (mkList [.c1 "max_depth" (.int (-1))]))) := by decide +kernel

end Scryer.Flags
