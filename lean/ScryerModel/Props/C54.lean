import ScryerModel.Proofs.Reif
/-!
# C54 — Reified conditionals are declaratively sound

`Reif.evalC` mirrors `(=)/3`, `dif/3`, `(,)/3`, `(;)/3` of `src/lib/reif.pl` (answer sequences of
`call(C, T)` over a specification-level store of posted equations and disequalities, `dif/2` as in
`src/lib/dif.pl`), `Reif.ifT` is `if_/3`, `tfilterM` … the list predicates (Model/Reif.lean).
`Sat θ s` — the valuation `θ` satisfies the store; `holds θ c` — the condition is true under `θ`.
-/
namespace Scryer.Reif
open Scryer.Unify

/-! ## `if_/3` is the explicit disjunction -/

/-- Calling a reified condition with the truth value already bound gives exactly the answers of the
call with an unbound truth value that carry this value, in the same order. -/
theorem C54_bound_truth_value_filters (c : Cond) (t : Bool) (s : Store) :
    evalC c (some t) s = (evalC c none s).filter (fun p => p.1 == t) :=
  evalC_bound c t s

/-- `if_(C, Then, Else)` has the same answers, with the same multiplicities, as
`( call(C, true), Then ; call(C, false), Else )` — for every condition built from `=`, `dif`, `,`, `;`,
all argument terms, every store (instantiation pattern, pending `dif/2` constraints), and all
continuations. -/
theorem C54_if_is_explicit_disjunction {α : Type} (c : Cond) (thenK elseK : Store → List α)
    (s : Store) : List.Perm (ifT c thenK elseK s) (ifSpec c thenK elseK s) :=
  ifT_perm c thenK elseK s

/-- … and in the same ORDER whenever the condition delivers its `true` answers before its `false`
answers, which `(=)/3` always does. -/
theorem C54_if_is_explicit_disjunction_in_order {α : Type} (c : Cond)
    (thenK elseK : Store → List α) (s : Store) (h : TrueFirst (evalC c none s)) :
    ifT c thenK elseK s = ifSpec c thenK elseK s :=
  ifT_eq_of_trueFirst c thenK elseK s h

/-- The instance for `(=)/3` (`eqT_trueFirst`). -/
theorem C54_if_eq_in_order {α : Type} (x y : Term) (thenK elseK : Store → List α) (s : Store) :
    ifT (.eq x y) thenK elseK s = ifSpec (.eq x y) thenK elseK s :=
  ifT_eq_of_trueFirst _ thenK elseK s (eqT_trueFirst x y s)

/-- the order can really differ for other conditions: `dif/3` answers `false` first. -/
example : (evalC (.dif (.var "X") (.atom "a")) none Store.empty).map Prod.fst = [false, true] := by
  simp [evalC, eqT, Store.mgu, Store.empty, unify, identical, notUnifiable, applyS, unifT, post,
    Store.consistent, Store.addEq, Store.addDif, substE, subst1]

/-! ## The law of `(=)/3` -/

/-- `=(X, Y, T)`: the answers are among `T = true` with `X = Y` posted and `T = false` with
`dif(X, Y)` posted (branches whose store is inconsistent are absent), `true` first; nothing is
posted when the terms are already identical or not unifiable. -/
theorem C54_eq_law (x y : Term) (s s' : Store) (t : Bool) (h : (t, s') ∈ eqT x y none s) :
    (t = true ∧ (s' = s ∨ s' = s.addEq x y)) ∨ (t = false ∧ (s' = s ∨ s' = s.addDif x y)) := by
  obtain ⟨s1, s2, h1, h2, hsub, -⟩ := eqT_law x y s
  rcases List.mem_cons.mp (hsub.subset h) with e | e
  · cases e; exact .inl ⟨rfl, h1⟩
  · cases List.mem_singleton.mp e; exact .inr ⟨rfl, h2⟩

/-- Determinism, the point of reif: when the arguments are identical under the store's bindings
there is exactly ONE answer (`T = true`, nothing posted, no second branch, no choice point); when
they are not unifiable exactly one answer `T = false`. -/
theorem C54_eq_deterministic (x y : Term) (s : Store) (σ : Subst) (hg : s.mgu = some σ) :
    (identical (applyS σ x) (applyS σ y) = true → eqT x y none s = [(true, s)]) ∧
    (identical (applyS σ x) (applyS σ y) = false → notUnifiable (applyS σ x) (applyS σ y) = true →
      eqT x y none s = [(false, s)]) := by
  constructor
  · intro h; simp [eqT, hg, h, unifT]
  · intro h1 h2; simp [eqT, hg, h1, h2, unifT]

/-- never more than two answers. -/
theorem C54_eq_at_most_two (x y : Term) (tb : Option Bool) (s : Store) :
    (eqT x y tb s).length ≤ 2 := by
  obtain ⟨_, _, -, -, hsub, -⟩ := eqT_law x y s
  rw [eqT_filter]
  exact Nat.le_trans (List.length_filter_le _ _) hsub.length_le

/-! ## Declarative soundness -/

/-- SOUNDNESS: every valuation that satisfies an answer's store satisfies the store the condition was
called in, and the answer's truth value is the truth of the condition under that valuation. -/
theorem C54_sound (θ : String → Term) (c : Cond) (tb : Option Bool) (s s' : Store) (t : Bool)
    (h : (t, s') ∈ evalC c tb s) (hs : Sat θ s') : Sat θ s ∧ (t = true ↔ holds θ c) := by
  rw [evalC_filter] at h
  exact (splits_evalC θ c s).sound (List.mem_filter.mp h).1 hs

/-- COMPLETENESS: no solution is lost — every valuation of the calling store satisfies some answer. -/
theorem C54_complete (θ : String → Term) (c : Cond) (s : Store) (hs : Sat θ s) :
    ∃ t s', (t, s') ∈ evalC c none s ∧ Sat θ s' :=
  (splits_evalC θ c s).complete hs

/-- EXCLUSIVITY: no valuation satisfies two different answers (no redundant answers). -/
theorem C54_exclusive (θ : String → Term) (c : Cond) (tb : Option Bool) (s : Store) :
    List.Pairwise (fun a b => ¬ (Sat θ a.2 ∧ Sat θ b.2)) (evalC c tb s) := by
  rw [evalC_filter]
  exact (splits_evalC θ c s).excl.filter _

/-- What routes a valuation to `Then` exactly when the condition is true under it: for every valuation
of the calling store there is an answer of the condition that it satisfies, and the truth value of that
answer, by which `if_/3` chooses the branch (`mem_ifT`), is `true` exactly when the condition holds. -/
theorem C54_if_routes_by_truth (θ : String → Term) (c : Cond) (s : Store) (hs : Sat θ s) :
    ∃ p ∈ evalC c none s, Sat θ p.2 ∧ (p.1 = true ↔ holds θ c) := by
  obtain ⟨t, s', hm, hs'⟩ := (splits_evalC θ c s).complete hs
  exact ⟨(t, s'), hm, hs', ((splits_evalC θ c s).sound hm hs').2⟩

/-- MONOTONICITY (commutation with later instantiation): let `(t, s')` be an answer for the store `s`
and let `s2` be any store (meant: `s` further instantiated, more equations / disequalities; the
statement needs no relation between the two).  Every valuation that satisfies both the answer and
`s2` is covered, in the run on `s2`, by an answer with the SAME truth value: instantiating variables
later never contradicts an earlier answer. -/
theorem C54_monotone (θ : String → Term) (c : Cond) (s s' s2 : Store) (t : Bool)
    (h : (t, s') ∈ evalC c none s) (hs' : Sat θ s') (hs2 : Sat θ s2) :
    ∃ s2', (t, s2') ∈ evalC c none s2 ∧ Sat θ s2' := by
  obtain ⟨t2, s2', hm, hsat⟩ := (splits_evalC θ c s2).complete hs2
  have e1 := ((splits_evalC θ c s).sound h hs').2
  have e2 := ((splits_evalC θ c s2).sound hm hsat).2
  exact ⟨s2', Bool.eq_iff_iff.mpr (e2.trans e1.symm) ▸ hm, hsat⟩

/-! ## The indexing of `if_/3` on the truth value, with its errors -/

/-- On a boolean truth value `if_/3` selects the branch; the answers of the models' conditions always
carry a boolean. -/
theorem C54_if_indexing {α : Type} (l : List (Bool × Store)) (thenK elseK : Store → List α) :
    ifRaw (l.map fun p => (boolTerm p.1, p.2)) thenK elseK =
      (l.flatMap fun p => if p.1 then thenK p.2 else elseK p.2).map IfOut.ans := by
  induction l with
  | nil => rfl
  | cons p l ih => rw [List.map_cons, ifRaw_boolTerm, ih, List.flatMap_cons, List.map_append]

/-- A condition that leaves the truth value unbound is an instantiation error, any other non-boolean
a type error `type_error(boolean, T)`; the error ends the run (answers delivered before it stay). -/
theorem C54_if_errors {α σ : Type} (s : σ) (rest : List (Term × σ)) (thenK elseK : σ → List α)
    (v : String) (n : Int) :
    ifRaw ((.var v, s) :: rest) thenK elseK = [.instantiationError] ∧
    ifRaw ((.int n, s) :: rest) thenK elseK = [.typeErrorBoolean (.int n)] ∧
    ifRaw ((.atom "maybe", s) :: rest) thenK elseK = [.typeErrorBoolean (.atom "maybe")] := by
  refine ⟨rfl, rfl, ?_⟩
  simp [ifRaw]

/-! ## The list predicates -/

/-- `tfilter/3`, `tpartition/4`, `tmember_t/3`, `tmember/2` have the same answers (as multisets) as
their definitions with `if_/3` replaced by the explicit disjunction — for every list, every
condition and every store. -/
theorem C54_list_predicates_are_explicit_disjunctions (p : Term → Cond) (xs : List Term)
    (s : Store) :
    List.Perm (tfilterM p xs s) (tfilterSpec p xs s) ∧
    List.Perm (tpartitionM p xs s) (tpartitionSpec p xs s) ∧
    List.Perm (tmemberTM p xs s) (tmemberTSpec p xs s) ∧
    List.Perm (tmemberM p xs s) (tmemberSpec p xs s) :=
  ⟨tfilterM_perm_spec p xs s, tpartitionM_perm_spec p xs s, tmemberTM_perm_spec p xs s,
   tmemberM_perm_spec p xs s⟩

/-- … and the same SEQUENCES when the element condition answers `true` first. -/
theorem C54_list_predicates_in_order (p : Term → Cond)
    (hp : ∀ e s, TrueFirst (evalC (p e) none s)) (xs : List Term) (s : Store) :
    tfilterM p xs s = tfilterSpec p xs s ∧ tpartitionM p xs s = tpartitionSpec p xs s ∧
    tmemberTM p xs s = tmemberTSpec p xs s ∧ tmemberM p xs s = tmemberSpec p xs s :=
  ⟨tfilterM_eq_spec p hp xs s, tpartitionM_eq_spec p hp xs s, tmemberTM_eq_spec p hp xs s,
   tmemberM_eq_spec p hp xs s⟩

/-- `memberd_t(E, Xs, T)` is, in order, `( X = E, T = true ; dif(X, E), memberd_t(E, Xs', T) )`;
likewise `tfilter(=(A), Xs, Fs)`. -/
theorem C54_memberd_t_and_tfilter_eq_in_order (e : Term) (xs : List Term) (s : Store) :
    memberdM e xs s = tmemberTSpec (fun x => .eq x e) xs s ∧
    tfilterM (fun x => .eq e x) xs s = tfilterSpec (fun x => .eq e x) xs s :=
  ⟨tmemberTM_eq_spec (fun x => Cond.eq x e) (fun x s => eqT_trueFirst x e s) xs s,
   tfilterM_eq_spec (fun x => Cond.eq e x) (fun x s => eqT_trueFirst e x s) xs s⟩

/-- `tfilter/3` is declaratively the filter: under every valuation that satisfies an answer, the
answer's list is the input list filtered by the truth of the condition (soundness), and every
valuation of the calling store satisfies some answer (completeness). -/
theorem C54_tfilter_correct (θ : String → Term) (p : Term → Cond) (xs : List Term) (s : Store) :
    (∀ fs s', (fs, s') ∈ tfilterM p xs s → Sat θ s' → Sat θ s ∧ Filt θ p xs fs) ∧
    (Sat θ s → ∃ fs s', (fs, s') ∈ tfilterM p xs s ∧ Sat θ s') :=
  ⟨fun _ _ => (splits_tfilterM θ p xs s).sound, (splits_tfilterM θ p xs s).complete⟩

/-- `tmember_t/3`: `T = true` iff the condition holds of some element under the valuation;
complete. -/
theorem C54_tmember_t_correct (θ : String → Term) (p : Term → Cond) (xs : List Term) (s : Store) :
    (∀ t s', (t, s') ∈ tmemberTM p xs s → Sat θ s' →
      Sat θ s ∧ (t = true ↔ ∃ x ∈ xs, holds θ (p x))) ∧
    (Sat θ s → ∃ t s', (t, s') ∈ tmemberTM p xs s ∧ Sat θ s') :=
  ⟨fun _ _ => (splits_tmemberTM θ p xs s).sound, (splits_tmemberTM θ p xs s).complete⟩

/-- `memberd_t(E, Xs, T)` is `tmember_t` with the condition `X = E`: `T = true` iff some element
equals `E` under the valuation; complete. -/
theorem C54_memberd_t_correct (θ : String → Term) (e : Term) (xs : List Term) (s : Store) :
    (∀ t s', (t, s') ∈ memberdM e xs s → Sat θ s' →
      Sat θ s ∧ (t = true ↔ ∃ x ∈ xs, x.subst θ = e.subst θ)) ∧
    (Sat θ s → ∃ t s', (t, s') ∈ memberdM e xs s ∧ Sat θ s') :=
  C54_tmember_t_correct θ (fun x => .eq x e) xs s

/-! ## Non-vacuity -/

/-- `=(X, a, T)` on the empty store: two answers, `true` first. -/
example : (eqT (.var "X") (.atom "a") none Store.empty).map Prod.fst = [true, false] := by
  simp [eqT, Store.mgu, Store.empty, unify, identical, notUnifiable, applyS, unifT, post,
    Store.consistent, Store.addEq, Store.addDif, substE, subst1]

/-- `=(a, a, T)`: one answer; `=(a, b, T)`: one answer. -/
example : (eqT (.atom "a") (.atom "a") none Store.empty).length = 1 := by
  simp [eqT, Store.mgu, Store.empty, unify, identical, applyS, unifT]
example : (eqT (.atom "a") (.atom "b") none Store.empty).map Prod.fst = [false] := by
  simp [eqT, Store.mgu, Store.empty, unify, identical, notUnifiable, applyS, unifT]

/-- after `dif(X, a)` the branch `X = a` is gone: `=(X, a, T)` answers only `false`. -/
example : (eqT (.var "X") (.atom "a") none (Store.empty.addDif (.var "X") (.atom "a"))).map Prod.fst
    = [false] := by
  simp [eqT, Store.mgu, Store.empty, unify, identical, notUnifiable, applyS, unifT, post,
    Store.consistent, Store.addEq, Store.addDif, substE, subst1, Term.subst, single]

/-- a satisfiable store exists (`Sat` is not vacuous). -/
example : Sat (fun _ => .atom "b") (Store.empty.addDif (.var "X") (.atom "a")) := by
  unfold Sat
  refine ⟨unifies_nil _, fun p hp => ?_⟩
  simp [Store.addDif, Store.empty] at hp
  subst hp
  simp [Term.subst]

end Scryer.Reif
