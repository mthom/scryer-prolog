import ScryerModel.Proofs.AtomOps
/-!
# C22 — Atom and character builtins agree with their string semantics

The model (`Model/AtomOps.lean`) follows builtins.pl / charsio.pl / system_calls.rs test by test.
The theorems below say that, for atoms of every length (no bound), the mirrored clauses compute the
string operations: lengths in characters, the two list conversions and their inverses, the
char ↔ code bijection on scalar values, atom_concat/3 as the ordered enumeration of all splits,
sub_atom/5 as the ordered, duplicate-free enumeration of all (Before, Length, After) triples, the
error tables in the order of the code, and the character classes on ASCII.
-/
namespace Scryer.AtomOps

/-! ## atom_length/2 -/

/-- atom_length/2 with an unbound length answers once, with the number of characters. -/
theorem C22_atom_length_chars (s : List Char) (n : String) :
    atomLength (.con (.atom s)) (.var n) = .ok [[(n, .one (.int s.length))]] := rfl

/-- atom_length/2 with a bound non-negative length is the test `Length = number of characters`. -/
theorem C22_atom_length_test (s : List Char) (k : Int) (hk : 0 ≤ k) :
    atomLength (.con (.atom s)) (.con (.int k)) = .ok (if k = s.length then [[]] else []) := by
  simp only [atomLength, if_pos hk, unifyArg_con, answers_ite, Atomic.int.injEq]

/-- number of bytes of the UTF-8 encoding of a text. -/
def utf8Len (s : List Char) : Nat := (s.map fun c => Scryer.Utf8.lenUtf8 c.toNat).sum

/-- every character takes a byte, every non-ASCII character at least one more. -/
theorem length_add_nonAscii_le_utf8Len (s : List Char) :
    s.length + s.countP (fun c => decide (0x80 ≤ c.toNat)) ≤ utf8Len s := by
  induction s with
  | nil => exact Nat.le_refl 0
  | cons c cs ih =>
    have h1 := (Utf8.lenUtf8_le c.toNat).1
    simp only [utf8Len, List.map_cons, List.sum_cons, List.length_cons, List.countP_cons] at ih ⊢
    by_cases h : 0x80 ≤ c.toNat
    · have := Utf8.lenUtf8_ge h
      simp only [h, decide_true, if_true]
      omega
    · simp only [h, decide_false, Bool.false_eq_true, if_false]
      omega

/-- the length is counted in characters, not bytes: never more than the byte length … -/
theorem C22_atom_length_le_bytes (s : List Char) : s.length ≤ utf8Len s :=
  Nat.le_trans (Nat.le_add_right _ _) (length_add_nonAscii_le_utf8Len s)

/-- … and strictly less as soon as one character is not ASCII. -/
theorem C22_atom_length_lt_bytes (s : List Char) (h : ∃ c ∈ s, 0x80 ≤ c.toNat) :
    s.length < utf8Len s := by
  obtain ⟨c, hc, h80⟩ := h
  have : 0 < s.countP (fun c => decide (0x80 ≤ c.toNat)) :=
    List.countP_pos_iff.2 ⟨c, hc, decide_eq_true h80⟩
  have := length_add_nonAscii_le_utf8Len s
  omega

/-- error table of atom_length/2, in the order of the code: instantiation of the atom, its type,
    then the length (negative integer: domain error, non-integer: type error). -/
theorem C22_atom_length_errors :
    (∀ n l, atomLength (.var n) l = .error .inst) ∧
    (∀ i l, atomLength (.con (.int i)) l = .error (.type "atom" (.int i))) ∧
    (∀ t l, atomLength (.other t) l = .error (.type "atom" t)) ∧
    (∀ s k, k < 0 → atomLength (.con (.atom s)) (.con (.int k)) = .error (.dom "not_less_than_zero" (.int k))) ∧
    (∀ s a, atomLength (.con (.atom s)) (.con (.atom a)) = .error (.type "integer" (.atom (String.ofList a)))) ∧
    (∀ s t, atomLength (.con (.atom s)) (.other t) = .error (.type "integer" t)) :=
  ⟨fun _ _ => rfl, fun _ _ => rfl, fun _ _ => rfl, fun _ _ hk => if_neg (Int.not_le.2 hk),
   fun _ _ => rfl, fun _ _ => rfl⟩

/-! ## atom_chars/2 and atom_codes/2 -/

/-- the proper list of the one-character atoms of a text, as an argument. -/
def charsArg (s : List Char) : LArg := ⟨s.map fun c => .con (charAtom c), .con nilAtom⟩
/-- the proper list of the codes of a text, as an argument. -/
def codesArg (s : List Char) : LArg := ⟨s.map fun c => .con (codeAtomic c), .con nilAtom⟩

/-- atom → chars: one answer, the list of the characters (the atom `[]` for the empty text). -/
theorem C22_atom_chars_decompose (s : List Char) (l : String) :
    atomChars (.con (.atom s)) ⟨[], .var l⟩ = .ok [[(l, Val.ofList (s.map charAtom))]] := rfl

/-- chars → atom: one answer, the atom whose text is the list. -/
theorem C22_atom_chars_compose (s : List Char) (x : String) :
    atomChars (.var x) (charsArg s) = .ok [[(x, .one (.atom s))]] :=
  atomText_compose charsOrVars_chars (fun _ => rfl) s x

/-- both bound: the test `text = list`; so decompose and compose are inverse to each other. -/
theorem C22_atom_chars_test (s cs : List Char) :
    atomChars (.con (.atom s)) (charsArg cs) = .ok (if cs = s then [[]] else []) :=
  atomText_test charsOrVars_chars (fun _ => rfl) s cs

/-- atom → codes. -/
theorem C22_atom_codes_decompose (s : List Char) (l : String) :
    atomCodes (.con (.atom s)) ⟨[], .var l⟩ = .ok [[(l, Val.ofList (s.map codeAtomic))]] := rfl

/-- codes → atom. -/
theorem C22_atom_codes_compose (s : List Char) (x : String) :
    atomCodes (.var x) (codesArg s) = .ok [[(x, .one (.atom s))]] :=
  atomText_compose codesOrVars_codes codeOf_code s x

/-- both bound: the test `codes of the text = list`. -/
theorem C22_atom_codes_test (s cs : List Char) :
    atomCodes (.con (.atom s)) (codesArg cs) = .ok (if cs = s then [[]] else []) :=
  atomText_test codesOrVars_codes codeOf_code s cs

/-- error table shared by atom_chars/2 and atom_codes/2 (`atomText`), in the order of the code:
    a list argument that is not a list or partial list, both arguments unbound (partial list),
    a non-ground list with an unbound atom, the element check, an atom argument that is no atom. -/
theorem C22_atom_text_errors (check : List Arg → Except Err Unit) (dec : Arg → Option Char)
    (enc : Char → Atomic) :
    (∀ a l, tailOk l.tail = false → atomText check dec enc a l = .error (.type "list" l.toTerm)) ∧
    (∀ x es t, atomText check dec enc (.var x) ⟨es, .var t⟩ = .error .inst) ∧
    (∀ x es, es.all Arg.ground = false →
        atomText check dec enc (.var x) ⟨es, .con nilAtom⟩ = .error .inst) ∧
    (∀ x es e, es.all Arg.ground = true → check es = .error e →
        atomText check dec enc (.var x) ⟨es, .con nilAtom⟩ = .error e) ∧
    (∀ s l e, tailOk l.tail = true → check l.elems = .error e →
        atomText check dec enc (.con (.atom s)) l = .error e) ∧
    (∀ i l, tailOk l.tail = true →
        atomText check dec enc (.con (.int i)) l = .error (.type "atom" (.int i))) ∧
    (∀ t l, tailOk l.tail = true →
        atomText check dec enc (.other t) l = .error (.type "atom" t)) := by
  have ht : (!tailOk (.con nilAtom)) = false := by decide
  refine ⟨?_, ?_, ?_, ?_, ?_, ?_, ?_⟩
  · intro a l h; unfold atomText; rw [h]; rfl
  · intro x es t; rfl
  · intro x es h; unfold atomText; rw [ht, h]; rfl
  · intro x es e h1 h2; unfold atomText; rw [ht, h1, h2]; rfl
  · intro s l e h1 h2; unfold atomText; rw [h1, h2]; rfl
  · intro i l h; unfold atomText; rw [h]; rfl
  · intro t l h; unfold atomText; rw [h]; rfl

/-- the element check of atom_chars/2 skips variables and characters and reports the first other
    element as `type_error(character, E)`. -/
theorem C22_chars_or_vars_first_bad (pre : List Char) (e : Arg) (post : List Arg)
    (hv : ∀ n, e ≠ .var n) (hc : isCharArg e = false) :
    charsOrVars ((pre.map fun c => Arg.con (charAtom c)) ++ e :: post)
      = .error (.type "character" e.toTerm) := by
  rw [charsOrVars_chars_append]
  cases e with
  | var n => exact absurd rfl (hv n)
  | con a => simp only [charsOrVars, hc]; rfl
  | other t => rfl

/-- the element check of atom_codes/2: an integer that is not a scalar value is a
    representation error (also beyond 2^32 and 2^64: see notes/findings/C22-2.md), any other
    bound non-integer a type error. -/
theorem C22_codes_or_vars_first_bad (pre : List Char) (post : List Arg) :
    (∀ k, validScalar k = false →
      codesOrVars ((pre.map fun c => Arg.con (codeAtomic c)) ++ .con (.int k) :: post)
        = .error (.rep "character_code")) ∧
    (∀ a, codesOrVars ((pre.map fun c => Arg.con (codeAtomic c)) ++ .con (.atom a) :: post)
        = .error (.type "integer" (.atom (String.ofList a)))) ∧
    (∀ t, codesOrVars ((pre.map fun c => Arg.con (codeAtomic c)) ++ .other t :: post)
        = .error (.type "integer" t)) := by
  simp only [codesOrVars_codes_append]
  exact ⟨fun k hk => by simp only [codesOrVars, hk]; rfl, fun _ => rfl, fun _ => rfl⟩

/-! ## char_code/2 -/

/-- char → code: the scalar value of the character. -/
theorem C22_char_code_of_char (c : Char) (k : String) :
    charCode (.con (charAtom c)) (.var k) = .ok [[(k, .one (.int c.toNat))]] := rfl

/-- code → char for a scalar value. -/
theorem C22_char_code_of_code (n : Int) (x : String) (h : validScalar n = true) :
    charCode (.var x) (.con (.int n)) = .ok [[(x, .one (charAtom (Char.ofNat n.toNat)))]] := by
  simp only [charCode, h]; rfl

/-- the two directions are inverse to each other: char_code/2 is a bijection between the
    one-character atoms and the scalar values 0..0xD7FF, 0xE000..0x10FFFF. -/
theorem C22_char_code_bijection :
    (∀ c : Char, validScalar (c.toNat : Int) = true ∧ Char.ofNat ((c.toNat : Int).toNat) = c) ∧
    (∀ n : Int, validScalar n = true → ((Char.ofNat n.toNat).toNat : Int) = n) := by
  refine ⟨fun c => ⟨validScalar_toNat c, by rw [Int.toNat_natCast, Char.ofNat_toNat]⟩, ?_⟩
  intro n h
  rw [validScalar_iff] at h
  have hv : n.toNat.isValidChar := by
    simp only [Nat.isValidChar]; omega
  rw [toNat_ofNat_valid _ hv]; omega

/-- both bound: the test `code of Char = Code` (no error for a bound code outside the range). -/
theorem C22_char_code_test (c : Char) (n : Int) :
    charCode (.con (charAtom c)) (.con (.int n)) = .ok (if n = c.toNat then [[]] else []) := by
  simp only [charCode, charAtom, unifyArg_con, answers_ite, Atomic.int.injEq]

/-- error table of char_code/2. -/
theorem C22_char_code_errors :
    (∀ x k, charCode (.var x) (.var k) = .error .inst) ∧
    (∀ x n, validScalar n = false → charCode (.var x) (.con (.int n)) = .error (.rep "character_code")) ∧
    (∀ x a, charCode (.var x) (.con (.atom a)) = .error (.type "integer" (.atom (String.ofList a)))) ∧
    (∀ x t, charCode (.var x) (.other t) = .error (.type "integer" t)) ∧
    (∀ a k, a.length ≠ 1 → charCode (.con (.atom a)) k = .error (.type "character" (.atom (String.ofList a)))) ∧
    (∀ i k, charCode (.con (.int i)) k = .error (.type "character" (.int i))) ∧
    (∀ t k, charCode (.other t) k = .error (.type "character" t)) ∧
    (∀ c t, charCode (.con (charAtom c)) (.other t) = .error (.type "integer" t)) := by
  refine ⟨fun _ _ => rfl, ?_, fun _ _ => rfl, fun _ _ => rfl, ?_, fun _ _ => rfl, fun _ _ => rfl,
    fun _ _ => rfl⟩
  · intro x n h; simp only [charCode, h]; rfl
  · intro a k h
    -- the one-element list is ruled out by `h`, which the match eliminates
    match a, h with
    | [], _ => rfl
    | _ :: _ :: _, _ => rfl

/-! ## atom_concat/3 -/

/-- `splits z` (the answers of append/3) are exactly the pairs with `x ++ y = z` … -/
theorem C22_splits_exact (z x y : List Char) : (x, y) ∈ splits z ↔ x ++ y = z :=
  mem_splits z (x, y)

/-- … in the order of increasing length of the first part: position `i` is `(take i z, drop i z)`,
    so there are `|z| + 1` of them, each once. -/
theorem C22_splits_order (z : List Char) :
    splits z = (List.range (z.length + 1)).map (fun i => (z.take i, z.drop i)) ∧
    (splits z).length = z.length + 1 ∧ (splits z).Nodup :=
  ⟨splits_eq_range z, splits_length z, splits_nodup z⟩

/-- atom_concat(X, Y, +Z) with two different unbound variables enumerates exactly the splits of
    `Z`, in that order, one answer each. -/
theorem C22_atom_concat_enum (z : List Char) (x y : String) (hxy : x ≠ y) :
    atomConcat (.var x) (.var y) (.con (.atom z)) =
      .ok ((splits z).map fun p => [(y, .one (.atom p.2)), (x, .one (.atom p.1))]) := by
  refine congrArg Except.ok (filterMap_eq_map fun p => ?_)
  simp only [unifyArg, bindVar_nil, Option.bind_some, bindVar_cons_ne hxy.symm, Option.map_some]

/-- atom_concat(X, X, +Z): the splits into two equal halves. -/
theorem C22_atom_concat_alias (z : List Char) (x : String) :
    atomConcat (.var x) (.var x) (.con (.atom z)) =
      .ok (((splits z).filter fun p => decide (p.2 = p.1)).map fun p => [(x, .one (.atom p.2))]) := by
  refine congrArg Except.ok (filterMap_eq_filter_map fun p => ?_)
  simp only [unifyArg, bindVar_nil, Option.bind_some, bindVar_cons_self, Val.one.injEq,
    Atomic.atom.injEq]

/-- atom_concat(+X, +Y, Z) is concatenation; with Z bound it is the test `X ++ Y = Z`. -/
theorem C22_atom_concat_join (x y : List Char) :
    (∀ z, atomConcat (.con (.atom x)) (.con (.atom y)) (.var z) = .ok [[(z, .one (.atom (x ++ y)))]]) ∧
    (∀ z, atomConcat (.con (.atom x)) (.con (.atom y)) (.con (.atom z)) =
      .ok (if x ++ y = z then [[]] else [])) := by
  refine ⟨fun _ => rfl, fun z => ?_⟩
  show answers (unifyArg (.con (.atom z)) (.atom (x ++ y)) []) = _
  simp only [unifyArg_con, answers_ite, Atomic.atom.injEq, eq_comm]

/-- atom_concat(+X, Y, +Z): at most one answer, the rest of `Z` after the prefix `X`. -/
theorem C22_atom_concat_prefix (x z : List Char) (y : String) :
    atomConcat (.con (.atom x)) (.var y) (.con (.atom z)) =
      .ok (if x <+: z then [[(y, .one (.atom (z.drop x.length)))]] else []) := by
  show (match stripPrefix? x z with
    | some r => answers (unifyArg (.var y) (.atom r) [])
    | none => .ok []) = _
  rw [stripPrefix_spec]
  by_cases h : x <+: z
  · rw [if_pos h, if_pos h]; rfl
  · rw [if_neg h, if_neg h]

/-- atom_concat(X, +Y, +Z): one answer `X = B` when `B ++ Y = Z`, none when `Y` is no suffix. -/
theorem C22_atom_concat_suffix (y z : List Char) (x : String) :
    (∃ b, b ++ y = z ∧ atomConcat (.var x) (.con (.atom y)) (.con (.atom z)) = .ok [[(x, .one (.atom b))]]) ∨
    ((∀ b, b ++ y ≠ z) ∧ atomConcat (.var x) (.con (.atom y)) (.con (.atom z)) = .ok []) := by
  have e : atomConcat (.var x) (.con (.atom y)) (.con (.atom z)) =
      match (splits z).find? (fun p => decide (p.2 = y)) with
      | some p => .ok [[(x, .one (.atom p.1))]]
      | none => .ok [] := rfl
  rw [e]
  cases hf : (splits z).find? (fun p => decide (p.2 = y)) with
  | some p =>
    have hp : p.2 = y := by simpa using List.find?_some hf
    exact .inl ⟨p.1, hp ▸ (mem_splits z p).1 (List.mem_of_find?_eq_some hf), rfl⟩
  | none =>
    refine .inr ⟨fun b hb => ?_, rfl⟩
    have := List.find?_eq_none.1 hf (b, y) ((mem_splits z (b, y)).2 hb)
    exact this (decide_eq_true rfl)

/-- error table of atom_concat/3: the three `can_be(atom, _)` tests in argument order, then the
    instantiation error when the whole and one part are unbound. -/
theorem C22_atom_concat_errors :
    (∀ t a2 a12, atomConcat (.other t) a2 a12 = .error (.type "atom" t)) ∧
    (∀ i a2 a12, atomConcat (.con (.int i)) a2 a12 = .error (.type "atom" (.int i))) ∧
    (∀ a1 t a12, canBeAtom a1 = none → atomConcat a1 (.other t) a12 = .error (.type "atom" t)) ∧
    (∀ a1 a2 t, canBeAtom a1 = none → canBeAtom a2 = none →
        atomConcat a1 a2 (.other t) = .error (.type "atom" t)) ∧
    (∀ x a2 z, canBeAtom a2 = none → atomConcat (.var x) a2 (.var z) = .error .inst) ∧
    (∀ s y z, atomConcat (.con (.atom s)) (.var y) (.var z) = .error .inst) := by
  refine ⟨fun _ _ _ => rfl, fun _ _ _ => rfl, ?_, ?_, ?_, fun _ _ _ => rfl⟩
  · intro a1 t a12 h; unfold atomConcat; rw [h]; rfl
  · intro a1 a2 t h1 h2; unfold atomConcat; rw [h1, h2]; rfl
  · intro x a2 z h
    match a2, h with
    | .var _, _ => rfl
    | .con (.atom _), _ => rfl

/-! ## sub_atom/5 -/

/-- the triples enumerated by the two nested appends are exactly the decompositions
    `B ++ L ++ A = S` (sound and complete) … -/
theorem C22_sub_triples_exact (s b l a : List Char) :
    (b, l, a) ∈ subTriples s ↔ b ++ l ++ a = s :=
  mem_subTriples s (b, l, a)

/-- … ordered by Before ascending, then Length ascending (strictly: no duplicates), a triple being
    determined by Before and Length; explicitly: Before `i`, Length `j` are `i = 0..|s|`,
    `j = 0..|s|-i`. -/
theorem C22_sub_triples_order (s : List Char) :
    (subTriples s).Pairwise TripleLt ∧ (subTriples s).Nodup ∧
    (∀ t u, t ∈ subTriples s → u ∈ subTriples s → t.1.length = u.1.length →
        t.2.1.length = u.2.1.length → t = u) ∧
    subTriples s = (List.range (s.length + 1)).flatMap fun i =>
      (List.range (s.length - i + 1)).map fun j =>
        (s.take i, (s.drop i).take j, (s.drop i).drop j) :=
  ⟨subTriples_sorted s, subTriples_nodup s, subTriples_key s, subTriples_eq_range s⟩

/-- the answer of sub_atom/5 for one triple. -/
def tripleAnswer (b l a sub : String) (t : List Char × List Char × List Char) : Subst :=
  [(b, .one (.int t.1.length)), (l, .one (.int t.2.1.length)), (a, .one (.int t.2.2.length)),
   (sub, .one (.atom t.2.1))]

/-- sub_atom(+Atom, B, L, A, Sub) with four different unbound variables: one answer per triple, in
    the order of `subTriples`, with `Sub` the corresponding substring. -/
theorem C22_sub_atom_enum (s : List Char) (b l a sub : String)
    (h1 : b ≠ l) (h2 : b ≠ a) (h3 : b ≠ sub) (h4 : l ≠ a) (h5 : l ≠ sub) (h6 : a ≠ sub) :
    subAtom (.con (.atom s)) (.var b) (.var l) (.var a) (.var sub) =
      .ok ((subTriples s).map (tripleAnswer b l a sub)) := by
  refine congrArg Except.ok (filterMap_eq_map fun t => ?_)
  simp only [unifyArg, bindVar_nil, bindVar_cons_ne h1, bindVar_cons_ne h2, bindVar_cons_ne h3,
    bindVar_cons_ne h4, bindVar_cons_ne h5, bindVar_cons_ne h6, Option.bind_some, Option.map_some,
    tripleAnswer]

/-- sub_atom(+Atom, B, L, A, +Sub): all occurrences of `Sub`, overlapping ones included, in the
    order of increasing Before (the filter of the ordered enumeration). -/
theorem C22_sub_atom_occurrences (s sub : List Char) (b l a : String)
    (h1 : b ≠ l) (h2 : b ≠ a) (h4 : l ≠ a) :
    subAtom (.con (.atom s)) (.var b) (.var l) (.var a) (.con (.atom sub)) =
      .ok (((subTriples s).filter fun t => decide (sub = t.2.1)).map fun t =>
        [(b, .one (.int t.1.length)), (l, .one (.int t.2.1.length)), (a, .one (.int t.2.2.length))]) := by
  refine congrArg Except.ok (filterMap_eq_filter_map fun t => ?_)
  simp only [unifyArg, bindVar_nil, bindVar_cons_ne h1, bindVar_cons_ne h2, bindVar_cons_ne h4,
    Option.bind_some, Option.map_some, Atomic.atom.injEq]

/-- the occurrences are listed by strictly increasing position: `Before` identifies the answer. -/
theorem C22_sub_atom_occurrences_sorted (s sub : List Char) :
    ((subTriples s).filter fun t => decide (sub = t.2.1)).Pairwise
      (fun t u => t.1.length < u.1.length) := by
  rw [List.pairwise_filter]
  refine (subTriples_sorted s).imp ?_
  intro t u htu ht hu
  rcases htu with h | ⟨_, h⟩
  · exact h
  · rw [← of_decide_eq_true ht, ← of_decide_eq_true hu] at h
    exact absurd h (Nat.lt_irrefl _)

/-- sub_atom(+Atom, +B, +L, A, Sub) is deterministic: the answers come from the triples with that
    Before and Length, and there is at most one. -/
theorem C22_sub_atom_before_length (s : List Char) (b l : Int) (a sub : String)
    (hb : 0 ≤ b) (hl : 0 ≤ l) (h6 : a ≠ sub) :
    subAtom (.con (.atom s)) (.con (.int b)) (.con (.int l)) (.var a) (.var sub) =
      .ok (((subTriples s).filter fun t => decide (b = t.1.length ∧ l = t.2.1.length)).map fun t =>
        [(a, .one (.int t.2.2.length)), (sub, .one (.atom t.2.1))]) ∧
    ((subTriples s).filter fun t => decide (b = t.1.length ∧ l = t.2.1.length)).length ≤ 1 := by
  refine ⟨?_, ?_⟩
  · have nb : negInt (.con (.int b)) = none := if_neg (Int.not_lt.2 hb)
    have nl : negInt (.con (.int l)) = none := if_neg (Int.not_lt.2 hl)
    rw [subAtom_ok (by rw [nb, nl]; rfl)]
    refine congrArg Except.ok (filterMap_eq_filter_map fun t => ?_)
    simp only [bind_ite_some, Atomic.int.injEq, unifyArg, bindVar_nil, bindVar_cons_ne h6,
      Option.bind_some, Option.map_some]
    exact ite_ite_none _ _ _
  · refine length_le_one_of_nodup ((subTriples_nodup s).filter _) fun t ht u hu => ?_
    rw [List.mem_filter, decide_eq_true_eq] at ht hu
    exact subTriples_key s t u ht.1 hu.1 (Int.natCast_inj.1 (ht.2.1.symm.trans hu.2.1))
      (Int.natCast_inj.1 (ht.2.2.symm.trans hu.2.2))

/-- error table of sub_atom/5 in the order of the code: the atom (instantiation, type), the
    sub-atom, the three integers (types), then the sign of Before (the signs of Length and After,
    which the model tests next, are not stated). -/
theorem C22_sub_atom_errors :
    (∀ x b l a sub, subAtom (.var x) b l a sub = .error .inst) ∧
    (∀ t b l a sub, subAtom (.other t) b l a sub = .error (.type "atom" t)) ∧
    (∀ i b l a sub, subAtom (.con (.int i)) b l a sub = .error (.type "atom" (.int i))) ∧
    (∀ s b l a t, subAtom (.con (.atom s)) b l a (.other t) = .error (.type "atom" t)) ∧
    (∀ s l a sub t, canBeAtom sub = none →
        subAtom (.con (.atom s)) (.other t) l a sub = .error (.type "integer" t)) ∧
    (∀ s b a sub t, canBeAtom sub = none → canBeInt b = none →
        subAtom (.con (.atom s)) b (.other t) a sub = .error (.type "integer" t)) ∧
    (∀ s b l sub t, canBeAtom sub = none → canBeInt b = none → canBeInt l = none →
        subAtom (.con (.atom s)) b l (.other t) sub = .error (.type "integer" t)) ∧
    (∀ s l a sub k, canBeAtom sub = none → canBeInt l = none → canBeInt a = none → k < 0 →
        subAtom (.con (.atom s)) (.con (.int k)) l a sub = .error (.dom "not_less_than_zero" (.int k))) := by
  refine ⟨fun _ _ _ _ _ => rfl, fun _ _ _ _ _ => rfl, fun _ _ _ _ _ => rfl, fun _ _ _ _ _ => rfl,
    ?_, ?_, ?_, ?_⟩
  · intro s l a sub t h; unfold subAtom; rw [h]; rfl
  · intro s b a sub t h1 h2; unfold subAtom; rw [h1, h2]; rfl
  · intro s b l sub t h1 h2 h3; unfold subAtom; rw [h1, h2, h3]; rfl
  · intro s l a sub k h1 h2 h3 hk
    have nk : negInt (.con (.int k)) = some (.dom "not_less_than_zero" (.int k)) := if_pos hk
    unfold subAtom; rw [h1, h2, h3, nk]; rfl

/-! ## char_type/2 -/

/-- on ASCII the class `alpha` (defined by exclusion in macros.rs) is: letters and `_`;
    `alnum` adds the digits. -/
theorem C22_ascii_alpha : ∀ cp, cp < 128 →
    alphaChar (asciiInfo cp) cp = (inRange 'a' 'z' cp || inRange 'A' 'Z' cp || cp == 95) ∧
    alphaNumericChar (asciiInfo cp) cp
      = (inRange 'a' 'z' cp || inRange 'A' 'Z' cp || cp == 95 || inRange '0' '9' cp) := by
  decide +kernel

/-- on ASCII every printable character belongs to exactly one of the ISO classes alphanumeric,
    graphic-token, solo, layout, meta — except the backslash, which macros.rs puts into both
    `graphic_token` and `meta`; `prolog` is their union without the bare backslash class, i.e. every
    ASCII character that is not a control character other than the layout characters. -/
theorem C22_ascii_partition : ∀ cp, cp < 128 →
    (prologChar (asciiInfo cp) cp = (!(asciiInfo cp).control || layoutChar cp)) ∧
    ((alphaNumericChar (asciiInfo cp) cp).toNat + (graphicChar cp).toNat + (soloChar cp).toNat
        + (layoutChar cp).toNat + (metaChar cp).toNat = (prologChar (asciiInfo cp) cp).toNat) ∧
    (graphicTokenChar cp = (graphicChar cp || cp == 92)) := by
  decide +kernel

/-- on ASCII the digit classes are nested and the std-based classes are the usual ones. -/
theorem C22_ascii_digits_case : ∀ cp, cp < 128 →
    (binaryDigitChar cp → octalDigitChar cp) ∧ (octalDigitChar cp → decimalDigitChar cp) ∧
    (decimalDigitChar cp → hexDigitChar cp) ∧ (hexDigitChar cp → alphaNumericChar (asciiInfo cp) cp) ∧
    (asciiGraphic cp = (alphaNumericChar (asciiInfo cp) cp && cp != 95 || asciiPunct cp)) ∧
    ((asciiInfo cp).upper = [Char.ofNat (if inRange 'a' 'z' cp then cp - 32 else cp)]) ∧
    ((asciiInfo cp).lowercase → (asciiInfo cp).lower = [Char.ofNat cp]) ∧
    ((asciiInfo cp).uppercase → (asciiInfo cp).upper = [Char.ofNat cp]) := by
  decide +kernel

/-- the documented example of charsio.pl: `char_type(a, Type)` answers, in this order,
    alnum alpha alphabetic alphanumeric ascii ascii_graphic hexadecimal_digit lower octet prolog
    symbolic_control lower("a") upper("A").  (The pinned implementation answers lower("A"):
    notes/findings/C22-1.md.) -/
theorem C22_char_type_doc_example :
    charType asciiInfo 128 (.con (charAtom 'a')) (.var "Type") =
      .ok ((["alnum", "alpha", "alphabetic", "alphanumeric", "ascii", "ascii_graphic",
              "hexadecimal_digit", "lower", "octet", "prolog", "symbolic_control"].map fun n =>
              [("Type", Val.one (.atom n.toList))]) ++
           [[("Type", .app "lower" [charAtom 'a'])], [("Type", .app "upper" [charAtom 'A'])]]) := by
  rfl

/-- error table of char_type/2: the character's type first, then the domain of the type, then the
    instantiation error when neither argument is ground. -/
theorem C22_char_type_errors (info : Nat → CharInfo) (limit : Nat) :
    (∀ t ty, charType info limit (.other t) ty = .error (.type "character" t)) ∧
    (∀ i ty, charType info limit (.con (.int i)) ty = .error (.type "character" (.int i))) ∧
    (∀ a ty, a.length ≠ 1 →
        charType info limit (.con (.atom a)) ty = .error (.type "character" (.atom (String.ofList a)))) ∧
    (∀ c t, charType info limit (.con (charAtom c)) (.bad t) = .error (.dom "char_type" t)) ∧
    (∀ v t, charType info limit (.var v) (.bad t) = .error (.dom "char_type" t)) ∧
    (∀ v w, charType info limit (.var v) (.var w) = .error .inst) := by
  refine ⟨fun _ _ => rfl, fun _ _ => rfl, ?_, fun _ _ => rfl, fun _ _ => rfl, fun _ _ => rfl⟩
  intro a ty h
  match a, h with
  | [], _ => rfl
  | _ :: _ :: _, _ => rfl

/-- `ccode/1` enumerates exactly the scalar values (`ccodes` is two ascending ranges by definition). -/
theorem C22_ccodes_exact (n : Nat) : n ∈ ccodes 0x110000 ↔ validScalar (n : Int) = true := by
  show n ∈ List.range 0xD800 ++ List.range' 0xE000 (0x110000 - 0xE000) ↔ _
  rw [List.mem_append, List.mem_range, List.mem_range'_1, validScalar_iff]
  omega

/-! ## non-vacuity: the branches are reached -/

example : atomLength (.con (.atom ['a', 'é', '€', '😀'])) (.var "N") = .ok [[("N", .one (.int 4))]] := by rfl
example : utf8Len ['a', 'é', '€', '😀'] = 10 := by decide
example : (subTriples ['a','b','c']).length = 10 := by decide
example : subAtom (.con (.atom ['a','b','a','b'])) (.var "B") (.var "L") (.var "A") (.con (.atom ['a','b']))
    = .ok [[("B", .one (.int 0)), ("L", .one (.int 2)), ("A", .one (.int 2))],
           [("B", .one (.int 2)), ("L", .one (.int 2)), ("A", .one (.int 0))]] := by rfl
example : atomConcat (.var "X") (.var "X") (.con (.atom ['a','b','a','b'])) = .ok [[("X", .one (.atom ['a','b']))]] := by
  rfl
example : validScalar 0xD7FF = true ∧ validScalar 0xD800 = false ∧ validScalar 0xDFFF = false ∧
    validScalar 0xE000 = true ∧ validScalar 0x10FFFF = true ∧ validScalar 0x110000 = false ∧
    validScalar (-1) = false ∧ validScalar (2 ^ 64 + 97) = false := by decide
/-- the pinned `lower(_)` arm returns `to_uppercase`: different from `to_lowercase` on 52 ASCII characters. -/
example : (asciiInfo 97).upper ≠ (asciiInfo 97).lower := by decide

end Scryer.AtomOps
