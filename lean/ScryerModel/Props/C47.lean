import ScryerModel.Proofs.Pio
/-!
# C47 — Parsing a file lazily equals parsing its contents

`Model/Pio.lean` mirrors `stream_to_lazy_list/3` + `render_step/4` of `src/lib/pio.pl`: the lazy
list handed to the grammar by `phrase_from_file/2,3` is a frozen variable that, when a grammar
unifies it, repositions the stream to the recorded byte position, reads one block of
`chars_to_read(4096)` CHARACTERS with `get_n_chars/3` (C19's `takeChars`), binds the block and
freezes the new tail. The file is `encodeAll cps` (the UTF-8 encoding of the character list that
`phrase/2,3` would get). All theorems are for every character list, every block size `k ≥ 1`;
lemmas are in `Proofs/Pio`.
-/
namespace Scryer.Pio
open Scryer.Utf8 Scryer.Stream

/-- One block: `get_n_chars(S, k, Cs)` at the byte position that follows the first `m` characters
    delivers the next `k` characters (fewer at the end) and leaves the stream at the byte position
    that follows `m + k` characters: blocks are counted in characters, positions in bytes, and a
    multi-byte character is never split across two blocks. At the end of the file the tail is `[]`. -/
theorem C47_block_at (k : Nat) (cps : List Nat) (hs : ∀ c ∈ cps, isScalar c = true) (m : Nat) :
    readBlock k (encodeAll cps) (encodeAll (cps.take m)).length =
      if cps.drop m = [] then none
      else some ((cps.drop m).take k, (encodeAll (cps.take (m + k))).length) :=
  readBlock_at k cps hs m

/-- The blocks that the wake-up goals read, in order, are exactly the chunking of the character
    list into pieces of `k` characters. -/
theorem C47_blocks_are_chunks (k : Nat) (cps : List Nat) (hs : ∀ c ∈ cps, isScalar c = true)
    (hk : 1 ≤ k) :
    renderAll ((encodeAll cps).length + 1) k (encodeAll cps) 0 = chunks k cps := by
  have hlen := length_le_encodeAll cps
  exact renderAll_eq_chunksF k hk _ _ [] cps hs (by omega) (Nat.le_refl _)

/-- Chunking loses nothing: the concatenation of the blocks is the list; every block is non-empty
    and has at most `k` characters. -/
theorem C47_flatten_chunks (k : Nat) (s : List Nat) (hk : 1 ≤ k) :
    (chunks k s).flatten = s ∧ ∀ c ∈ chunks k s, c ≠ [] ∧ c.length ≤ k :=
  ⟨flatten_chunksF s.length k s hk (Nat.le_refl _), chunksF_bounds s.length k s hk⟩

/-- The fully forced lazy list is the character list of the file, for every block size. The second
    conjunct is the first under `grammar` and adds nothing to it: it records that a grammar, as far as
    it is a function of the list it is given (deterministic or backtracking across block boundaries,
    failing, with pushback or `call//N`), has the same solutions with `phrase_from_file` as with
    `phrase` on the full character list. -/
theorem C47_lazy_list_is_content (k : Nat) (cps : List Nat) (hs : ∀ c ∈ cps, isScalar c = true)
    (hk : 1 ≤ k) {β : Type} (grammar : List Nat → List β) :
    lazyChars k (encodeAll cps) = cps ∧ grammar (lazyChars k (encodeAll cps)) = grammar cps := by
  have h : lazyChars k (encodeAll cps) = cps := by
    unfold lazyChars
    rw [C47_blocks_are_chunks k cps hs hk]
    exact (C47_flatten_chunks k cps hk).1
  exact ⟨h, by rw [h]⟩

/-- The result does not depend on the block size. -/
theorem C47_block_size_irrelevant (k1 k2 : Nat) (cps : List Nat) (hs : ∀ c ∈ cps, isScalar c = true)
    (h1 : 1 ≤ k1) (h2 : 1 ≤ k2) : lazyChars k1 (encodeAll cps) = lazyChars k2 (encodeAll cps) := by
  rw [(C47_lazy_list_is_content k1 cps hs h1 (fun l => l)).1,
      (C47_lazy_list_is_content k2 cps hs h2 (fun l => l)).1]

/-- Waking the frozen tail keeps the invariant "the materialised cells are the first
    `k · reads` characters, the recorded position is the byte offset after them, and the tail is
    `[]` only when everything has been read"; it reads at most one block. Since the wake-up goal is
    a function of the recorded position only, re-forcing after backtracking reads the same block. -/
theorem C47_force_step (k : Nat) (cps : List Nat) (hs : ∀ c ∈ cps, isScalar c = true) (l : LL)
    (h : LLInv k cps l) :
    LLInv k cps (forceStep k (encodeAll cps) l) ∧
      (forceStep k (encodeAll cps) l).reads ≤ l.reads + 1 :=
  have ⟨hi, hr⟩ := forceStep_spec k cps hs h
  ⟨hi, hr.elim (fun e => e.2 ▸ Nat.le_succ _) (fun e => e.2 ▸ Nat.le_refl _)⟩

/-- Refinement for the demand-driven reader: when a grammar unifies cell `n` of the fresh lazy
    list, the cell it sees is `cps[n]` (or the end of the list iff `n ≥ length`), the materialised
    prefix is a prefix of the content, and at most `n / k + 1 = ⌈(n+1)/k⌉` blocks have been read:
    a grammar that stops early does not read the rest of the file. -/
theorem C47_cell_at (k : Nat) (cps : List Nat) (hs : ∀ c ∈ cps, isScalar c = true) (hk : 1 ≤ k)
    (n : Nat) :
    (cellAt k (encodeAll cps) n LL.init).1 = cps[n]? ∧
      (cellAt k (encodeAll cps) n LL.init).2.reads ≤ n / k + 1 ∧
      (cellAt k (encodeAll cps) n LL.init).2.have_ =
        cps.take (k * (cellAt k (encodeAll cps) n LL.init).2.reads) := by
  -- `cellAt`'s fuel `n + 2` is enough: a step that does not stop reads a block of `k ≥ 1` characters
  -- (fewer only at the end of the file, after which the next step ends the list) or ends the list, so `n + 1` blocks
  -- hold cell `n`
  have sp := demand_spec k cps hs hk n (n + 2) LL.init (LLInv_init k cps hk)
  obtain ⟨inv, hb, hdone⟩ := sp
  have hd := hdone (by simp [LL.init])
  have hb' : (demand (n + 2) k (encodeAll cps) n LL.init).reads ≤ n / k + 1 := by
    simpa [LL.init] using hb
  refine ⟨?_, hb', inv.1⟩
  show (demand (n + 2) k (encodeAll cps) n LL.init).have_[n]? = cps[n]?
  rw [inv.1]
  rcases hd with hf | hl
  · have := inv.2.2.1 hf
    rw [List.take_of_length_le this]
  · rw [inv.1, List.length_take] at hl
    rw [List.getElem?_take]
    simp only [ite_eq_left_iff]
    intro hc; omega

/-! ## non-vacuity -/

-- block size 2, "a€b" (the euro sign has three bytes): blocks [a,€] and [b]; byte positions 0, 4, 5
example : renderAll 6 2 (encodeAll [0x61, 0x20AC, 0x62]) 0 = [[0x61, 0x20AC], [0x62]] := by decide +kernel
example : readBlock 2 (encodeAll [0x61, 0x20AC, 0x62]) 0 = some ([0x61, 0x20AC], 4) := by decide +kernel
example : readBlock 2 (encodeAll [0x61, 0x20AC, 0x62]) 5 = none := by decide +kernel
example : chunks 2 [1, 2, 3, 4, 5] = [[1, 2], [3, 4], [5]] := by decide +kernel
-- an early-stopping grammar that looks at cell 1 only reads the first block
example : (cellAt 2 (encodeAll [0x61, 0x20AC, 0x62, 0x63, 0x64]) 1 LL.init)
    = (some 0x20AC, { have_ := [0x61, 0x20AC], off := 4, fin := false, reads := 1 }) := by decide +kernel
-- looking past the end ends the list
example : (cellAt 2 (encodeAll [0x61]) 1 LL.init).1 = none := by decide +kernel
example : (cellAt 2 (encodeAll []) 0 LL.init) = (none, { have_ := [], off := 0, fin := true, reads := 0 }) := by decide +kernel

end Scryer.Pio
