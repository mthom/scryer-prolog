import ScryerModel.Model.Modules
/-!
C42 — Module qualification and imports resolve to the right definitions.
Theorems about `Scryer.Modules`: `spec` is the statement's resolution (own definition first, then
the last import that provides the predicate, else existence_error = `none`), `mirror` is the
mechanism of the code (the last writer of the module's directory cell wins). `resolve t m k` is the
single lookup used by `M:G`, by an unqualified call in a clause of `M` and by a goal that a clause
of `M` passes to a meta-predicate.
-/
namespace Scryer.Modules

theorem mirror_defns (tbl : Table) (exps : Exports) (self : MName) (r : List Ev) (k : Key)
    (h : r.all isDefn = true) :
    mirror tbl exps self r k = if r.any (isDef k) then some self else none := by
  induction r with
  | nil => rfl
  | cons e r ih =>
    cases e with
    | imp m sel => simp [isDefn] at h
    | defn k' =>
      simp only [mirror, ih (by simpa [isDefn] using h), List.any_cons, isDef, writes]
      by_cases hk : k' = k <;> by_cases ha : r.any (isDef k) = true <;> simp [hk, ha]

/-- When the `use_module` directives of a module precede its clauses, the mechanism of the code
    (last writer wins) computes exactly the resolution the property states. -/
theorem C42_mirror_eq_spec (tbl : Table) (exps : Exports) (self : MName) (evs : List Ev) (k : Key)
    (h : importsFirst evs = true) : mirror tbl exps self evs k = spec tbl exps self evs k := by
  induction evs with
  | nil => rfl
  | cons e r ih =>
    cases e with
    | imp m sel =>
      have ih := ih (by simpa [importsFirst] using h)
      simp only [spec, List.any_cons, isDef, Bool.false_or, List.filter_cons, Bool.not_false,
        if_true, mirror] at ih ⊢
      rw [ih]
      cases r.any (isDef k) <;> simp
    | defn k' =>
      -- only clause groups from here on: both sides are the own code or nothing
      have hall : (Ev.defn k' :: r).all isDefn = true := by simpa [importsFirst, isDefn] using h
      rw [mirror_defns tbl exps self _ k hall, spec]
      split
      · rfl
      · rw [mirror_defns tbl exps self _ k]
        · simp [List.any_filter]
        · simp only [List.all_eq_true] at hall ⊢
          exact fun e he => hall e (List.mem_filter.1 he).1

/-- The module's own definition shadows every import (statement and, for modules whose imports
    come first, mechanism). -/
theorem C42_local_shadows (tbl : Table) (exps : Exports) (self : MName) (evs : List Ev) (k : Key)
    (hdef : evs.any (isDef k) = true) :
    spec tbl exps self evs k = some self ∧
    (importsFirst evs = true → mirror tbl exps self evs k = some self) := by
  have hs : spec tbl exps self evs k = some self := by simp [spec, hdef]
  exact ⟨hs, fun h => by rw [C42_mirror_eq_spec _ _ _ _ _ h, hs]⟩

/-- Without an own definition and without any import, the call raises existence_error. -/
theorem C42_unknown (tbl : Table) (exps : Exports) (self : MName) (k : Key) :
    spec tbl exps self [] k = none := rfl

/-- One import: it provides exactly the predicates that the imported module exports and that the
    import list (if any) names, and they resolve to what the imported module's directory holds. -/
theorem C42_import_list (tbl : Table) (exps : Exports) (self m : MName) (sel : Option (List Key))
    (k : Key) :
    spec tbl exps self [.imp m sel] k =
      if (exps m).contains k && (match sel with | none => true | some l => l.contains k)
      then tbl m k else none := rfl

/-- Of two imports that both provide the predicate, the later one wins. -/
theorem C42_last_import_wins (tbl : Table) (exps : Exports) (self m1 m2 : MName) (k : Key) (d : MName)
    (h2 : (exps m2).contains k = true) (hd : tbl m2 k = some d) :
    spec tbl exps self [.imp m1 none, .imp m2 none] k = some d := by
  have h' : k ∈ exps m2 := by simpa using h2
  simp [spec, isDef, mirror, writes, h', hd]

/-- A predicate that is not exported is never reachable unqualified from another module (qualified
    it is: `C42_qualified_is_lookup_in_M`). -/
theorem C42_not_exported_invisible (tbl : Table) (exps : Exports) (self m : MName)
    (sel : Option (List Key)) (k : Key) (h : (exps m).contains k = false) :
    spec tbl exps self [.imp m sel] k = none := by
  have h' : k ∉ exps m := by simpa using h
  rw [C42_import_list]; simp [h']

/-- `M:G` is the lookup in `M`'s own directory, whatever `M` exports; an unqualified call made
    inside `M` and a meta-call made by a clause of `M` are the same lookup by construction (the
    three call forms are the one function `resolve`). -/
theorem C42_qualified_is_lookup_in_M (u : Bool) (md : ModDecl) (rest : List ModDecl) (k : Key) :
    resolve (build u (md :: rest)).1 md.name k =
      (if u then spec else mirror) (build u rest).1 (build u rest).2 md.name md.evs k := by
  simp [resolve, build]

/-- Frame: loading a further module does not change the resolution inside the modules already
    loaded (predicates with the same name in different modules stay independent). -/
theorem C42_frame (u : Bool) (md : ModDecl) (rest : List ModDecl) (m : MName) (k : Key)
    (h : m ≠ md.name) : (build u (md :: rest)).1 m k = (build u rest).1 m k := by
  simp [build, h]

/-! ## Witnesses -/

/-- module 1 exports p (key 7). Module 2 defines p itself, has another clause, and only then
    imports p from module 1: the statement says 2's own p answers, the code's directory says
    module 1's (finding C42-1). -/
example :
    let tbl : Table := fun m k => if m = 1 ∧ k = 7 then some 1 else none
    let exps : Exports := fun m => if m = 1 then [7] else []
    let evs := toEvs [.clause 7, .clause 8, .use 1 (some [7])] none
    spec tbl exps 2 evs 7 = some 2 ∧ mirror tbl exps 2 evs 7 = some 1 := by decide

/-- when the directive directly follows the clauses of p, the pending clause group is compiled
    after the directive has run, and the own definition wins. -/
example :
    let tbl : Table := fun m k => if m = 1 ∧ k = 7 then some 1 else none
    let exps : Exports := fun m => if m = 1 then [7] else []
    let evs := toEvs [.clause 7, .use 1 (some [7]), .clause 8] none
    mirror tbl exps 2 evs 7 = some 2 ∧ importsFirst evs = true := by decide

end Scryer.Modules
