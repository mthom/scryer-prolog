import ScryerModel.Proofs.Codec
/-!
# C37 — Hashes and encodings are byte-exact (codec part)

Property theorems over `Model/Codec.lean`. All of them are for byte / character lists of ANY
length (induction; no bound). `Bytes bs` = every element `< 256`; `Scalars cs` = every element
is a Unicode scalar value; the `_uint8` / `_chars` theorems are the hypothesis-free versions over
`List UInt8` / `List Char`. The lemmas about the single definitions are in `Proofs/Codec`.

* hex (`hexEncode`/`hexDecode` mirror `bytes_hex//1`, `hex_bytes//1`, `char_hexval/2` of
  `crypto.pl`);
* Base64 (`b64Encode`/`b64Decode`: RFC 4648 §4/§5 with `padding/1`, `charset/1`; the decoder is
  the strict one of the `base64` crate engines used by `'$chars_base64'/4`);
* UTF-8 (`utf8Encode`/`utf8Decode`: RFC 3629; `utf8EncodeCharMech`/`utf8DecodeMech` mirror
  `code_to_utf8//1` and `decode_utf8//1` of `charsio.pl`).

Digests, HMAC and ChaCha20-Poly1305 are NOT covered by any theorem (third-party crates; tied
by an independent oracle in `vlib/props/C37.py`).
-/
namespace Scryer.Codec

/-! ## hex_bytes/2 -/

/-- Decoding the hex text of any byte list gives the byte list back. -/
theorem C37_hex_roundtrip (bs : List Nat) (h : Bytes bs) : hexDecode (hexEncode bs) = some bs := by
  induction bs with
  | nil => rfl
  | cons b bs ih =>
    have ⟨hb, hbs⟩ := List.forall_mem_cons.1 h
    have hi : b / 16 < 16 := Nat.div_lt_of_lt_mul hb
    simp only [hexEncode_cons, hexDecode, hexVal_hexDigit hi, hexVal_hexDigit (Positional.mod_lt_lit b), ih hbs,
      Nat.div_add_mod']

/-- The hex text has exactly two characters per byte, all of them lower-case hex digits. -/
theorem C37_hex_shape (bs : List Nat) (h : Bytes bs) :
    (hexEncode bs).length = 2 * bs.length ∧ ∀ c ∈ hexEncode bs, c ∈ lowerHex := by
  induction bs with
  | nil => exact ⟨rfl, nofun⟩
  | cons b bs ih =>
    have ⟨hb, hbs⟩ := List.forall_mem_cons.1 h
    have ⟨hl, hm⟩ := ih hbs
    rw [hexEncode_cons]
    exact ⟨by simp only [List.length_cons, hl, Nat.mul_succ],
      List.forall_mem_cons.2 ⟨hexDigit_lower (Nat.div_lt_of_lt_mul hb),
        List.forall_mem_cons.2 ⟨hexDigit_lower (Positional.mod_lt_lit b), hm⟩⟩⟩

/-- The hex encoder is injective. -/
theorem C37_hex_injective (a b : List Nat) (ha : Bytes a) (hb : Bytes b)
    (h : hexEncode a = hexEncode b) : a = b :=
  inj_of_roundtrip C37_hex_roundtrip ha hb h

/-- Whatever the decoder accepts is a list of octets, half as long as the text. -/
theorem C37_hex_decode_sound (hs : List Char) (bs : List Nat) (h : hexDecode hs = some bs) :
    Bytes bs ∧ hs.length = 2 * bs.length := by
  fun_induction hexDecode hs generalizing bs with
  | case1 => cases h; exact ⟨.nil, rfl⟩
  -- two hex digits and the rest decodes
  | case3 h1 h2 hs hi lo r e3 e2 e1 ih =>
    cases h
    have ⟨hb, hl⟩ := ih r e3
    exact ⟨.cons (Positional.mul_add_lt (hexVal_lt e1) (hexVal_lt e2)) hb,
      by simp only [List.length_cons, hl, Nat.mul_succ]⟩
  | _ => cases h

/-- The decoder fails (`domain_error(hex_encoding, _)` in `hex_bytes/2`) exactly for texts of
    odd length or containing a character that is not one of `0-9a-fA-F`. -/
theorem C37_hex_decode_error_iff (hs : List Char) :
    hexDecode hs = none ↔ hs.length % 2 = 1 ∨ ∃ c ∈ hs, hexVal c = none := by
  have two (n : Nat) : (n + 1 + 1) % 2 = n % 2 := Nat.add_mod_right n 2
  fun_induction hexDecode hs with
  -- the empty text
  | case1 => simp
  -- a single character
  | case2 c => simp
  -- two hex digits and the rest decodes
  | case3 h1 h2 hs hi lo r e3 e2 e1 ih =>
    simpa only [e3, reduceCtorEq, List.length_cons, two, List.mem_cons, exists_eq_or_imp, e1, e2,
      false_or] using ih
  -- a bad digit among the first two, or the rest does not decode
  | case4 h1 h2 hs hno ih =>
    simp only [List.length_cons, two, List.mem_cons, exists_eq_or_imp, true_iff]
    cases e1 : hexVal h1 with
    | none => simp
    | some hi =>
      cases e2 : hexVal h2 with
      | none => simp
      | some lo =>
        cases e3 : hexDecode hs with
        | none => exact (ih.1 e3).imp_right fun h => .inr (.inr h)
        | some r => exact (hno hi lo r e1 e2 e3).elim

/-- Hypothesis-free form: for every list of `UInt8`. -/
theorem C37_hex_roundtrip_uint8 (bs : List UInt8) :
    hexDecode (hexEncode (bs.map UInt8.toNat)) = some (bs.map UInt8.toNat) :=
  C37_hex_roundtrip _ (.map_toNat bs)

/-- `hex_bytes(-Hs, +Bytes)` on a list of integers: the hex text if all of them are in `0..255`;
    a reported `type_error(byte, B)` always names an element outside that range. -/
theorem C37_hex_bytes_check (bs : List Int) :
    ((∀ b ∈ bs, 0 ≤ b ∧ b ≤ 255) → hexBytesEnc bs = .ok (hexEncode (bs.map Int.toNat)))
    ∧ (∀ b, hexBytesEnc bs = .error b → b ∈ bs ∧ ¬ (0 ≤ b ∧ b ≤ 255)) := by
  unfold hexBytesEnc
  refine ⟨fun h => by rw [(firstNonByte_none_iff bs).2 h], fun b h => ?_⟩
  split at h
  · next x hf =>
    cases h
    exact firstNonByte_some bs b hf
  · cases h

/-! ## chars_base64/3 -/

/-- For every option set (`padding(true|false)` × `charset(standard|url)`): decoding the
    Base64 text of any byte list gives the byte list back. -/
theorem C37_b64_roundtrip (o : B64Opts) (bs : List Nat) (h : Bytes bs) :
    b64Decode o (b64Encode o bs) = some bs :=
  (b64Decode_eq_some_iff o _ bs).2 ⟨h, rfl⟩

/-- Length law: `4⌈n/3⌉` characters with padding, `⌈4n/3⌉` without. -/
theorem C37_b64_length (o : B64Opts) (bs : List Nat) :
    (b64Encode o bs).length =
      if o.pad then 4 * ((bs.length + 2) / 3) else (4 * bs.length + 2) / 3 := by
  rw [b64Encode, List.length_append, List.length_map]
  cases o.pad
  · exact sextets_length bs
  · rw [if_pos rfl, List.length_replicate, if_pos rfl]
    exact sextets_length_add_padCount bs

/-- Alphabet law: the text is a run of characters of the selected 64-character alphabet followed
    by `(3 - n mod 3) mod 3 ≤ 2` `'='` characters if padding is on, and by nothing otherwise. -/
theorem C37_b64_alphabet (o : B64Opts) (bs : List Nat) (h : Bytes bs) :
    ∃ body k, b64Encode o bs = body ++ List.replicate k '='
      ∧ (∀ c ∈ body, c ∈ b64Alphabet o.url)
      ∧ k = (if o.pad then padCount bs.length else 0) ∧ k ≤ 2 := by
  refine ⟨(sextets bs).map (b64Char o.url), if o.pad then padCount bs.length else 0, ?_, ?_, rfl, ?_⟩
  · unfold b64Encode; cases o.pad <;> simp
  · exact List.forall_mem_map.2 fun s hs => b64Char_mem o.url ((unsextets_sextets bs h).1 s hs)
  · unfold padCount; split <;> omega

/-- The Base64 encoder is injective for every option set. -/
theorem C37_b64_injective (o : B64Opts) (a b : List Nat) (ha : Bytes a) (hb : Bytes b)
    (h : b64Encode o a = b64Encode o b) : a = b :=
  inj_of_roundtrip (C37_b64_roundtrip o) ha hb h

/-- The strict decoder accepts exactly the encoder's outputs: whatever it accepts is a byte list
    whose encoding (same options) is the given text — wrong / missing / superfluous padding,
    non-zero trailing bits and foreign characters are all rejected. -/
theorem C37_b64_decode_canonical (o : B64Opts) (cs : List Char) (bs : List Nat)
    (h : b64Decode o cs = some bs) : Bytes bs ∧ b64Encode o bs = cs :=
  (b64Decode_eq_some_iff o cs bs).1 h

/-- Hypothesis-free form: for every list of `UInt8` and every option set. -/
theorem C37_b64_roundtrip_uint8 (o : B64Opts) (bs : List UInt8) :
    b64Decode o (b64Encode o (bs.map UInt8.toNat)) = some (bs.map UInt8.toNat) :=
  C37_b64_roundtrip o _ (.map_toNat bs)

/-! ## chars_utf8bytes/2 -/

/-- Decoding the UTF-8 encoding of any list of scalar values gives the list back. -/
theorem C37_utf8_roundtrip (cs : List Nat) (h : Scalars cs) :
    utf8Decode (utf8Encode cs) = some cs :=
  (utf8Decode_eq_some_iff _ cs).2 ⟨h, rfl⟩

/-- Hypothesis-free form: for every list of `Char`s (Lean's `Char` = Unicode scalar value, as
    are Scryer's characters). -/
theorem C37_utf8_roundtrip_chars (cs : List Char) :
    utf8Decode (utf8Encode (cs.map Char.toNat)) = some (cs.map Char.toNat) :=
  C37_utf8_roundtrip _ (.map_toNat cs)

/-- The UTF-8 encoder is injective on scalar values. -/
theorem C37_utf8_injective (a b : List Nat) (ha : Scalars a) (hb : Scalars b)
    (h : utf8Encode a = utf8Encode b) : a = b :=
  inj_of_roundtrip C37_utf8_roundtrip ha hb h

/-- … and therefore on character lists. -/
theorem C37_utf8_injective_chars (a b : List Char)
    (h : utf8Encode (a.map Char.toNat) = utf8Encode (b.map Char.toNat)) : a = b :=
  (List.map_inj_right fun _ _ => Char.toNat_inj.mp).mp
    (C37_utf8_injective _ _ (.map_toNat a) (.map_toNat b) h)

/-- Every code point below 0x110000 is encoded in 1–4 octets. -/
theorem C37_utf8_encode_shape (c : Nat) (h : c < 0x110000) :
    Bytes (utf8EncodeChar c) ∧ 1 ≤ (utf8EncodeChar c).length ∧ (utf8EncodeChar c).length ≤ 4 :=
  ⟨seq_bytes (.of_lt h), (Utf8.encode_length c).symm ▸ Utf8.lenUtf8_le c⟩

/-- The strict decoder accepts exactly the encodings of scalar values (shortest form only, no
    surrogates, nothing above U+10FFFF): whatever it accepts re-encodes to the input. -/
theorem C37_utf8_decode_canonical (bs cs : List Nat) (h : utf8Decode bs = some cs) :
    Scalars cs ∧ utf8Encode cs = bs :=
  (utf8Decode_eq_some_iff bs cs).1 h

/-- The clauses of `code_to_utf8//1` / `encode//3` (shifts, masks, `\/`) compute the RFC 3629
    table for every code point `char_code/2` can deliver. -/
theorem C37_utf8_encode_mech (c : Nat) (h : c < 0x110000) :
    utf8EncodeCharMech c = some (utf8EncodeChar c) := by
  unfold utf8EncodeCharMech utf8EncodeChar
  split
  · rfl
  · split
    · next h2 =>
      -- `lead_byte` takes the prefix as `a <<< i`, `i` free bits: `0xC0 = 6 <<< 5`,
      -- `0xE0 = 14 <<< 4`, `0xF0 = 30 <<< 3`
      have l : 0xC0 ||| (c >>> 6 &&& 0x3F) = 0xC0 + c / 64 :=
        lead_byte (a := 6) (i := 5) (k := 6) (Nat.div_lt_of_lt_mul h2) (by decide)
      simp only [encodeGo, Nat.mul_one, l, cont_byte, Nat.mul_zero, Nat.pow_zero, Nat.div_one]
    · split
      · next h3 =>
        have l : 0xE0 ||| (c >>> 12 &&& 0x3F) = 0xE0 + c / 4096 :=
          lead_byte (a := 14) (i := 4) (k := 12) (Nat.div_lt_of_lt_mul h3) (by decide)
        simp only [encodeGo, Nat.reduceMul, l, cont_byte, Nat.reducePow, Nat.div_one]
      · have l : 0xF0 ||| (c >>> 18 &&& 0x3F) = 0xF0 + c / 262144 :=
          lead_byte (a := 30) (i := 3) (k := 18)
            (Nat.div_lt_of_lt_mul (Nat.lt_trans h (by decide))) (by decide)
        simp only [encodeGo, Nat.reduceMul, l, cont_byte, Nat.reducePow, Nat.div_one]

/-- On well-formed UTF-8 the clauses of `decode_utf8//1` (pinned, `fix = false`, and repaired as in
    notes/findings/C37-1.md, `fix = true`) return exactly the strict decoder's characters; in
    particular `chars_utf8bytes/2` decodes its own output. -/
theorem C37_utf8_decode_mech_agrees (fix : Bool) (bs cs : List Nat)
    (h : utf8Decode bs = some cs) : utf8DecodeMech fix bs = .ok cs := by
  refine utf8Decode_induction (motive := fun bs cs => utf8DecodeMech fix bs = .ok cs)
    (by rw [utf8DecodeMech]) ?_ bs cs h
  intro c s r cs hs hc _ ih
  cases s with
  | nil => cases hs
  | cons b t => simp only [List.cons_append, utf8DecodeMech_cons, mechStep_seq hs hc fix r, ih]

/-- `once(phrase(decode_utf8(Cs), Bs))` never fails: it returns characters (with U+FFFD for
    some ill-formed parts) or raises `representation_error(character_code)`. -/
theorem C37_utf8_decode_mech_total (fix : Bool) (bs : List Nat) :
    utf8DecodeMech fix bs ≠ .fail := by
  fun_induction utf8DecodeMech fix bs with
  | case1 => nofun
  -- the first step fails
  | case2 b bs h => exact absurd h (mechStep_ne_fail fix b bs)
  -- the first step raises
  | case3 => nofun
  -- a character, and the rest decodes
  | case4 => nofun
  -- a character, and the rest does not decode
  | case5 b bs c r h hno ih => exact ih

/-- PARTIAL (holds for the repaired clauses only, `fix = true`): if the decoder returns characters
    none of which is U+FFFD then the input was well-formed UTF-8 and the characters are its
    strict decoding — ill-formed input is never silently interpreted as characters. For the pinned
    clauses (`fix = false`) this is FALSE: see the `example`s below (finding C37-1: overlong
    forms such as `C0 80` are accepted). -/
theorem C37_utf8_decode_illformed_signalled_partial (bs cs : List Nat) (hb : Bytes bs)
    (h : utf8DecodeMech true bs = .ok cs) (hf : 0xFFFD ∉ cs) : utf8Decode bs = some cs := by
  fun_induction utf8DecodeMech true bs generalizing cs with
  | case1 => cases h; rfl
  -- the first step fails or raises
  | case2 => cases h
  | case3 => cases h
  -- a character, and the rest decodes
  | case4 b bs c r hm cs' hcs ih =>
    cases h
    have ⟨hc, hf'⟩ := not_or.1 (mt List.mem_cons.2 hf)
    obtain ⟨t, hs, hsc, rfl⟩ := mechStep_fix_seq hb hm (Ne.symm hc)
    have hbr : Bytes r := fun x hx =>
      hb x (List.mem_cons_of_mem _ (List.mem_append_right _ hx))
    rw [← List.cons_append, decode_seq hs hsc r, ih cs' hbr hcs hf']
    rfl
  -- a character, and the rest does not decode
  | case5 b bs c r hm hno ih => exact absurd h (hno cs)

/-! ## non-vacuity / branch coverage -/

example : Bytes [0, 127, 128, 255] := by unfold Bytes; decide
example : hexEncode [80, 26, 206] = ['5','0','1','a','c','e'] := by decide +kernel
example : hexDecode ['5','0','1','A','C','E'] = some [80, 26, 206] := by decide +kernel
example : hexDecode ['0'] = none ∧ hexDecode ['0','g'] = none := by decide +kernel
example : hexBytesEnc [1, 256, -3] = .error 256 := by simp [hexBytesEnc, firstNonByte]
example : b64Encode ⟨true, false⟩ [104, 101, 108, 108, 111] = "aGVsbG8=".toList := by decide +kernel
example : b64Encode ⟨false, true⟩ [251, 255] = ['-', '_', '8'] := by decide +kernel
example : b64Encode ⟨true, false⟩ [251, 255] = ['+', '/', '8', '='] := by decide +kernel
-- wrong padding, non-zero trailing bits, foreign alphabet are rejected
example : b64Decode ⟨true, false⟩ "aGVsbG8".toList = none := by decide +kernel
example : b64Decode ⟨false, false⟩ "aGVsbG8=".toList = none := by decide +kernel
example : b64Decode ⟨true, false⟩ "aGVsbG9=".toList = none := by decide +kernel
example : b64Decode ⟨true, true⟩ "+/8=".toList = none := by decide +kernel
example : b64Decode ⟨true, false⟩ "+/8=".toList = some [251, 255] := by decide +kernel
example : Scalars [0, 0x7F, 0x80, 0x7FF, 0x800, 0xD7FF, 0xE000, 0xFFFF, 0x10000, 0x10FFFF] := by
  unfold Scalars; decide
example : utf8Encode [0x41, 0xE9, 0x2211, 0x1F600] = [65, 195, 169, 226, 136, 145, 240, 159, 152, 128] := by
  decide +kernel
-- strict decoder: overlong, surrogate, too big, truncated are all rejected
example : utf8Decode [0xC0, 0x80] = none ∧ utf8Decode [0xE0, 0x80, 0x80] = none
    ∧ utf8Decode [0xED, 0xA0, 0x80] = none ∧ utf8Decode [0xF4, 0x90, 0x80, 0x80] = none
    ∧ utf8Decode [0xE2, 0x88] = none := by decide +kernel
-- finding C37-1: the pinned clauses turn the overlong form C0 80 into U+0000 …
example : utf8DecodeMech false [0xC0, 0x80] = .ok [0] := by
  rw [utf8DecodeMech_cons]
  have : mechStep false 0xC0 [0x80] = .char 0 [] := by decide
  rw [this]; simp [utf8DecodeMech]
-- … the repaired clauses give U+FFFD
example : utf8DecodeMech true [0xC0, 0x80] = .ok [0xFFFD] := by
  rw [utf8DecodeMech_cons]
  have : mechStep true 0xC0 [0x80] = .char 0xFFFD [] := by decide
  rw [this]; simp [utf8DecodeMech]
-- the other branches of the mirror: surrogate → exception, bad continuation byte swallowed,
-- truncated sequence at the end → one U+FFFD
example : mechStep false 0xED [0xA0, 0x80] = .reprErr := by decide
example : mechStep false 0xE2 [0x41, 0x42] = .char 0xFFFD [0x42] := by decide
example : mechStep false 0xE2 [0x88] = .char 0xFFFD [] := by decide
example : mechStep false 0xE2 [] = .char 0xFFFD [] := by decide
example : mechStep false 0xFF [0x41] = .char 0xFFFD [0x41] := by decide

end Scryer.Codec
