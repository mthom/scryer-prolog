import ScryerModel.Proofs.Format
import ScryerModel.Proofs.FormatArgs
/-!
# C36 — format/2 directives produce the documented text

`Scryer.Format` (Model/Format.lean) is a transcription of `format_//2` of `src/lib/format.pl`:
`tokens` (directive syntax), `cells` (phase 1: argument consumption, format-string errors),
`renderCells` (phase 2: goals, glue, characters). The theorems below are about the REPAIRED
transcription (`Cfg.pinned = false`); the `C36_pinned_*` theorems show that the pinned library
(`Cfg.pinned = true`, findings C36-1/2/3) does not satisfy them. The texts are specified through
`horner r cs` (positional value of a digit string), `isDec` and `readInt` of Proofs/Format.lean.
-/
namespace Scryer.Format

/-! ## `~d`, `~Nd` -/

/-- `~d` (N = 0 or omitted) prints the decimal expansion of any integer: a `-` for negative
numbers followed by decimal digits whose positional value is `|i|`; reading it back gives `i`. -/
theorem C36_d_decimal (i : Int) :
    fmtD false 0 i = (if i < 0 then ['-'] else []) ++ natChars i.natAbs ∧
    horner 10 (natChars i.natAbs) = i.natAbs ∧
    (∀ c ∈ natChars i.natAbs, isDec c) ∧
    readInt (fmtD false 0 i) = i := by
  have h1 : fmtD false 0 i = (if i < 0 then ['-'] else []) ++ natChars i.natAbs := by
    rw [fmtD_sign, insertPoint_zero]
  refine ⟨h1, horner_natChars _, natChars_isDec _, ?_⟩
  rw [h1]
  split
  · rename_i hi
    show -(horner 10 (natChars i.natAbs) : Int) = i
    rw [horner_natChars, Int.ofNat_natAbs_of_nonpos (Int.le_of_lt hi), Int.neg_neg]
  · rename_i hi
    rw [List.nil_append, readInt_natChars, Int.natAbs_of_nonneg (Int.not_lt.mp hi)]

/-- `~Nd` with N > 0, for every integer: sign, then the decimal expansion of `|i| / 10^N`, then a
point, then exactly N decimal digits whose value is `|i| mod 10^N` (zero padded). -/
theorem C36_Nd_point (n : Nat) (hn : 0 < n) (i : Int) :
    ∃ fp, fmtD false n i =
        (if i < 0 then ['-'] else []) ++ natChars (i.natAbs / 10 ^ n) ++ '.' :: fp ∧
      fp.length = n ∧ horner 10 fp = i.natAbs % 10 ^ n ∧ ∀ c ∈ fp, isDec c := by
  obtain ⟨fp, h, hl, hv, hd⟩ := insertPoint_pos hn i.natAbs
  exact ⟨fp, by rw [fmtD_sign, h, List.append_assoc], hl, hv, hd⟩

/-- removing the point from `~Nd` gives back the digits of the number: the value of integer part
and fraction digits together is `|i|`. -/
theorem C36_Nd_digits (n : Nat) (hn : 0 < n) (i : Int) :
    ∃ fp, fmtD false n i =
        (if i < 0 then ['-'] else []) ++ natChars (i.natAbs / 10 ^ n) ++ '.' :: fp ∧
      horner 10 (natChars (i.natAbs / 10 ^ n) ++ fp) = i.natAbs := by
  obtain ⟨fp, h, hl, hv, _⟩ := C36_Nd_point n hn i
  refine ⟨fp, h, ?_⟩
  rw [horner_append, horner_natChars, hl, hv]
  exact Nat.div_add_mod' _ _

/-! ## `~ND`, `~NU` -/

/-- `~ND` / `~NU` (separator `,` / `_`): deleting the separators gives exactly the text of `~Nd`. -/
theorem C36_ND_ungroup (sep : Char) (hsep : sep = ',' ∨ sep = '_') (n : Nat) (i : Int) :
    (fmtSep false sep n i).filter (· != sep) = fmtD false n i := by
  obtain ⟨frac, hD, hS, hfrac⟩ := fmtSep_eq sep n i
  have hdec := sep_not_isDec hsep
  have hne : sep ≠ '-' ∧ sep ≠ '.' := by rcases hsep with rfl | rfl <;> decide
  have hsign : sep ∉ (if i < 0 then ['-'] else []) := by
    split
    · exact fun h => hne.1 (List.mem_singleton.mp h)
    · exact List.not_mem_nil
  have hint : sep ∉ natChars (i.natAbs / 10 ^ n) := fun h => hdec (natChars_isDec _ _ h)
  have hfr : sep ∉ frac := by
    rcases hfrac with rfl | ⟨fp, rfl, hfp⟩
    · exact List.not_mem_nil
    · intro h
      rcases List.mem_cons.mp h with h | h
      · exact hne.2 h
      · exact hdec (hfp sep h)
  rw [hS, hD, List.filter_append, List.filter_append, filter_ne_self hsign, filter_ne_self hfr,
    List.filter_reverse, groups3_filter, List.filter_reverse, List.reverse_reverse,
    filter_ne_self hint]

/-- `~ND` / `~NU`: sign, the GROUPED integer part, then the unchanged fraction of `~Nd`; in the
grouped integer part, counted from its right end, the separators stand exactly at the positions
3, 7, 11, … (groups of exactly three digits) and it does not begin with a separator. -/
theorem C36_ND_groups_of_three (sep : Char) (hsep : sep = ',' ∨ sep = '_') (n : Nat) (i : Int) :
    ∃ grouped frac,
      fmtSep false sep n i = (if i < 0 then ['-'] else []) ++ grouped ++ frac ∧
      fmtD false n i = (if i < 0 then ['-'] else []) ++ natChars (i.natAbs / 10 ^ n) ++ frac ∧
      (∀ p (hp : p < grouped.reverse.length), (grouped.reverse[p] = sep ↔ p % 4 = 3)) ∧
      grouped.length % 4 ≠ 0 := by
  obtain ⟨frac, hD, hS, _⟩ := fmtSep_eq sep n i
  obtain ⟨g1, g2⟩ := groups3_sep_positions sep (natChars (i.natAbs / 10 ^ n)).reverse
    fun h => sep_not_isDec hsep (natChars_isDec _ _ (List.mem_reverse.mp h))
  refine ⟨_, frac, hS, hD, ?_, ?_⟩
  · intro p hp
    simp only [List.reverse_reverse] at hp ⊢
    exact g1 p hp
  · rw [List.length_reverse]
    exact g2 fun h => natChars_ne_nil _ (List.reverse_eq_nil_iff.mp h)

/-! ## `~Nr`, `~NR` -/

/-- `~Nr` for 2 ≤ N ≤ 36 and any integer: a `-` for negative numbers, then a non-empty string of
digit characters (`digitChar`: `0-9`, then `a-z` resp. `A-Z`) below the radix whose positional
value in radix N is `|i|`, without a leading zero unless the number is 0 — i.e. THE representation
of `i` in radix N. -/
theorem C36_radix_value (upper : Bool) (r : Nat) (h2 : 2 ≤ r) (h36 : r ≤ 36) (i : Int) :
    ∃ ds : List Char, radixChars upper r i = (if i < 0 then ['-'] else []) ++ ds ∧
      horner r ds = i.natAbs ∧ ds ≠ [] ∧ (∀ c ∈ ds, ∃ d, d < r ∧ c = digitChar upper d) ∧
      (i ≠ 0 → ds.head? ≠ some '0') := by
  by_cases hi : i = 0
  · subst hi
    exact ⟨['0'], rfl, by rw [horner_singleton]; rfl, List.cons_ne_nil _ _,
      fun c hc => ⟨0, by omega, by rw [List.mem_singleton.mp hc]; cases upper <;> rfl⟩,
      fun h => absurd rfl h⟩
  · have hn := beChars_numeral upper h2 (Int.natAbs_ne_zero.mpr hi)
    have hr : 0 < r := Nat.lt_of_lt_of_le Nat.zero_lt_two h2
    obtain ⟨hm, hv, hne⟩ := hn.spec (p := fun c => ∃ d, d < r ∧ c = digitChar upper d) hr
      fun d hd => ⟨⟨d, hd, rfl⟩, digitVal_digitChar upper d (Nat.lt_of_lt_of_le hd h36)⟩
    -- the first character is the most significant digit
    obtain ⟨m, t, e, hmr, h1, -⟩ := hn.head hr
    refine ⟨_, ?_, hv, hne, hm, fun _ hh => ?_⟩
    · rw [radixChars, if_neg hi]; exact sign_prefix i _
    · rw [e, List.head?_cons, Option.some.injEq, digitChar_zero_iff upper (Nat.lt_of_lt_of_le hmr h36)] at hh
      exact Nat.ne_of_gt (h1 (Nat.pos_of_ne_zero (Int.natAbs_ne_zero.mpr hi))) hh

/-- `~NR` is `~Nr` with the letters in upper case. -/
theorem C36_radix_upper (r : Nat) (h2 : 2 ≤ r) (h36 : r ≤ 36) (i : Int) :
    radixChars true r i = (radixChars false r i).map Char.toUpper := by
  rw [radixChars, radixChars]
  split
  · decide
  · show (if i < 0 then '-' :: beChars true _ else beChars true _) =
      List.map Char.toUpper (if i < 0 then '-' :: beChars false _ else beChars false _)
    rw [beChars_upper fun d hd => Nat.lt_of_lt_of_le (digitsLE_lt r _ d hd) h36]
    split <;> rfl

/-- a radix outside 2..36 is an error (`domain_error(format_string, "~Nr")`), never output. -/
theorem C36_radix_out_of_range (cfg : Cfg) (prim : FPrim) (upper : Bool) (n : Int) (t : Term)
    (h : n < 2 ∨ n > 36) : ∀ cs, runGoal cfg prim (.radix upper n t) ≠ .ok cs := by
  intro cs
  simp only [runGoal]
  cases evalInt t with
  | error e => simp [bind, Except.bind]
  | ok i => simp [bind, Except.bind, h]

/-! ## column stops -/

/-- a cell that ends at a column stop and has at least one fill point: its width is exactly
`max (To - From) (width of its text)` — the stop is reached, longer text is not cut. -/
theorem C36_column_width (from_ to_ : Int) (segs : List Seg) (hp : countPads segs ≠ 0) :
    ((renderCell from_ to_ segs).length : Int) = max (to_ - from_) (textWidth segs) := by
  rw [renderCell, fill_length _ _ (glueSizes_length _ _), glueSizes_sum hp, Int.natCast_add,
    Int.toNat_eq_max, Int.add_comm, ← Int.max_add_right, Int.sub_add_cancel, Int.zero_add]

/-- the padding `To - From - width` (when positive) is distributed over the k fill points as the
library documents it: `space / k` each, the LAST one takes the remainder as well; the output is
the elements in order with each fill point replaced by that many fill characters (`fill`). -/
theorem C36_column_padding_distribution (from_ to_ : Int) (segs : List Seg)
    (hp : countPads segs ≠ 0) (hs : 0 < to_ - from_ - (textWidth segs : Int)) :
    renderCell from_ to_ segs =
      fill segs (List.replicate (countPads segs - 1) ((to_ - from_ - textWidth segs).toNat / countPads segs) ++
        [(to_ - from_ - textWidth segs).toNat / countPads segs +
         (to_ - from_ - textWidth segs).toNat % countPads segs]) := by
  rw [renderCell, glueSizes_shape hp]

/-- text is never dropped or reordered: the text of the cell is a subsequence of the output and
everything else is padding (`output length = text length + padding`). -/
theorem C36_column_text_preserved (from_ to_ : Int) (segs : List Seg) :
    (allText segs).Sublist (renderCell from_ to_ segs) ∧
    (renderCell from_ to_ segs).length =
      (allText segs).length + (glueSizes (countPads segs) (to_ - from_ - (textWidth segs : Int))).sum := by
  refine ⟨fill_sublist _ _, ?_⟩
  rw [renderCell, fill_length _ _ (glueSizes_length _ _), allText_length]

/-- a cell without fill point is printed as it is, whatever the column stop says. -/
theorem C36_column_no_fill_point (from_ to_ : Int) (segs : List Seg) (hp : countPads segs = 0) :
    renderCell from_ to_ segs = allText segs :=
  fill_no_pads _ _ hp

/-! ## argument consumption, errors -/

/-- too many arguments: when `args` is exactly what the format string demands, a non-empty
surplus raises `domain_error(empty_list, Surplus)` in phase 1 — no output. -/
theorem C36_too_many_arguments (cfg : Cfg) (prim : FPrim) (fs : List Char) (args extra : List Arg)
    (out : List Char) (h : formatChars cfg prim fs args = .ok out) (hx : extra ≠ []) :
    formatChars cfg prim fs (args ++ extra) =
      .error (.dom "empty_list" (Term.ofList (extra.map (·.t)))) := by
  obtain ⟨cs, hc, _⟩ := formatChars_ok h
  rcases cells_append extra hx (tokens fs) args [] with ⟨_, _, he⟩ | ⟨e, he, hk⟩
  · rw [he] at hc; exact nomatch hc
  · rw [formatChars, he, hk cs hc]

/-- too few arguments: when `pre ++ x :: rest` is accepted, `pre` alone raises
`domain_error(non_empty_list, [])` or `domain_error(format_string, Directive…)` (the latter when
a `*` took the last argument) in phase 1 — no output. -/
theorem C36_too_few_arguments (cfg : Cfg) (prim : FPrim) (fs : List Char) (pre : List Arg)
    (x : Arg) (rest : List Arg) (out : List Char)
    (h : formatChars cfg prim fs (pre ++ x :: rest) = .ok out) :
    ∃ e, formatChars cfg prim fs pre = .error e ∧
      (e = .dom "non_empty_list" Term.nil ∨ ∃ s, e = .dom "format_string" s) := by
  obtain ⟨cs, hc, _⟩ := formatChars_ok h
  rcases cells_append (x :: rest) (List.cons_ne_nil _ _) (tokens fs) pre [] with
    ⟨src, as, he⟩ | ⟨e, he, _⟩
  · exact ⟨_, by rw [formatChars, he], directiveErr_cases src as⟩
  · rw [he] at hc; exact nomatch hc

/-- an unknown directive (a `~` that no clause of the library accepts) is an error for every
argument list. -/
theorem C36_unknown_directive_error (cfg : Cfg) (prim : FPrim) (fs : List Char) (args : List Arg)
    (h : ∃ src, (Tok.bad, src) ∈ tokens fs) : ∃ e, formatChars cfg prim fs args = .error e := by
  obtain ⟨e, he⟩ := cells_bad _ h args []
  exact ⟨e, by simp [formatChars, he]⟩

/-- no partial output: if `format_//2` describes a string at all, every goal of every directive
has succeeded (an ill-typed argument anywhere makes the whole call an error). -/
theorem C36_ill_typed_no_output (prim : FPrim) (fs : List Char) (args : List Arg) (out : List Char)
    (h : formatChars {} prim fs args = .ok out) :
    ∃ cs, cells (tokens fs) args [] = .ok cs ∧
      ∀ g ∈ cellGoals cs, ∃ t, runGoal {} prim g = .ok t := by
  obtain ⟨cs, hc, hr⟩ := formatChars_ok h
  exact ⟨cs, hc, renderCells_ok {} prim cs 0 out hr⟩

/-- `~d ~D ~L ~r` accept integers only: a float, a rational, an atom or an unbound variable
is an error (`~U` and `~R` go through the same clauses of `runGoal`; the statement takes the
separator `,` and lower case). -/
theorem C36_integer_directives_reject (cfg : Cfg) (prim : FPrim) (n : Int) (t : Term)
    (ht : (∃ b, t = .flt b) ∨ (∃ a d, t = .rat a d) ∨ (∃ a, t = .atom a) ∨ (∃ v, t = .var v)) :
    ∀ cs, runGoal cfg prim (.d n t) ≠ .ok cs ∧ runGoal cfg prim (.sep ',' n t) ≠ .ok cs ∧
      runGoal cfg prim (.l n t) ≠ .ok cs ∧ runGoal cfg prim (.radix false n t) ≠ .ok cs := by
  intro cs
  have he : ∃ e, evalInt t = .error e := by
    rcases ht with ⟨b, rfl⟩ | ⟨a, d, rfl⟩ | ⟨a, rfl⟩ | ⟨v, rfl⟩ <;> exact ⟨_, rfl⟩
  obtain ⟨e, he⟩ := he
  refine ⟨?_, ?_, ?_, ?_⟩ <;> simp only [runGoal, he, bind, Except.bind]
  · exact nofun
  -- `~D` tests `N < 0` before it evaluates the argument: an error on either branch
  · split <;> exact nofun
  · exact nofun
  · exact nofun

/-- `~a` accepts atoms only (a number is a type error, a variable an instantiation error); `~s`
of an unbound variable is an instantiation error. -/
theorem C36_a_s_reject (cfg : Cfg) (prim : FPrim) (v : Int) :
    runGoal cfg prim (.a (.int v)) = .error (.type "atom" (.int v)) ∧
    runGoal cfg prim (.a (.var "X")) = .error .inst ∧
    runGoal cfg prim (.s (.var "X")) = .error .inst := by
  exact ⟨rfl, rfl, rfl⟩

/-! ## `~~`, `~n`, `~Nn`, `~i` -/

/-- `~Nn` emits exactly N newlines, `~~` a tilde, `~i` skips its argument: stated on the token of
each directive, in phase 1 and phase 2 (`tokens` is not part of the statement). -/
theorem C36_newlines_tilde_ignore (cfg : Cfg) (prim : FPrim) (n : Nat) (s1 s2 s3 : List Char) (a : Arg) :
    (cells [(.num (.lit n) 'n', s1)] [] [] = .ok [.cell .same [], .newlines n, .cell .same []]) ∧
    renderCells cfg prim [.cell .same [], .newlines n, .cell .same []] 0 = .ok (List.replicate n '\n') ∧
    (cells [(.tilde, s2), (.plain 'i', s3)] [a] [] = .ok [.cell .same [.chars ['~']]]) ∧
    renderCells cfg prim [.cell .same [.chars ['~']]] 0 = .ok ['~'] := by
  refine ⟨?_, ?_, rfl, ?_⟩
  · simp [cells, step, takeNum, numClose, Int.not_lt.mpr (Int.natCast_nonneg n)]
  · simp [renderCells, evalElems, renderCell, fill, bind, Except.bind]
  · cases cfg with | mk pinned => cases pinned <;> rfl

/-! ## `~Nf` (shape, given the arithmetic) -/

/-- `~Nf`, N ≥ 1: when the arithmetic delivers a rounded fraction `0 ≤ frr0 ≤ 10^N`, the text is
the integer part (after the carry), a point and exactly N decimal digits whose value is the
rounded fraction (0 after a carry). -/
theorem C36_Nf_shape (n : Nat) (hn : 0 < n) (p : FParts) (h0 : 0 ≤ p.frr0) (h1 : p.frr0 ≤ 10 ^ n) :
    ∃ ip fp, fmtF n p = some (ip ++ '.' :: fp) ∧ fp.length = n ∧
      (horner 10 fp : Int) = (if p.frr0 = 10 ^ n then 0 else p.frr0) ∧
      (ip = ['-', '0'] ∨ ip = intChars (if p.frr0 = 10 ^ n then p.i0 + p.sgn else p.i0)) := by
  have hP : (10 : Int) ^ n = ((10 ^ n : Nat) : Int) := by norm_cast
  have hge : (p.frr0 ≥ 10 ^ n) = (p.frr0 = 10 ^ n) :=
    propext ⟨fun h => Int.le_antisymm h1 h, fun h => Int.le_of_eq h.symm⟩
  -- `g` is the rounded fraction, 0 after a carry: `10^n + g` is printed without its leading 1
  obtain ⟨g, hg, hgv, hfrr⟩ : ∃ g : Nat, g < 10 ^ n ∧
      (g : Int) = (if p.frr0 = 10 ^ n then 0 else p.frr0) ∧
      (if p.frr0 = 10 ^ n then p.frr0 else p.frr0 + 10 ^ n) = ((10 ^ n + g : Nat) : Int) := by
    by_cases he : p.frr0 = 10 ^ n
    · exact ⟨0, Nat.pow_pos (by decide), by rw [if_pos he]; rfl, by rw [if_pos he, he, hP]; rfl⟩
    · obtain ⟨f, hf⟩ := Int.eq_ofNat_of_zero_le h0
      have hle : (f : Int) ≤ ((10 ^ n : Nat) : Int) := by rw [← hf, ← hP]; exact h1
      exact ⟨f, Nat.lt_of_le_of_ne (Int.ofNat_le.mp hle) fun e => he (by rw [hf, e, hP]),
        by rw [if_neg he, hf], by rw [if_neg he, hf, hP, Int.natCast_add, Int.add_comm]⟩
  obtain ⟨ds, hds, hlen, hval⟩ := natChars_pow_add hg
  have hne : ((10 ^ n + g : Nat) : Int) ≠ 1 := fun h =>
    Nat.ne_of_gt (Nat.lt_of_lt_of_le (Nat.one_lt_pow (Nat.ne_of_gt hn) (by decide))
      (Nat.le_add_right _ g)) (Int.ofNat.inj h)
  unfold fmtF
  simp only [hge, hfrr, hne, ↓reduceIte, intChars_natCast, hds]
  generalize (if p.frr0 = 10 ^ n then p.i0 + p.sgn else p.i0) = i
  refine ⟨_, ds, rfl, hlen, by rw [hval, hgv], ?_⟩
  split
  · exact .inl rfl
  · exact .inr rfl

/-! ## the pinned library violates the statements above (findings C36-1, C36-2, C36-3) -/

/-- C36-1: pinned `~2d` of -5 is `0.-5` and `~3d` of -123 is `-.123`; repaired `-0.05`, `-0.123`. -/
theorem C36_pinned_Nd_violates :
    fmtD true 2 (-5) = ['0', '.', '-', '5'] ∧ fmtD false 2 (-5) = ['-', '0', '.', '0', '5'] ∧
    fmtD true 3 (-123) = ['-', '.', '1', '2', '3'] ∧ fmtD false 3 (-123) = ['-', '0', '.', '1', '2', '3'] := by
  decide +kernel

/-- C36-2: pinned `~D` of -123456 is `-,123,456` (a group separator right after the sign: the
"group" `-` is not a group of digits); repaired `-123,456`. -/
theorem C36_pinned_ND_violates :
    fmtSep true ',' 0 (-123456) = ['-', ',', '1', '2', '3', ',', '4', '5', '6'] ∧
    fmtSep false ',' 0 (-123456) = ['-', '1', '2', '3', ',', '4', '5', '6'] := by
  have hD : fmtD true 0 (-123456) = ['-', '1', '2', '3', '4', '5', '6'] := by decide +kernel
  have hI : insertPoint 0 (natChars (-123456 : Int).natAbs) = ['1', '2', '3', '4', '5', '6'] := by
    decide +kernel
  show sepBody ',' (fmtD true 0 (-123456)) = _ ∧
    '-' :: sepBody ',' (insertPoint 0 (natChars (-123456 : Int).natAbs)) = _
  rw [hD, hI]
  simp [sepBody, groups3]

/-- C36-3: pinned `~w~|` raises `uninstantiation_error(Text)`; repaired it prints the text. -/
theorem C36_pinned_write_column_violates (prim : FPrim) (a : Arg) :
    renderCells { pinned := true } prim [.cell .width [.goal (.w a)]] 0 =
      .error (.uninst (Term.ofChars a.w)) ∧
    renderCells {} prim [.cell .width [.goal (.w a)]] 0 = .ok a.w := by
  constructor
  · simp [renderCells, evalElems, runGoal, lastWrite, bind, Except.bind]
  · simp [renderCells, evalElems, runGoal, renderCell, fill, bind, Except.bind]

/-! ## non-vacuity -/

/-- a complete run of the model: `"~a~t~8|~i~~"` with `[x, 1]` (fill to column 8, skipped argument,
tilde). -/
example : ∃ prim : FPrim,
    formatChars {} prim ['~', 'a', '~', 't', '~', '8', '|', '~', 'i', '~', '~'] [⟨.atom "x", [], []⟩, ⟨.int 1, [], []⟩] =
      .ok ['x', ' ', ' ', ' ', ' ', ' ', ' ', ' ', '~'] :=
  ⟨fun _ _ => .error .unspec, ok_of_toOption (by decide +kernel)⟩

/-- an unknown directive is reached (`~e`): hypothesis of `C36_unknown_directive_error`. -/
example : ∃ src, (Tok.bad, src) ∈ tokens ['a', '~', 'e'] := ⟨['~', 'e'], by decide +kernel⟩

/-- the hypotheses of `C36_column_padding_distribution` are satisfiable (3 fill points, 7 spare
columns: 2, 2, 3). -/
example : renderCell 0 10 [.pad ' ', .txt ['a'], .pad ' ', .pad '.', .txt ['b', 'c']] =
    [' ', ' ', 'a', ' ', ' ', '.', '.', '.', 'b', 'c'] := by decide +kernel

/-- `C36_Nf_shape`: both the carry and the no-carry branch are reached. -/
example : fmtF 2 ⟨2, 100, false, 1⟩ = some ['3', '.', '0', '0'] ∧
    fmtF 2 ⟨0, 5, true, -1⟩ = some ['-', '0', '.', '0', '5'] := by
  decide +kernel

end Scryer.Format
