import ScryerModel.Proofs.CharStream
/-!
# C50 — In-memory reading and writing match stream reading and writing

The property's own oracle is the equality of the two routes on the implementation (checked by the
correspondence run on generated texts, terms and option lists). What is proved here is the part
that can differ between the routes *by construction*: the character source and the output sink.
Reading: the reader is one function over an abstract character source (`scanSrc`: how much of the
source a read consumes — up to the end token, skipping quoted items, `0'c`, comments); over ANY
lawful source it computes what the list scanner computes on the characters the source still holds
(`C50_read_refines`), with the character list (`read_term_from_chars/3`), a positioned stream over
fixed contents and a stream with push-back as instances. Writing is a monoid action on the contents
(`C50_write_appends`, `C50_write_hom`).
-/
namespace Scryer.CharStream
open List

/-- The generic reader over any lawful source = the list reader on the source's remaining
    characters (fuel: any bound above their number). -/
theorem C50_read_refines {σ : Type} (S : Source σ) (abs : σ → List Char) (h : Lawful S abs)
    (fuel : Nat) (m : Mode) (n : Nat) (s : σ) (hf : (abs s).length < fuel) :
    scanSrc S fuel m n s = scan m n (abs s) := by
  induction fuel generalizing m n s with
  | zero => exact absurd hf (Nat.not_lt_zero _)
  | succ fuel ih =>
    unfold scanSrc
    cases ha : abs s with
    | nil => rw [h.nil s ha]; rfl
    | cons c r =>
      obtain ⟨s', hs, hr⟩ := h.cons s c r ha
      rw [hs]
      simp only [scan]
      cases hstep : step m c with
      | stop => rfl
      | next m' =>
        simp only []
        rw [ih m' (n + 1) s' (by rw [hr]; rw [ha] at hf; simpa using hf), hr]

/-- the three sources are lawful. -/
theorem C50_sources_lawful (contents : List Char) :
    Lawful listSource (fun s => s) ∧ Lawful (posSource contents) (fun p => contents.drop p) ∧
    Lawful (pbSource contents) (fun s => s.1 ++ contents.drop s.2) :=
  ⟨lawful_list, lawful_pos contents, lawful_pb contents⟩

/-- Reading from chars = opening a stream on the same chars and reading once. -/
theorem C50_chars_eq_fresh_stream (cs : List Char) (fuel : Nat) (hf : cs.length < fuel) :
    scanSrc listSource fuel startMode 0 cs = scanSrc (posSource cs) fuel startMode 0 0 := by
  rw [C50_read_refines _ _ lawful_list fuel _ _ cs hf,
    C50_read_refines _ _ (lawful_pos cs) fuel _ _ 0 (by simpa using hf)]
  simp

/-- A read from a stream positioned at `p` = `read_term_from_chars` on the characters from `p` on. -/
theorem C50_stream_read_eq_chars_of_rest (contents : List Char) (p fuel : Nat) (hf : contents.length < fuel) :
    scanSrc (posSource contents) fuel startMode 0 p = scanText (contents.drop p) := by
  rw [C50_read_refines _ _ (lawful_pos contents) fuel _ _ p (by simp; omega)]
  rfl

/-- After a read that consumed `n` characters at position `p`, the next read of the stream is the
    read from chars of the text without its first clause. -/
theorem C50_next_read (contents : List Char) (p n fuel : Nat) (hf : contents.length < fuel) :
    scanSrc (posSource contents) fuel startMode 0 (p + n) = scanText ((contents.drop p).drop n) := by
  rw [C50_stream_read_eq_chars_of_rest contents (p + n) fuel hf, drop_drop]

/-- Pushing a character back and reading = reading the text with that character in front. -/
theorem C50_put_back (contents : List Char) (c : Char) (s : List Char × Nat) (fuel : Nat) (m : Mode) (n : Nat)
    (hf : (s.1 ++ contents.drop s.2).length + 1 < fuel) :
    scanSrc (pbSource contents) fuel m n (putBack c s) = scan m n (c :: (s.1 ++ contents.drop s.2)) := by
  rw [C50_read_refines _ _ (lawful_pb contents) fuel m n (putBack c s) (by simpa [putBack] using hf)]
  rfl

/-- A read consumes at least nothing and at most what is there: the clause length is within the text. -/
theorem C50_done_within (cs : List Char) (k : Nat) (h : scanText cs = .done k) : k ≤ cs.length := by
  have := scan_done_bounds cs startMode 0 k h
  omega

/-- writing to a stream keeps what was written before and appends the same characters. -/
theorem C50_write_appends (frags : List (List Char)) (s : OutStream) : writeFrags frags s = s ++ toChars frags := by
  induction frags generalizing s with
  | nil => simp [writeFrags, toChars]
  | cons f frags ih =>
    simp only [writeFrags, foldl_cons, toChars, flatten_cons] at ih ⊢
    rw [ih, put, append_assoc]

/-- `write_term_to_chars` = contents of a fresh stream after `write_term`. -/
theorem C50_write_to_chars_eq_fresh_stream (frags : List (List Char)) : writeFrags frags [] = toChars frags :=
  C50_write_appends frags []

/-- writing the fragments `a` and then the fragments `b` = writing the fragments `a ++ b`. (That it
    does not matter where the text is cut into fragments is `C50_write_appends`: only `toChars` counts.) -/
theorem C50_write_hom (a b : List (List Char)) (s : OutStream) :
    writeFrags (a ++ b) s = writeFrags b (writeFrags a s) := by
  simp [writeFrags, foldl_append]

/-! ## non-vacuity

A string literal is `String.ofList` of its characters; without the `rw [String.toList_ofList]` the kernel
decodes the literal's UTF-8 bytes one by one, which takes it about three times as long. -/

example : scanText "foo(X, \"a.b\", 0'., 'it''s. '). % c. d\nbar.".toList = .done 30 := by
  rw [String.toList_ofList]; decide +kernel
example : scanText ((("foo(X, \"a.b\", 0'., 'it''s. '). % c. d\nbar.".toList).drop 30)) = .done 12 := by
  rw [String.toList_ofList]; decide +kernel
example : scanText "".toList = .eof ∧ scanText " % c".toList = .layoutOnly ∧ scanText "foo. 'abc".toList = .done 4 ∧
    scanText "'abc".toList = .incomplete := by
  repeat rw [String.toList_ofList]
  decide +kernel
example : scanSrc (posSource "a. b.".toList) 10 startMode 0 2 = .done 3 := by
  rw [String.toList_ofList]; decide +kernel
example : writeFrags ["f(".toList, "X".toList, ")".toList] "old ".toList = "old f(X)".toList := by
  repeat rw [String.toList_ofList]
  decide +kernel

end Scryer.CharStream
