import ScryerModel.Proofs.Traverse
/-
  C34 — Large and deeply nested terms never crash the process.

  What is provable: a term walker built on the explicit-work-list scheme (`run`, `foldIter`,
  `cmpIter` of `Model/Traverse.lean`) computes exactly what the recursive definition computes, for
  EVERY term (no bound on depth or size), in exactly `size t` iterations, with a work-list (heap
  allocated) that never holds more than `size t` entries.  Its native stack use is therefore
  constant: memory is linear in the term and lives on the Rust heap, where exhaustion is reported as
  a Prolog resource error — whereas a natively recursive walker needs `depth t` frames
  (`C34_recursive_needs_depth`: depth reaches the size on the ladder's shapes).

  What is NOT provable here (DESIGN §11): that each operation of the implementation IS an instance
  of the scheme (established by code reading, notes/design/C34.md, and by the size-ladder run of
  vlib/props/C34.py), and the native stack depth of compiled Rust.
-/
namespace Scryer.Traverse

/-- Refinement: the explicit-stack pre-order walk visits exactly the nodes of the term, in the
    order of the recursive definition — for every term and every fuel ≥ its size. -/
theorem C34_iter_refines_rec (t : Tree) (fuel : Nat) (h : t.size ≤ fuel) :
    iterTraverse fuel t = preorder t := by
  have w := (Walk.init t).run fuel
  rw [← w.out, run_done (by simpa using h)]
  exact (List.append_nil _).symm

/-- Termination in exactly `size t` iterations: with that much fuel the work-list is empty and
    `size t` steps were taken; with any smaller fuel the work-list is not yet empty. -/
theorem C34_iter_exact_steps (t : Tree) :
    (run t.size (PState.init t)).stack = [] ∧ (run t.size (PState.init t)).steps = t.size ∧
    ∀ k, k < t.size → (run k (PState.init t)).stack ≠ [] := by
  have e : (run t.size (PState.init t)).stack = [] := run_done (by simp)
  refine ⟨e, ?_, fun k hk h0 => ?_⟩
  · have := ((Walk.init t).run t.size).steps
    rwa [e] at this
  · have := run_sizeL k (PState.init t)
    rw [h0] at this
    simp [sizeL] at this
    omega

/-- More fuel changes nothing: the loop stops by itself when the work-list is empty. -/
theorem C34_iter_fuel_irrelevant (t : Tree) (f1 f2 : Nat) (h1 : t.size ≤ f1) (h2 : t.size ≤ f2) :
    run f1 (PState.init t) = run f2 (PState.init t) := by
  have key : ∀ f, t.size ≤ f → run f (PState.init t) = run t.size (PState.init t) := by
    intro f hf
    obtain ⟨d, rfl⟩ := Nat.exists_eq_add_of_le hf
    rw [run_add]
    exact run_nil d _ (run_done (by simp))
  rw [key f1 h1, key f2 h2]

/-- Memory: the work-list high-water mark is at most the number of nodes of the term (and the
    maintained `len` field is the real length, ending at 0). Linear heap memory, no native stack. -/
theorem C34_worklist_bounded (t : Tree) (fuel : Nat) (h : t.size ≤ fuel) :
    (run fuel (PState.init t)).maxStack ≤ t.size ∧ (run fuel (PState.init t)).len = 0 := by
  have w := (Walk.init t).run fuel
  exact ⟨w.max, w.len.trans (congrArg List.length (run_done (by simpa using h)))⟩

/-- The bound holds at every intermediate moment too: after any number of iterations the live
    work-list is no longer than what remains to be visited, hence ≤ size. -/
theorem C34_worklist_bounded_always (t : Tree) (k : Nat) :
    (run k (PState.init t)).stack.length ≤ t.size :=
  Nat.le_trans (length_le_sizeL _) (((Walk.init t).run k).steps ▸ Nat.le_add_left _ _)

/-- Every accumulator-style inspection (term_variables, ground, size, hashing …) done with the
    explicit stack equals the fold over the recursive pre-order sequence. -/
theorem C34_fold_refines_rec {α : Type} (f : α → Head → α) (t : Tree) (acc : α) (fuel : Nat)
    (h : t.size ≤ fuel) : foldIter f fuel [t] acc = (preorder t).foldl f acc := by
  rw [← C34_iter_refines_rec t fuel h]
  exact foldIter_run f acc fuel (PState.init t)

/-- Pair iterator (compare/3, ==, the skeleton of unify): the work-list-of-pairs loop returns the
    recursive lexicographic comparison, for all pairs of terms, with fuel ≥ size of the left term. -/
theorem C34_cmp_refines_rec (a b : Tree) (fuel : Nat) (h : a.size ≤ fuel) :
    cmpIter fuel [(a, b)] = some (cmpRec a b) := by
  rw [cmpIter_spec fuel [(a, b)] (by simpa using h)]
  simp [cmpPairs]

/-- The recursive comparison of a term with itself is `=`; so the iterative one answers `=` for
    terms of any depth (the tie checks `T == T`, `compare(O,T,T)` on the ladder). -/
theorem C34_cmp_refl (a : Tree) (fuel : Nat) (h : a.size ≤ fuel) :
    cmpIter fuel [(a, a)] = some .eq := by
  rw [C34_cmp_refines_rec a a fuel h]
  rw [cmpRec_refl]

/-- Why recursion cannot work on the ladder: a right-deep (or left-deep) term built by `n` unary or
    binary wrappings has depth `n + 1` — a natively recursive walker needs one frame per level,
    i.e. 10^6 frames at the top of the ladder, while the explicit stack of the iterative walker
    holds at most `size` heap cells (`C34_worklist_bounded`). -/
theorem C34_recursive_needs_depth (n : Nat) (f : Nat) :
    (wrapN n (fun t => .node f [t]) (.atom 1)).depth = n + 1 ∧
    (wrapN n (fun t => .node f [.atom 2, t]) (.atom 1)).depth = n + 1 ∧
    (wrapN n (fun t => .node f [t, .atom 2]) (.atom 1)).depth = n + 1 ∧
    (wrapN n (fun t => .node f [.atom 2, t]) (.atom 1)).size = 2 * n + 1 := by
  -- each wrapping adds 1 to the depth (2 to the size); beside the sibling `.atom 2`, of depth 1, that
  -- is a `max` with 1, absorbed because every tree has depth ≥ 1 (`cases t`)
  refine ⟨?_, ?_, ?_, ?_⟩
  · rw [wrapN_add Tree.depth _ 1 (by intro t; simp [Tree.depth, depthL]; omega)]; simp [Tree.depth]; omega
  · rw [wrapN_add Tree.depth _ 1 (by intro t; simp [Tree.depth, depthL]; cases t <;> simp [Tree.depth] <;> omega)]
    simp [Tree.depth]; omega
  · rw [wrapN_add Tree.depth _ 1 (by intro t; simp [Tree.depth, depthL]; cases t <;> simp [Tree.depth] <;> omega)]
    simp [Tree.depth]; omega
  · rw [wrapN_add Tree.size _ 2 (by intro t; simp [Tree.size, sizeL]; omega)]; simp [Tree.size]; omega

/-- depth never exceeds size, and the visit sequence has exactly `size` entries. -/
theorem C34_depth_le_size (t : Tree) : t.depth ≤ t.size ∧ (preorder t).length = t.size :=
  ⟨depth_le_size t, preorder_length t⟩

/-! ### non-vacuity: the machines really run (small instances evaluated by the kernel) -/

/-- f(g(X, a), b): visits 5 nodes in pre-order; work-list high-water mark 3 ([X, a, b]). -/
example :
    let t : Tree := .node 1 [.node 2 [.var 0, .atom 1], .atom 2]
    iterTraverse 5 t = [.fn 1 2, .fn 2 2, .var 0, .atom 1, .atom 2] ∧
    (run 5 (PState.init t)).maxStack = 3 ∧ (run 4 (PState.init t)).stack ≠ [] := by decide

/-- compare is not constantly `=`: f(a) < f(b), f(a) < g(a,a) (arity first), X < a. -/
example : cmpIter 9 [(.node 1 [.atom 1], .node 1 [.atom 2])] = some .lt ∧
    cmpIter 9 [(.node 2 [.atom 1, .atom 1], .node 1 [.atom 1])] = some .gt ∧
    cmpIter 9 [(.var 3, .atom 0)] = some .lt ∧
    cmpIter 0 [(.var 3, .atom 0)] = none := by decide

/-- a left-deep term of depth 3 fills the work-list to depth + 1 entries (the bound is reached up
    to a constant on the `lbin` shape). -/
example : (run 99 (PState.init (wrapN 3 (fun t => .node 2 [t, .atom 2]) (.atom 1)))).maxStack = 4 := by
  decide

end Scryer.Traverse
