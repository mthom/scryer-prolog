import ScryerModel.Proofs.SolveLaws
import ScryerModel.Model.Load
/-!
# C08 — Static, dynamic and meta-called code give the same answers

In the reference semantics (`Scryer.Solve.solve`) a program is a clause list, so "loading mode" can
only enter through the way that list is built. The theorems say that the answers depend on nothing
but the sequence of clauses of each predicate: consulting static text, consulting discontiguous
pieces and `assertz`-ing the clauses one by one present the same predicates and therefore give the
same result for every goal and every fuel; and that `call/1` of a goal is the goal itself behind a
cut barrier. The implementation's four code paths (static code, incremental compilation of
discontiguous clauses, dynamic clauses, the call/N dispatcher) and a meta-interpreter over clause/2
are tied to this by the differential run of vlib/props/C08.py only.
-/
namespace Scryer.Solve
open Scryer.Load

/-- The answers depend only on the clause sequence of each predicate: two programs that present
the same predicates (`SamePreds`: for every name/arity the same clauses in the same order) give the
same result for every goal, state and fuel — however the clauses of different predicates are
interleaved. -/
theorem C08_presentation_invariant {p q : Prog} (h : SamePreds p q) (n : Nat) (g : Term) (s : St) :
    solve n p g s = solve n q g s := by
  induction n generalizing g s with
  | zero => rfl
  | succ n ih =>
    simp only [solve]
    have : solve n p = solve n q := by funext g s; exact ih g s
    rw [this]
    exact step_samePreds h _ n g s

/-- Adding the clauses with `assertz/1`, in order, builds the same program as consulting them. -/
theorem C08_loadDynamic_eq (cs : List Clause) : loadDynamic cs = loadStatic cs := by
  have : ∀ (db : Prog), cs.foldl assertz db = db ++ cs := by
    induction cs with
    | nil => intro db; simp
    | cons c rest ih => intro db; simp [List.foldl, assertz, ih]
  simpa [loadDynamic, loadStatic] using this []

/-- Static code and dynamic code built by `assertz/1` give the same answers. -/
theorem C08_static_eq_dynamic (cs : List Clause) (n : Nat) (g : Term) (s : St) :
    solve n (loadDynamic cs) g s = solve n (loadStatic cs) g s := by
  rw [C08_loadDynamic_eq]

/-- Two pieces of program text that define different predicates can be consulted in either order
(hypothesis: no predicate has clauses in both). -/
theorem C08_pieces_commute (a b : Prog)
    (h : ∀ name arity, a.filter (clauseMatches name arity) = [] ∨ b.filter (clauseMatches name arity) = [])
    (n : Nat) (g : Term) (s : St) :
    solve n (loadPieces [a, b]) g s = solve n (loadPieces [b, a]) g s :=
  C08_presentation_invariant (by simpa [loadPieces] using samePreds_swap [] a b h) n g s

/-- A predicate spread over discontiguous pieces: clauses of other predicates between the pieces
are irrelevant (hypothesis: no predicate has clauses in both `o` and `b`; `a` is unconstrained). -/
theorem C08_discontiguous (a o b : Prog)
    (h : ∀ name arity, o.filter (clauseMatches name arity) = [] ∨ b.filter (clauseMatches name arity) = [])
    (n : Nat) (g : Term) (s : St) :
    solve n (loadPieces [a, o, b]) g s = solve n (loadPieces [a, b, o]) g s :=
  C08_presentation_invariant (by simpa [loadPieces] using samePreds_swap a o b h) n g s

/-- `call/1` of an instantiated goal is the goal behind a cut barrier: same answers, same ball,
no cut exported. (`g` is its own resolution under the current substitution — e.g. the goal is
ground or the state is initial — and passes the body check.) -/
theorem C08_call_is_barrier (rec : Term → St → Res) (n : Nat) (s : St) (f : String) (args : List Term)
    (hr : resolve n s.σ (.str f args) = some (.str f args))
    (hb : bodyOk n (.str f args) = some true) (ho : (rec (.str f args) s).oof = false) :
    callGoal rec n s (.str f args) [] =
      ⟨(rec (.str f args) s).sols, false, (rec (.str f args) s).exc, false⟩ := by
  simp [callGoal, hr, callResolved, callBody, addArgs, hb, ho]

/-- … hence a goal that exports no cut gives the same result written in a clause body or passed
to `call/1`: the documented opacity of cut is the only difference. -/
theorem C08_call_same_as_body (rec : Term → St → Res) (n : Nat) (s : St) (f : String) (args : List Term)
    (hr : resolve n s.σ (.str f args) = some (.str f args))
    (hb : bodyOk n (.str f args) = some true) (ho : (rec (.str f args) s).oof = false)
    (hc : (rec (.str f args) s).cut = false) :
    callGoal rec n s (.str f args) [] = rec (.str f args) s := by
  rw [C08_call_is_barrier rec n s f args hr hb ho]
  cases h : rec (.str f args) s with
  | mk sols cut exc oof =>
    rw [h] at ho hc
    simp only at ho hc
    simp [ho, hc]

/-! ## Non-vacuity -/

/-- the hypotheses of `C08_call_is_barrier` hold for a ground goal in the initial state. -/
example : resolve 5 [] (.str "t" [.int 1]) = some (.str "t" [.int 1]) ∧
    bodyOk 5 (.str "t" [.int 1]) = some true := ⟨rfl, rfl⟩

/-- a predicate in two pieces with another predicate in between: same answers as contiguous. -/
example : (solve 8 (loadPieces [[⟨.str "t" [.int 1], .atom "true"⟩], [⟨.str "u" [.int 7], .atom "true"⟩],
      [⟨.str "t" [.int 2], .atom "true"⟩]]) (.str "t" [.var "X"]) ⟨[], 0⟩).sols.length = 2 := by decide +kernel

end Scryer.Solve
