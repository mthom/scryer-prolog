import ScryerModel.Proofs.Lfp
import ScryerModel.Proofs.Delim
/-!
# C38 — Delimited control and tabling compute the specified answers

## Part B — tabling = least fixpoint

`Model/Lfp.lean` is the *specification* of what a tabled predicate must return over a finite
relation: the least Herbrand model of the (function-free, positive) program, computed by Kleene
iteration of the immediate consequence operator `tp` (T_P).  The SLG engine of
`src/lib/tabling.pl` + `src/lib/tabling/*.pl` is not mirrored; it is tied to this specification by
the correspondence run only (random programs with left / right / double / mutual recursion over
cyclic graphs, every query mode; raw answer lists compared with `answers` as sets, checked for
duplicates and for termination).

An interpretation is a list of ground atoms read as a set (`⊆` is list inclusion, i.e. set
inclusion).  The textbook definition of `a ∈ T_P(I)` is: `a` is the head of a ground instance over
the constants `D` of a rule of `P` whose body atoms all belong to `I` (`C38_tp_characterisation`);
a model is a pre-fixpoint of T_P (`isModel_iff`), and the lemmas speak of `tp` throughout.
-/
namespace Scryer.Lfp

/-- The executable operator is the textbook immediate-consequence operator: `a ∈ T_P(I)` iff `a` is
    the head of a ground instance (variables of the rule mapped into `D`) of some rule whose body
    instances are all in `I`. -/
theorem C38_tp_characterisation (P : Program) (D : List Nat) (I : Interp) (a : GAtom) :
    a ∈ tp P D I ↔ ∃ r ∈ P, ∃ σ : Nat → Nat, (∀ v ∈ r.vars, σ v ∈ D) ∧ r.head.inst σ = a ∧
      ∀ b ∈ r.body, b.inst σ ∈ I := mem_tp

/-- T_P is monotone. -/
theorem C38_tp_monotone (P : Program) (D : List Nat) {I J : Interp} (h : I ⊆ J) :
    tp P D I ⊆ tp P D J := tp_mono h

/-- The Kleene chain ∅ ⊆ T_P(∅) ⊆ T_P²(∅) ⊆ … is ascending, duplicate-free and stays inside the
    finite base (all ground head instances). -/
theorem C38_chain (P : Program) (D : List Nat) (n : Nat) :
    iter P D n ⊆ iter P D (n+1) ∧ (iter P D n).Nodup ∧ iter P D n ⊆ base P D :=
  ⟨iter_subset_succ P D n, iter_nodup P D n, iter_subset_base P D n⟩

/-- Termination with fuel = size of the base: some round `k ≤ |base|` derives nothing new, and from
    then on the chain is constant (as a set). -/
theorem C38_fixpoint_within_base (P : Program) (D : List Nat) :
    ∃ k ≤ (base P D).length, ∀ n, k ≤ n → ∀ a, a ∈ iter P D n ↔ a ∈ iter P D k :=
  ⟨_, Nat.le_refl _, fun _ hn _ => ⟨fun h => (stable_base P D).iter_subset hn h, fun h => iter_mono P D hn h⟩⟩

/-- The early-exit iteration `lfp` (fuel `|base|`) returns an element `T_P^j(∅)`, `j ≤ |base|`, of
    the chain, and it is a fixpoint of T_P. -/
theorem C38_lfp_is_fixpoint (P : Program) (D : List Nat) :
    (∃ j ≤ (base P D).length, lfp P D = iter P D j) ∧ ∀ a, a ∈ tp P D (lfp P D) ↔ a ∈ lfp P D := by
  obtain ⟨j, he, _, hm⟩ := lfp_spec P D
  exact ⟨⟨j, hm _ (stable_base P D), he⟩, mem_tp_lfp P D⟩

/-- `lfp` is a model of the program and is contained in every model: the LEAST Herbrand model. -/
theorem C38_lfp_least_model (P : Program) (D : List Nat) :
    IsModel P D (lfp P D) ∧ ∀ M, IsModel P D M → lfp P D ⊆ M :=
  ⟨isModel_iff.mpr fun a => (mem_tp_lfp P D a).mp, fun _ hM => lfp_least (isModel_iff.mp hM)⟩

/-- `lfp` is the limit of the chain: it contains every `T_P^n(∅)`, whatever `n` (more fuel than
    `|base|` adds nothing). -/
theorem C38_lfp_is_limit (P : Program) (D : List Nat) (n : Nat) : iter P D n ⊆ lfp P D := by
  obtain ⟨j, hj, hs, _⟩ := lfp_spec P D
  rw [hj]
  exact (Nat.le_total n j).elim (iter_mono P D) hs.iter_subset

/-- The specification has no evaluation order: two programs that have the same rules up to the
    order and repetition of clauses and of body literals (in particular a left-recursive and the
    corresponding right-recursive formulation `p :- p, e` / `p :- e, p`) have the same least
    fixpoint and literally the same answer list for every query. -/
theorem C38_order_independent {P P' : Program} (h : ProgEquiv P P') (D : List Nat) :
    (∀ a, a ∈ lfp P D ↔ a ∈ lfp P' D) ∧ ∀ q, answers P D q = answers P' D q :=
  ⟨h.lfp D, fun _ => List.filter_congr fun _ _ => decide_eq_decide.mpr (h.lfp D _)⟩

/-- clause order in particular -/
theorem C38_clause_order_independent {P P' : Program} (h : P.Perm P') (D : List Nat) (q : Atom) :
    answers P D q = answers P' D q :=
  (C38_order_independent (ProgEquiv.of_perm h) D).2 q

/-- The answers to a query are exactly the assignments of the query's variables over `D` whose
    instance is in the least fixpoint, and the answer list is duplicate-free. -/
theorem C38_answers (P : Program) (D : List Nat) (q : Atom) :
    (∀ l, l ∈ answers P D q ↔ l ∈ assigns (dedup D) (dedup q.vars) ∧ q.inst (val l) ∈ lfp P D) ∧
    (answers P D q).Nodup :=
  ⟨fun _ => mem_answersIn, (nodup_assigns (nodup_dedup D) _).filter _⟩

/-- Completeness of the answer list with respect to valuations: every valuation of the query's
    variables into `D` that makes the query true in the least model is represented by an answer
    that agrees with it on the query's variables (that every answer is such a valuation is in
    `C38_answers`). -/
theorem C38_answers_complete (P : Program) (D : List Nat) (q : Atom) (σ : Nat → Nat)
    (hσ : ∀ v ∈ q.vars, σ v ∈ D) (hq : q.inst σ ∈ lfp P D) :
    ∃ l ∈ answers P D q, ∀ v ∈ q.vars, val l v = σ v := by
  obtain ⟨l, hl, agree⟩ := exists_assign (D := dedup D) σ (dedup q.vars)
    fun v hv => mem_dedup.mpr (hσ v (mem_dedup.mp hv))
  have agree : ∀ v ∈ q.vars, val l v = σ v := fun v hv => agree v (mem_dedup.mpr hv)
  exact ⟨l, mem_answersIn.mpr ⟨hl, Atom.inst_congr agree ▸ hq⟩, agree⟩

/-! ### non-vacuity: transitive closure of the 3-cycle 0→1→2→0 plus 2→3, left-recursive -/

/-- `path(X,Y) :- path(X,Z), edge(Z,Y).  path(X,Y) :- edge(X,Y).` with edge = pred 0, path = pred 1 -/
def exLeft : Program :=
  [⟨⟨1, [.var 0, .var 1]⟩, [⟨1, [.var 0, .var 2]⟩, ⟨0, [.var 2, .var 1]⟩]⟩,
   ⟨⟨1, [.var 0, .var 1]⟩, [⟨0, [.var 0, .var 1]⟩]⟩,
   ⟨⟨0, [.const 0, .const 1]⟩, []⟩, ⟨⟨0, [.const 1, .const 2]⟩, []⟩,
   ⟨⟨0, [.const 2, .const 0]⟩, []⟩, ⟨⟨0, [.const 2, .const 3]⟩, []⟩]

/-- the right-recursive formulation, clauses in the other order -/
def exRight : Program :=
  [⟨⟨0, [.const 2, .const 3]⟩, []⟩, ⟨⟨0, [.const 2, .const 0]⟩, []⟩,
   ⟨⟨0, [.const 1, .const 2]⟩, []⟩, ⟨⟨0, [.const 0, .const 1]⟩, []⟩,
   ⟨⟨1, [.var 0, .var 1]⟩, [⟨0, [.var 0, .var 1]⟩]⟩,
   ⟨⟨1, [.var 0, .var 1]⟩, [⟨0, [.var 2, .var 1]⟩, ⟨1, [.var 0, .var 2]⟩]⟩]

/-- 4 edges + 12 paths (every node of the cycle reaches 0,1,2,3; node 3 reaches nothing).
    Fuel 17 > 16 atoms stands in for `|base|`, which is dear to evaluate (`lfp_eq_of_length_lt`);
    `+kernel` keeps the elaborator from evaluating first, slowly. The facts below read it off. -/
theorem lfp_exLeft : lfp exLeft [0, 1, 2, 3] =
    [⟨1, [0, 2]⟩, ⟨1, [0, 0]⟩, ⟨1, [0, 3]⟩, ⟨1, [1, 1]⟩, ⟨1, [1, 0]⟩, ⟨1, [1, 3]⟩, ⟨1, [2, 1]⟩, ⟨1, [2, 2]⟩,
     ⟨1, [0, 1]⟩, ⟨1, [1, 2]⟩, ⟨1, [2, 0]⟩, ⟨1, [2, 3]⟩,
     ⟨0, [0, 1]⟩, ⟨0, [1, 2]⟩, ⟨0, [2, 0]⟩, ⟨0, [2, 3]⟩] :=
  lfp_eq_of_length_lt (n := 17) (by decide +kernel) (by decide)

example : (lfp exLeft [0, 1, 2, 3]).length = 16 := congrArg List.length lfp_exLeft
example : (answers exLeft [0, 1, 2, 3] ⟨1, [.const 0, .var 0]⟩).map (fun l => val l 0) = [0, 1, 2, 3] := by
  rw [answers, lfp_exLeft]; decide
example : answers exLeft [0, 1, 2, 3] ⟨1, [.const 3, .var 0]⟩ = [] := by
  rw [answers, lfp_exLeft]; decide
/-- the two formulations are `ProgEquiv`: the hypothesis of `C38_order_independent` is satisfiable
    by a left- vs right-recursive pair -/
example : ProgEquiv exLeft exRight :=
  ProgEquiv.of_perm_bodies (by decide) (by decide)

end Scryer.Lfp

/-!
## Part A — reset/3 and shift/1

`Model/Delim.lean` is a frame-stack machine for the deterministic fragment of Prolog control: the
continuation is an explicit list of frames (`Frame.goal g` = still to run, `Frame.marker b c` = the
marker of a running `reset(_,b,c)`), goals are Prolog terms and the store / unification / builtins
are those of `Scryer.Solve`.  `step` is one machine transition, `Steps` its reflexive-transitive
closure, `tf` the fuel for term operations (dereferencing, unification, decoding a continuation term;
the driver uses 100000).  The laws below hold for every program `P`, every store `st` and every
rest-of-stack `K` (so under any nesting of resets and any calling context).

The continuation bound by scryer is `cont(G)` (and `none` when the goal did not shift — SWI-Prolog
uses `call_continuation/1` terms and `0`); the model uses `cont('$cont'(Goals))`.  A `shift/1` with no
enclosing `reset/3` fails in scryer (`'$unwind_environments'` finds no marker); the model mirrors
that.  The WAM side (environment chunks, `'$get_cont_chunk'`, `'$call_continuation'`) is tied to
the machine by the correspondence run only.
-/
namespace Scryer.Delim
open Scryer.Solve

def resetG (g b c : Term) : Term := .str "reset" [g, b, c]
def shiftG (t : Term) : Term := .str "shift" [t]
def conjG (a b : Term) : Term := .str "," [a, b]
/-- the callable inside `cont(_)`: a first-class continuation made of the goals `k` -/
def kGoal (k : List Term) : Term := .str "$cont" [encodeGoals k]
def noneG (c : Term) : Term := mkUnify c (.atom "none")

theorem contTerm_eq (k : List Term) : contTerm k = .str "cont" [kGoal k] := rfl

/-- Stack locality: a run that needs only the frames `F` proceeds identically on top of any rest
    `K` — no rule inspects what lies below the nearest reset marker. -/
theorem C38_stack_locality {tf : Nat} {P : Prog} {F F' : List Frame} {st st' : St}
    (h : Steps tf P ⟨F, st⟩ ⟨F', st'⟩) (K : List Frame) :
    Steps tf P ⟨F ++ K, st⟩ ⟨F' ++ K, st'⟩ := steps_append h K

/-- `reset(G,B,C)` when `G` does not shift past its own resets (it runs to completion on a stack of
    its own, reaching store `st'`): it behaves exactly like `G, C = none`, in any context `K`. -/
theorem C38_reset_without_shift {tf : Nat} (htf : 0 < tf) (P : Prog) (g b c : Term) (K : List Frame)
    {st st' : St} (hg : Steps tf P ⟨[.goal g], st⟩ ⟨[], st'⟩) :
    Steps tf P ⟨.goal (resetG g b c) :: K, st⟩ ⟨.goal (noneG c) :: K, st'⟩ :=
  .head (step_reset htf P K st g b c) <| (C38_stack_locality hg (.marker b c :: K)).trans (.single rfl)

/-- `shift(T)` captures exactly the goals `gs` between itself and the NEAREST reset marker — nothing
    of `K`, whatever `K` contains (further markers included) — removes that marker, and continues in
    the context of that reset with `C = cont(<gs>)`, `B = T`. -/
theorem C38_shift_captures_up_to_nearest_reset {tf : Nat} (htf : 0 < tf) (P : Prog) (t : Term)
    (gs : List Term) (b c : Term) (K : List Frame) (st : St) :
    step tf P ⟨.goal (shiftG t) :: (goals gs ++ .marker b c :: K), st⟩ =
      .next ⟨.goal (mkUnify c (contTerm gs)) :: .goal (mkUnify b t) :: K, st⟩ := by
  rw [shiftG, step_shift htf, splitAtMarker_goals]

/-- Two nested resets: the inner marker is the one that is used; the goals of the outer reset
    (`gs₂`), the outer marker and everything below stay on the stack untouched. -/
theorem C38_nested_resets_inner_wins {tf : Nat} (htf : 0 < tf) (P : Prog) (t : Term)
    (gs₁ gs₂ : List Term) (b₁ c₁ b₂ c₂ : Term) (K : List Frame) (st : St) :
    step tf P ⟨.goal (shiftG t) :: (goals gs₁ ++ .marker b₁ c₁ :: (goals gs₂ ++ .marker b₂ c₂ :: K)), st⟩ =
      .next ⟨.goal (mkUnify c₁ (contTerm gs₁)) :: .goal (mkUnify b₁ t) ::
              (goals gs₂ ++ .marker b₂ c₂ :: K), st⟩ :=
  C38_shift_captures_up_to_nearest_reset htf P t gs₁ b₁ c₁ _ st

/-- `shift/1` with no enclosing `reset/3` fails (scryer's behaviour; no error is raised). -/
theorem C38_shift_without_reset_fails {tf : Nat} (htf : 0 < tf) (P : Prog) (t : Term)
    (gs : List Term) (st : St) :
    step tf P ⟨.goal (shiftG t) :: goals gs, st⟩ = .fail := by
  rw [shiftG, step_shift htf, splitAtMarker_none]

/-- Calling a captured continuation pushes exactly the captured goals back, on top of the
    caller's own continuation `K`. -/
theorem C38_call_continuation_resumes {tf : Nat} (P : Prog) (gs : List Term) (hlen : gs.length < tf)
    (K : List Frame) (st : St) :
    step tf P ⟨.goal (kGoal gs) :: K, st⟩ = .next ⟨goals gs ++ K, st⟩ := by
  rw [kGoal, step_cont (Nat.zero_lt_of_lt hlen), decode_encode gs tf hlen]

/-- The reset/shift law: `reset((Pre, shift(T), Rest), B, C)`, where `Pre` runs to completion without
    shifting (store `st ↦ st'`), continues with `C = cont(k)`, `B = T` under the bindings made by
    `Pre`, and calling `k` in any context runs exactly `Rest` (the remaining computation up to the
    reset, not beyond). `htf` is `[rest].length < tf`: the term fuel decodes a one-goal continuation. -/
theorem C38_reset_shift_law {tf : Nat} (htf : 1 < tf) (P : Prog) (pre t rest b c : Term)
    (K : List Frame) {st st' : St} (hpre : Steps tf P ⟨[.goal pre], st⟩ ⟨[], st'⟩) :
    Steps tf P ⟨.goal (resetG (conjG pre (conjG (shiftG t) rest)) b c) :: K, st⟩
      ⟨.goal (mkUnify c (.str "cont" [kGoal [rest]])) :: .goal (mkUnify b t) :: K, st'⟩ ∧
    ∀ K' st'', step tf P ⟨.goal (kGoal [rest]) :: K', st''⟩ = .next ⟨.goal rest :: K', st''⟩ := by
  have h0 : 0 < tf := by omega
  refine ⟨?_, fun K' st'' => C38_call_continuation_resumes P [rest] htf K' st''⟩
  exact .head (step_reset h0 ..) <| .head (step_conj h0 ..) <|
    (C38_stack_locality hpre (.goal (conjG (shiftG t) rest) :: .marker b c :: K)).trans <|
    .head (step_conj h0 ..) <| .single (C38_shift_captures_up_to_nearest_reset h0 P t [rest] b c K st')

/-- Re-entrancy: resuming a continuation inside a NEW reset re-installs exactly the captured goals
    above the new marker — so a further `shift` in them is caught by the new reset
    (`C38_shift_captures_up_to_nearest_reset`). -/
theorem C38_continuation_reentrant {tf : Nat} (P : Prog) (gs : List Term) (hlen : gs.length < tf)
    (b c : Term) (K : List Frame) (st : St) :
    Steps tf P ⟨.goal (resetG (kGoal gs) b c) :: K, st⟩ ⟨goals gs ++ .marker b c :: K, st⟩ :=
  .head (step_reset (Nat.zero_lt_of_lt hlen) ..) (.single (C38_call_continuation_resumes P gs hlen _ st))

/-- The handler-iteration protocol, as a relation: `Iterates G vs` says that `reset(G,B,C)` (in any
    context and store) yields the ball `v₁` and a continuation `cont(k₁)`, that `reset(k₁,B,C)` yields
    `v₂` and `cont(k₂)`, …, and that after `vs` is exhausted the last reset ends with `C = none`.
    This is what the iterator loop `collect(G,L) :- reset(G,B,C), ( C == none -> L = [] ; C = cont(K),
    L = [B|L1], collect(K,L1) )` observes. -/
inductive Iterates (tf : Nat) (P : Prog) : Term → List Term → Prop where
  | done {G : Term} :
      (∀ b c K st, Steps tf P ⟨.goal (resetG G b c) :: K, st⟩ ⟨.goal (noneG c) :: K, st⟩) →
      Iterates tf P G []
  | yield {G v : Term} {k : List Term} {vs : List Term} :
      (∀ b c K st, Steps tf P ⟨.goal (resetG G b c) :: K, st⟩
          ⟨.goal (mkUnify c (.str "cont" [kGoal k])) :: .goal (mkUnify b v) :: K, st⟩) →
      Iterates tf P (kGoal k) vs → Iterates tf P G (v :: vs)

/-- the standard generator: `shift(v₁), (shift(v₂), (… , true))` -/
def genGoal : List Term → Term
  | [] => .atom "true"
  | v :: vs => conjG (shiftG v) (genGoal vs)

/-- Any goal whose reset comes to stand as `genGoal vs` above its marker iterates over `vs`: this
    holds of `genGoal vs` itself and of every continuation `kGoal [genGoal vs]` captured on the way,
    which is what the induction needs. Each such continuation holds one goal, whence `1 < tf` here and below. -/
theorem iterates_of_reaches_genGoal {tf : Nat} (htf : 1 < tf) (P : Prog) : ∀ (vs : List Term) {G : Term},
    (∀ b c K st, Steps tf P ⟨.goal (resetG G b c) :: K, st⟩ ⟨.goal (genGoal vs) :: .marker b c :: K, st⟩) →
    Iterates tf P G vs
  | [], _, h => .done fun b c K st =>
      (h b c K st).trans (.head (step_true (Nat.zero_lt_of_lt htf) ..) (.single rfl))
  | v :: vs, _, h =>
      have h0 : 0 < tf := Nat.zero_lt_of_lt htf
      .yield (k := [genGoal vs])
        (fun b c K st => (h b c K st).trans <| .head (step_conj h0 ..) <|
          .single (C38_shift_captures_up_to_nearest_reset h0 P v [genGoal vs] b c K st))
        (iterates_of_reaches_genGoal htf P vs (C38_continuation_reentrant P [genGoal vs] htf))

/-- Effect-handler iteration law: the generator `shift(v₁), …, shift(vₙ), true`, driven by the
    handler protocol (reset; on `cont(k)` reset `k` again), yields exactly the sequence `v₁ … vₙ` of
    shifted values, in order, and then reports `none`; for every list of values, in every context. -/
theorem C38_iterator_yields_shifted_values {tf : Nat} (htf : 1 < tf) (P : Prog) (vs : List Term) :
    Iterates tf P (genGoal vs) vs :=
  iterates_of_reaches_genGoal htf P vs fun _ _ _ _ => .single (step_reset (Nat.zero_lt_of_lt htf) ..)

/-! ### non-vacuity -/

/-- a goal that "does not shift": `true` completes on its own stack -/
example : Steps 5 [] ⟨[.goal (.atom "true")], ⟨[], 0⟩⟩ ⟨[], ⟨[], 0⟩⟩ :=
  .single (step_true (by omega) ..)

/-- the hypotheses of the reset/shift law are satisfiable (`Pre = true`), and the iterator law
    instantiates to a concrete generator -/
example (K : List Frame) (st : St) :
    Steps 5 [] ⟨.goal (resetG (conjG (.atom "true") (conjG (shiftG (.int 1)) (.atom "rest"))) (.var "B") (.var "C")) :: K, st⟩
      ⟨.goal (mkUnify (.var "C") (.str "cont" [kGoal [.atom "rest"]])) :: .goal (mkUnify (.var "B") (.int 1)) :: K, st⟩ :=
  (C38_reset_shift_law (by omega) [] (.atom "true") (.int 1) (.atom "rest") (.var "B") (.var "C") K
    (.single (step_true (by omega) ..))).1

example : Iterates 5 [] (genGoal [.int 1, .int 2, .int 3]) [.int 1, .int 2, .int 3] :=
  C38_iterator_yields_shifted_values (by omega) [] _

end Scryer.Delim
