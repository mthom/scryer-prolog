import ScryerModel.Proofs.Order
/-!
# C13 — compare/3 implements the standard order of terms

`termCompare age a b` (Model/Order.lean) is the model of `compare_term_test`: category first
(`Var < Float < Integer/Rational < Atom < Compound`), then inside the category. `age` gives
the (implementation-defined) position of each variable. All theorems are for ALL terms of
the shared `Term` type (no size bound); lists are `'.'/2` compounds and strings are lists of
one-char atoms, so they are covered by the compound clauses.

`DenPos t`: every rational inside `t` has a positive denominator (always true of a term that
exists in the system). `Normal t`: rationals are in lowest terms with denominator ≥ 2 and
floats are canonical (64 bits, not `-0.0`, not NaN). The order laws and the lemmas on numbers,
floats and UTF-8 are in `Proofs/Order.lean`.
-/
namespace Scryer.Order

/-! ## one total (pre)order -/

/-- reflexive: every term is equal to itself. -/
theorem C13_refl (age : String → Nat) (t : Term) : termCompare age t t = .eq :=
  termCompare_refl age t

/-- antisymmetric: swapping the arguments swaps the answer (`<` ↔ `>`, `=` ↔ `=`);
    unconditional. -/
theorem C13_antisymm (age : String → Nat) (a b : Term) :
    termCompare age b a = (termCompare age a b).swap :=
  termCompare_swap age a b

/-- transitive (strict part): `a < b`, `b < c` give `a < c`. -/
theorem C13_trans_lt (age : String → Nat) (a b c : Term)
    (ha : DenPos a) (hb : DenPos b) (hc : DenPos c)
    (h1 : termCompare age a b = .lt) (h2 : termCompare age b c = .lt) :
    termCompare age a c = .lt :=
  (termCompare_tri age a b c ha hb hc).lt_lt h1 h2

/-- transitive (non-strict): `a ≤ b`, `b ≤ c` give `a ≤ c` (`≤` is "compare is not `>`",
    which is how `@=<` is computed). -/
theorem C13_trans_le (age : String → Nat) (a b c : Term)
    (ha : DenPos a) (hb : DenPos b) (hc : DenPos c)
    (h1 : termCompare age a b ≠ .gt) (h2 : termCompare age b c ≠ .gt) :
    termCompare age a c ≠ .gt :=
  (termCompare_tri age a b c ha hb hc).le_trans h1 h2

/-- `=` is a congruence for the order: terms that compare equal compare alike with every
    third term (so the order is one total order on the classes of `==`). -/
theorem C13_eq_congr (age : String → Nat) (a b c : Term)
    (ha : DenPos a) (hb : DenPos b) (hc : DenPos c)
    (h : termCompare age a b = .eq) :
    termCompare age a c = termCompare age b c ∧ termCompare age c a = termCompare age c b := by
  refine ⟨(termCompare_tri age a b c ha hb hc).eq_l h, ?_⟩
  exact (termCompare_tri age c a b hc ha hb).eq_r h

/-- total: exactly one of `<`, `=`, `>` — trivially, the result is an `Ordering`; together
    with antisymmetry: `a < b` or `a = b` or `b < a`. -/
theorem C13_total (age : String → Nat) (a b : Term) :
    termCompare age a b = .lt ∨ termCompare age a b = .eq ∨ termCompare age b a = .lt := by
  rw [C13_antisymm age a b]
  cases termCompare age a b <;> simp

/-! ## categories -/

/-- the category decides first: a term of a lower category is smaller, whatever the contents.
    Categories: `cat` = 0 variables, 1 floats, 2 integers and rationals, 3 atoms, 4 compounds. -/
theorem C13_category (age : String → Nat) (a b : Term) (h : cat a < cat b) :
    termCompare age a b = .lt :=
  termCompare_of_cat_lt age a b h

/-- `Var < Float < Integer < Atom < Compound` for arbitrary representatives (a rational may
    stand in for the integer). In particular every float precedes every integer: `2.0 @< 1`. -/
theorem C13_category_chain (age : String → Nat) (x : String) (bits : Nat) (v n : Int) (d : Nat)
    (s f : String) (args : List Term) :
    termCompare age (.var x) (.flt bits) = .lt ∧
    termCompare age (.flt bits) (.int v) = .lt ∧
    termCompare age (.flt bits) (.rat n d) = .lt ∧
    termCompare age (.int v) (.atom s) = .lt ∧
    termCompare age (.rat n d) (.atom s) = .lt ∧
    termCompare age (.atom s) (.str f args) = .lt := by
  refine ⟨?_, ?_, ?_, ?_, ?_, ?_⟩ <;> exact termCompare_of_cat_lt age _ _ (Nat.lt_succ_self _)

/-! ## inside a category -/

/-- variables are ordered by their age. -/
theorem C13_var (age : String → Nat) (x y : String) :
    termCompare age (.var x) (.var y) = compare (age x) (age y) := rfl

/-- the exact rational value of an integer or rational term. -/
def numQ (t : Term) : ℚ := ((numVal t).1 : ℚ) / ((numVal t).2 : ℚ)

/-- the term is an integer or a rational (the exact numbers; floats are not). -/
def IsNum : Term → Prop
  | .int _ => True
  | .rat _ _ => True
  | _ => False

/-- integers and rationals (in any mixture, at any magnitude) compare by exact value in ℚ. -/
theorem C13_num_value (age : String → Nat) (a b : Term) (na : IsNum a) (nb : IsNum b)
    (ha : DenPos a) (hb : DenPos b) :
    (termCompare age a b = .lt ↔ numQ a < numQ b) ∧
    (termCompare age a b = .eq ↔ numQ a = numQ b) ∧
    (termCompare age a b = .gt ↔ numQ b < numQ a) := by
  have ca : cat a = 2 := by cases a <;> first | rfl | exact na.elim
  have cb : cat b = 2 := by cases b <;> first | rfl | exact nb.elim
  have h : termCompare age a b = ratCmp (numVal a) (numVal b) := by
    rw [termCompare_eq, sameCat_leaf age (.inl (ca ▸ by decide)), leafCompare_num age ca, ca, cb]
    rfl
  rw [h, ratCmp_eq_compare _ _ (numVal_pos a ha) (numVal_pos b hb)]
  exact ⟨compare_lt_iff_lt, compare_eq_iff_eq, compare_gt_iff_gt⟩

/-- two integers: plain integer comparison. -/
theorem C13_int (age : String → Nat) (v w : Int) :
    termCompare age (.int v) (.int w) = compare v w :=
  ratCmp_same_den v w 1 Nat.one_pos

/-- floats compare by `fltCmp`; for two non-NaN doubles that is the order of their exact
    real values (`fltToRat`), so `-0.0` and `0.0` are equal; NaNs are equal to each other and
    above all other floats. -/
theorem C13_float_value (age : String → Nat) (x y : Nat) :
    termCompare age (.flt x) (.flt y) = fltCmp x y ∧
    (∀ a b, fltToRat x = some a → fltToRat y = some b →
      (fltCmp x y = .lt ↔ (a.1 : ℚ) / (a.2 : ℚ) < (b.1 : ℚ) / (b.2 : ℚ)) ∧
      (fltCmp x y = .eq ↔ (a.1 : ℚ) / (a.2 : ℚ) = (b.1 : ℚ) / (b.2 : ℚ))) ∧
    (fltToRat x = none → fltToRat y = none → fltCmp x y = .eq) ∧
    (∀ b, fltToRat x = none → fltToRat y = some b → fltCmp x y = .gt) := by
  refine ⟨rfl, ?_, ?_, ?_⟩
  · intro a b hx hy
    have h : fltCmp x y = ratCmp a b := by simp [fltCmp, hx, hy]
    rw [h, ratCmp_eq_compare a b (fltToRat_den_pos x a hx) (fltToRat_den_pos y b hy)]
    exact ⟨compare_lt_iff_lt, compare_eq_iff_eq⟩
  · intro hx hy; simp [fltCmp, hx, hy]
  · intro b hx hy; simp [fltCmp, hx, hy]

/-- atoms compare by their code-point sequences, and that is exactly what the byte-wise
    comparison of the UTF-8 texts (`Ord for Atom`: `as_str().cmp`) computes. -/
theorem C13_atom (age : String → Nat) (s t : String) :
    termCompare age (.atom s) (.atom t) = cmpList compare (codes s) (codes t) ∧
    atomCmpBytes s t = cmpList compare (codes s) (codes t) :=
  ⟨termCompare_atom age s t, utf8s_cmp _ _⟩

/-- UTF-8 preserves order: for all sequences of code points (below 0x110000), comparing the
    concatenated encodings byte by byte gives the result of comparing the code points. (The model's
    `utf8` keeps the order beyond that range too: the proof does not use `hx`, `hy`.) -/
theorem C13_utf8_order (xs ys : List Nat) (hx : ∀ x ∈ xs, x < 0x110000)
    (hy : ∀ y ∈ ys, y < 0x110000) :
    cmpList compare (utf8s xs) (utf8s ys) = cmpList compare xs ys :=
  utf8s_cmp xs ys

/-- compounds: arity first, then the name (as atoms), then the arguments left to right —
    the first argument pair that is not equal decides (`cmpList` is lexicographic; the
    lengths are already equal when it is consulted). -/
theorem C13_compound (age : String → Nat) (f g : String) (as bs : List Term) :
    termCompare age (.str f as) (.str g bs) =
      (compare as.length bs.length).then
        ((atomCmp f g).then (cmpList (termCompare age) as bs)) :=
  termCompare_str age f g as bs

/-- lexicographic arguments, spelled out: with equal name and a common argument prefix `p`,
    the comparison is that of the remaining arguments; and if the next arguments differ, they
    decide. -/
theorem C13_args_lex (age : String → Nat) (f : String) (p as bs : List Term) (x y : Term)
    (hlen : as.length = bs.length) (hxy : termCompare age x y ≠ .eq) :
    termCompare age (.str f (p ++ x :: as)) (.str f (p ++ y :: bs)) = termCompare age x y := by
  rw [termCompare_str, atomCmp_refl,
    cmpList_append p _ _ (termCompare_refl age)]
  have : (p ++ x :: as).length = (p ++ y :: bs).length := by simp [hlen]
  rw [Nat.compare_eq_eq.mpr this, cmpList_cons_cons, then_of_ne_eq hxy]
  rfl

/-! ## `==` is structural identity -/

/-- on normal terms (and with distinct variables having distinct ages) `compare` answers `=`
    exactly for identical terms. -/
theorem C13_eq_iff_identical (age : String → Nat) (hage : Function.Injective age) (a b : Term)
    (ha : Normal a) (hb : Normal b) : termCompare age a b = .eq ↔ a = b :=
  termCompare_eq_iff age hage a b ha hb

/-- the caveats, precisely: outside the normal forms `=` identifies `-0.0` with `0.0`
    (OrderedFloat), and a rational with denominator 1 with the integer (scryer's `2 rdiv 1`
    is `integer/1`); it never identifies `1` and `1.0`. -/
theorem C13_eq_caveats (age : String → Nat) :
    termCompare age (.flt 0x8000000000000000) (.flt 0) = .eq ∧
    termCompare age (.rat 2 1) (.int 2) = .eq ∧
    termCompare age (.flt 0x3FF0000000000000) (.int 1) = .lt := by
  refine ⟨?_, ?_, ?_⟩
  · exact fltCmp_neg_zero
  · exact compare_eq_iff_eq.mpr rfl
  · exact termCompare_of_cat_lt age _ _ (Nat.lt_succ_self 1)

/-- the six comparison predicates are one relation: `==` iff compare gives `=`, `\==` is its
    negation, `@=<` is not-`@>`, `@>=` is not-`@<`, and `a @> b` iff `b @< a`. -/
theorem C13_ops (age : String → Nat) (a b : Term) :
    (termEq age a b = true ↔ termCompare age a b = .eq) ∧
    termNe age a b = !termEq age a b ∧
    termLe age a b = !termGt age a b ∧
    termGe age a b = !termLt age a b ∧
    termGt age a b = termLt age b a ∧
    termEq age a b = termEq age b a := by
  unfold termEq termNe termLe termGe termGt termLt
  rw [C13_antisymm age a b]
  cases termCompare age a b <;> decide

/-! ## strings, partial strings and lists -/

/-- a string IS the list of its one-char atoms (also with an open tail: partial strings), so
    it is ordered as the list it denotes — by construction of the model; the implementation's
    nine representation pairings are tied to this by the correspondence run. -/
theorem C13_string_as_list (age : String → Nat) (cs : List Char) (tl t : Term) :
    termCompare age (Term.ofChars cs tl) t
      = termCompare age (Term.ofList (cs.map fun c => .atom (String.singleton c)) tl) t ∧
    termCompare age t (Term.ofChars cs tl)
      = termCompare age t (Term.ofList (cs.map fun c => .atom (String.singleton c)) tl) :=
  ⟨rfl, rfl⟩

/-- list cells compare head first, then tail. -/
theorem C13_list_cell (age : String → Nat) (x xs y ys : Term) :
    termCompare age (Term.cons x xs) (Term.cons y ys)
      = (termCompare age x y).then (termCompare age xs ys) :=
  termCompare_cons age x xs y ys

/-- two complete strings compare as their code point sequences (a proper prefix first). -/
theorem C13_strings (age : String → Nat) (cs ds : List Char) :
    termCompare age (Term.ofChars cs) (Term.ofChars ds)
      = cmpList compare (cs.map Char.toNat) (ds.map Char.toNat) := by
  induction cs generalizing ds with
  | nil =>
    cases ds with
    | nil => exact termCompare_refl age _
    -- `[]` is an atom (category 3), a list cell a compound (4)
    | cons d ds => exact termCompare_of_cat_lt age _ _ (Nat.lt_succ_self 3)
  | cons c cs ih =>
    cases ds with
    | nil => exact termCompare_of_cat_gt age _ _ (Nat.lt_succ_self 3)
    | cons d ds =>
      rw [termCompare_ofChars_cons, ih]
      rfl

/-- partial strings: a common prefix is skipped whatever the tails are
    (`compare_pstr_slices` returning `Continue`), and the first differing character decides
    by code point. -/
theorem C13_pstr (age : String → Nat) (p cs ds : List Char) (t1 t2 : Term) :
    termCompare age (Term.ofChars (p ++ cs) t1) (Term.ofChars (p ++ ds) t2)
      = termCompare age (Term.ofChars cs t1) (Term.ofChars ds t2) ∧
    (∀ c d, c ≠ d →
      termCompare age (Term.ofChars (p ++ c :: cs) t1) (Term.ofChars (p ++ d :: ds) t2)
        = compare c.toNat d.toNat) := by
  refine ⟨termCompare_ofChars_append age p cs ds t1 t2, ?_⟩
  intro c d h
  rw [termCompare_ofChars_append, termCompare_ofChars_cons]
  exact then_of_ne_eq (fun e => h (Char.toNat_inj.mp (compare_eq_iff_eq.mp e))) _

/-! ## what the three findings contradict -/

/-- asymmetry of the strict part: no two terms are each strictly below the other. Finding
    C13-1 observes exactly that on the pinned code (`compare(O1,A,B)`, `compare(O2,B,A)` with
    `A = (1 '.' 2)` a structure cell, `B = [0|3]` a list cell: `O1 = O2 = (<)`). -/
theorem C13_asymm (age : String → Nat) (a b : Term) :
    ¬ (termCompare age a b = .lt ∧ termCompare age b a = .lt) := by
  rintro ⟨h1, h2⟩
  rw [C13_antisymm age a b, h1] at h2
  exact absurd h2 (by decide)

/-- the pair of finding C13-1 in the order of terms: heads first, `'.'(1,2) @> '.'(0,3)`. -/
example (age : String → Nat) :
    termCompare age (Term.cons (.int 1) (.int 2)) (Term.cons (.int 0) (.int 3)) = .gt ∧
    termCompare age (Term.cons (.int 0) (.int 3)) (Term.cons (.int 1) (.int 2)) = .lt := by
  refine ⟨?_, ?_⟩ <;> rw [C13_list_cell, C13_int, C13_int] <;> decide

/-- the pair of finding C13-2: `"hij"` (wherever it lies in memory) is below `"hijk"`;
    the pinned code crashes on it when `"hij"` is a suffix starting at byte 7 of a cell. -/
example (age : String → Nat) :
    termCompare age (Term.ofChars ['h', 'i', 'j']) (Term.ofChars ['h', 'i', 'j', 'k']) = .lt := by
  rw [C13_strings]; decide

/-- the family of finding C13-3: a list with one more element is above its prefix, so
    `f(S, L1)` is above `f(L2, L2)` when `S`, `L2` denote `cs` and `L1` denotes `cs ++ [z]` —
    for every length. The pinned code answers `=` for certain lengths. -/
theorem C13_longer_list_gt (age : String → Nat) (cs : List Char) (z : Char) :
    termCompare age (.str "f" [Term.ofChars cs, Term.ofChars (cs ++ [z])])
                    (.str "f" [Term.ofChars cs, Term.ofChars cs]) = .gt := by
  have h : termCompare age (Term.ofChars (cs ++ [z])) (Term.ofChars cs) = .gt := by
    have h0 := termCompare_ofChars_append age cs [z] [] Term.nil Term.nil
    rw [List.append_nil] at h0
    rw [h0]
    exact termCompare_of_cat_gt age _ _ (Nat.lt_succ_self 3)
  rw [← h]
  exact C13_args_lex age "f" [Term.ofChars cs] [] [] (Term.ofChars (cs ++ [z])) (Term.ofChars cs)
    rfl (by rw [h]; decide)

/-! ## byte level: the tail cell of a partial string that ends first (finding C13-2) -/

/-- with the patch of C13-2, in all three `Continue` branches of `compare_pstr_slices` the cell
    the comparison goes on with IS the tail cell laid out by the writer, for every byte offset
    `l` at which the string is entered (aligned or not) and every number `pos` of common bytes.
    (`otherTailCell`: the two branches that are right in the pinned code as well.) -/
theorem C13_pstr_tail_cell (l pos : Nat) :
    leftTailCell true l pos = tailCellWritten (l + pos) ∧
    otherTailCell l pos = tailCellWritten (l + pos) :=
  -- `leftTailCell true l pos` is `otherTailCell l pos` by unfolding
  ⟨otherTailCell_eq l pos, otherTailCell_eq l pos⟩

/-- the pinned code in the branch "left ends first": right exactly when the misalignment and
    the common length do not carry into the next cell; otherwise it names the cell BEFORE the
    tail cell (string bytes and padding are then read as a heap cell). -/
theorem C13_pstr_tail_cell_pinned_partial (l pos : Nat) :
    (l % 8 + pos % 8 < 8 → leftTailCell false l pos = tailCellWritten (l + pos)) ∧
    (8 ≤ l % 8 + pos % 8 → leftTailCell false l pos + 1 = tailCellWritten (l + pos)) := by
  have e : leftTailCell false l pos = tailIdxFromZero (l + pos) + pos / 8 + l / 8 := rfl
  rw [e, tailCellWritten_eq, Nat.add_div (by decide : 0 < 8)]
  constructor <;> intro h
  · rw [if_neg (Nat.not_le.mpr h)]; omega
  · rw [if_pos h]; omega

/-- the input of finding C13-2: `"abcdefghij"` in cells 100 and 101 (bytes 800…809, tail cell
    102), entered at byte 807 (`"hij"`), 3 common bytes with `"hijk"`: the pinned code goes on
    with cell 101, the patched code with cell 102. -/
example : leftTailCell false 807 3 = 101 ∧ leftTailCell true 807 3 = 102 ∧
    tailCellWritten 810 = 102 := by decide

/-! ## non-vacuity -/

example : ∃ age : String → Nat, Function.Injective age := exists_injective_age

/-- the hypotheses are satisfiable by terms of every kind. -/
example : Normal (.str "f" [.var "X", .int (-5), .rat 1 3, .flt 0x3FF0000000000000,
    .atom "é", Term.ofChars ['a', 'b'] (.var "T")]) := by
  refine ⟨trivial, trivial, ⟨by decide, by decide⟩, ⟨by decide, by decide, by decide⟩, trivial, ?_,
    trivial⟩
  exact ⟨trivial, ⟨trivial, trivial, trivial⟩, trivial⟩

example : DenPos (.str "f" [.rat 1 3, .rat (-7) 2]) := ⟨Nat.zero_lt_succ _, Nat.zero_lt_succ _, trivial⟩

/-- an integer against a float is decided by the category (`1` above `2.0`); the compound pair after it
    by its first differing argument. -/
example : termCompare (fun _ => 0) (.int 1) (.flt 0x4000000000000000) = .gt := by
  exact termCompare_of_cat_gt _ _ _ (Nat.lt_succ_self 1)

example : termCompare (fun _ => 0) (.str "f" [.atom "a", .atom "z"]) (.str "f" [.atom "b", .atom "a"])
    = .lt := by
  have := C13_args_lex (fun _ => 0) "f" [] [.atom "z"] [.atom "a"] (.atom "a") (.atom "b") rfl
  simp only [List.nil_append] at this
  rw [this] <;> decide

/-- floats by value: the two smallest subnormals, and a negative one below `0.0`. -/
example : fltCmp 1 2 = .lt ∧ fltCmp 0x8000000000000001 0 = .lt := by
  rw [fltCmp_eq_optCmp, fltCmp_eq_optCmp]; decide

/-- … and two normal doubles (0.1 and 0.2: different exponent fields). -/
example : fltCmp 0x3FB999999999999A 0x3FC999999999999A = .lt := by
  have h := Binary64.val_strictMono (Nat.two_pow_pos 52) (a := 0x3FB999999999999A % 2 ^ 63)
    (b := 0x3FC999999999999A % 2 ^ 63) (by decide)
  rw [fltCmp_eq_optCmp, fltScaled_eq _ (by decide), fltScaled_eq _ (by decide)]
  have s1 : fltSign 0x3FB999999999999A = false := by decide
  have s2 : fltSign 0x3FC999999999999A = false := by decide
  simp only [s1, s2, optCmp, Bool.false_eq_true, if_false, Int.compare_eq_lt]
  exact Int.ofNat_lt.2 (Nat.mul_lt_mul_of_pos_left h Nat.two_pos)

end Scryer.Order
