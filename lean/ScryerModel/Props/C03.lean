import ScryerModel.Proofs.ArithEval
import ScryerModel.Extracted.EvalTables
/-
C03 — Arithmetic does not depend on how the expression reaches is/2.

`Scryer.Extracted.compiledTable` / `metaTable` are regenerated from /repo's source by
extract/evaltables.py on every run of the check: for every evaluable functor/arity the function of
src/machine/arithmetic_ops.rs that computes it, the order of its arguments and the operand conversions —
once as the compiler + instruction dispatch route it, once as `arith_eval_by_metacall` routes it.
`evalCompiled` / `evalMeta` (Model/ArithEval.lean) mirror the two evaluation mechanisms over such tables;
what the arithmetic_ops functions compute is the parameter `sem` (every theorem is for ALL `sem`).
-/
namespace Scryer.ArithEval
open Scryer.Extracted

/-! ### the extracted tables -/

/-- Both evaluators know the same functors with the same arities and route each of them to the same
    arithmetic_ops function with the same argument order and operand conversions (checked by the
    kernel on the tables extracted from the current source). -/
theorem C03_tables_agree : compiledTable = metaTable := rfl

/-- The tables are non-trivial (44 rows: 3 constants, 21 unary, 20 binary functors) and have one row per
    functor/arity, so `Table.find` returns THE row. -/
theorem C03_tables_shape :
    metaTable.length = 44 ∧ (metaTable.map fun r => (r.functor, r.arity)).Nodup ∧
    (metaTable.filter (·.arity == 0)).length = 3 ∧ (metaTable.filter (·.arity == 1)).length = 21 ∧
    (metaTable.filter (·.arity == 2)).length = 20 ∧ metaTable.all (fun r => r.arity ≤ 2 && r.fetch.length == r.arity) := by
  decide +kernel

/-! ### the two mechanisms -/

/-- The stack walk of the run-time evaluator (`interms`, post-order iterator) computes the
    structural recursion: operands left to right, then the functor; the first error wins. -/
theorem C03_runtime_evaluator_is_recursion (mt : Table) {V : Type} (sem : Sem V) (t : Term V) :
    evalMeta mt sem t = evalRec mt sem t := evalMeta_eq_rec mt sem t

/-- VALUES agree in every context: whenever the two tables agree (they do: `C03_tables_agree`), an
    expression written in a clause body — with any of its sub-expressions replaced by clause variables
    that are bound at run time to numbers or to unevaluated expression terms — evaluates to `v` through
    the compiled instructions iff the run-time evaluator gives `v` for the whole term. In particular
    one of them raises an error iff the other does. -/
theorem C03_values_agree (ct mt : Table) (h : ct = mt) {V : Type} (sem : Sem V) (t : Term V) (v : V) :
    evalCompiled ct mt sem t = .ok v ↔ evalMeta mt sem t = .ok v := by
  subst h
  rw [evalMeta_eq_rec]
  exact evalCompiled_spec ct sem t v

/-- ERRORS agree on expressions without clause variables (the whole expression is literal, or the
    whole expression is a run-time term): if every functor is evaluable the compiled evaluator and the
    run-time evaluator give the same value or the SAME error term. -/
theorem C03_literal_expressions_agree (ct mt : Table) (h : ct = mt) {V : Type} (sem : Sem V) (t : Term V)
    (hc : closed t = true) (hk : firstUnknown ct t = none) :
    evalCompiled ct mt sem t = evalMeta mt sem t := by
  subst h
  rw [evalMeta_eq_rec]
  unfold evalCompiled
  rw [hk, runCode_closed ct sem t hc]
  cases evalRec ct sem t <;> rfl

/-- A functor that is not evaluable: the compiled evaluator reports `type_error(evaluable, F/N)` for
    the first such functor in evaluation order, and the run-time evaluator cannot produce a value
    either (it reports that same functor unless an operation on an EARLIER sub-expression raises
    first: the compiler finds the functor before anything is evaluated). -/
theorem C03_non_evaluable (ct mt : Table) (h : ct = mt) {V : Type} (sem : Sem V) (t : Term V)
    (f : String) (n : Nat) (hu : firstUnknown ct t = some (f, n)) :
    evalCompiled ct mt sem t = .error (.evaluable f n) ∧ ∀ v, evalMeta mt sem t ≠ .ok v := by
  subst h
  have he : evalCompiled ct ct sem t = .error (.evaluable f n) := by simp [evalCompiled, hu]
  refine ⟨he, fun v hv => ?_⟩
  rw [evalMeta_eq_rec, ← evalCompiled_spec, he] at hv
  cases hv

/-- The same, instantiated with the tables extracted from the current source. -/
theorem C03_evaluators_agree {V : Type} (sem : Sem V) (t : Term V) :
    (∀ v, evalCompiled compiledTable metaTable sem t = .ok v ↔ evalMeta metaTable sem t = .ok v) ∧
    (closed t = true → firstUnknown compiledTable t = none →
      evalCompiled compiledTable metaTable sem t = evalMeta metaTable sem t) :=
  ⟨fun v => C03_values_agree _ _ C03_tables_agree sem t v,
   fun hc hk => C03_literal_expressions_agree _ _ C03_tables_agree sem t hc hk⟩

/-! ### a routing difference would be visible (the theorems are sensitive to the tables) -/

/-- a toy semantics on integers that only knows `add` and `sub`. -/
def toySem : Sem Int where
  apply := fun fn vs => match fn, vs with
    | "add", [a, b] => .ok (a + b)
    | "sub", [a, b] => .ok (a - b)
    | _, _ => .error (.op "unsupported")
  conv := fun _ v => .ok v

/-- if the compiler routed `-`/2 to `add` (or swapped the operands of `sub`) the two evaluators would
    differ on `7 - 2`: the agreement theorem really depends on the extracted rows. -/
theorem C03_sensitive_to_routing :
    let good : Table := [⟨"-", 2, "sub", [1, 2], ["number", "number"]⟩]
    let wrongFn : Table := [⟨"-", 2, "add", [1, 2], ["number", "number"]⟩]
    let swapped : Table := [⟨"-", 2, "sub", [2, 1], ["number", "number"]⟩]
    let e : Term Int := .app2 "-" (.num 7) (.num 2)
    evalMeta good toySem e = .ok 5 ∧ evalCompiled good good toySem e = .ok 5 ∧
    evalCompiled wrongFn good toySem e = .ok 9 ∧ evalCompiled swapped good toySem e = .ok (-5) := by
  refine ⟨?_, ?_, ?_, ?_⟩ <;> rfl

/-! ### non-vacuity -/

example : metaTable.find "rdiv" 2 = some ⟨"rdiv", 2, "rdiv", [1, 2], ["rational", "rational"]⟩ := by decide +kernel
example : metaTable.find "foo" 1 = none := by decide +kernel
example : firstUnknown compiledTable (.app2 "+" (.num (1 : Int)) (.app1 "foo" (.num 2))) = some ("foo", 1) := by decide +kernel
example : closed (.app2 "+" (.num (1 : Int)) (.atom "pi")) = true ∧
    firstUnknown compiledTable (.app2 "+" (.num (1 : Int)) (.atom "pi")) = none := by decide +kernel
-- a clause variable bound to an unevaluated term is evaluated on demand by the run-time evaluator
example : evalCompiled [⟨"-", 2, "sub", [1, 2], ["number", "number"]⟩] [⟨"-", 2, "sub", [1, 2], ["number", "number"]⟩]
    toySem (.app2 "-" (.bound (.app2 "-" (.num 9) (.num 1))) (.num 2)) = .ok 6 := by rfl

end Scryer.ArithEval
