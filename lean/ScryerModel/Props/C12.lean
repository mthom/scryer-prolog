import ScryerModel.Proofs.Cleanup
/-
C12 — Exceptions unwind precisely and leave the machine consistent.

The theorems are about `Scryer.Exc` (Model/Cleanup.lean): the shared reference interpreter
`Scryer.Solve` extended with observable side effects and `setup_call_cleanup/3`, and about
`Scryer.Exc.Proto`, the mirror of the machine's clean-up bookkeeping (`cont_pts`).  They hold for
every program, every goal, every nesting depth (`rec` is the interpreter one level down: any
function at all) and every fuel.  `drv_C12` runs exactly `Scryer.Exc.runTop`; vlib/props/C12.py
compares its traces with the implementation.
-/
namespace Scryer.Exc
open Scryer.Solve

/-! ## catch/3 and throw/1 -/

/-- `catch(G,C,R)` with `G` not raising a ball is `call(G)`: same side effects, same answers in the
    same order, same determinism, opaque to cut (the cut flag is `false`); `C` and `R` are not
    looked at. -/
theorem C12_catch_transparent_without_ball (rec : Term → XS → XRes) (n : Nat) (s : XS) (g c r : Term)
    (ho : (callInner rec n s g []).oof = false) (he : (callInner rec n s g []).exc = none) :
    catchRes rec n s g c r = callGoal rec n s g []
    ∧ (catchRes rec n s g c r).cut = false
    ∧ (catchRes rec n s g c r).items = joinItems s (callInner rec n s g []).items := by
  simp [catchRes, callGoal, leave, propagate, ho, he]

/-- A ball raised by `G` (after `G`'s earlier answers were delivered) that unifies with the catcher
    *under the substitution of the catch entry* `s.σ` is caught: the recovery goal runs like
    `call(R)` from `⟨σ', c'⟩`, where `σ'` is the entry substitution extended by the catcher
    unifier (so every binding `G` made before the throw is gone: `σ'` only has bindings in front of
    `s.σ`, none of them from `G`'s answers), and its result is the continuation of the trace. -/
theorem C12_catch_recovers_from_entry_substitution (rec : Term → XS → XRes) (n : Nat) (s : XS)
    (g c r ball : Term) (c' : Nat) (σ' : Subst)
    (ho : (callInner rec n s g []).oof = false)
    (he : (callInner rec n s g []).exc = some (ball, c'))
    (hu : unify n s.σ c ball = some (some σ')) :
    catchRes rec n s g c r =
      prepend (joinItems s (callInner rec n s g []).items)
        (leave (mkCall rec n) s (callInner rec n ⟨σ', c', s.det, s.pend⟩ r []))
    ∧ Extends σ' s.σ := by
  refine ⟨?_, unify_extends hu⟩
  simp [catchRes, ho, he, hu]

/-- the recovery goal starts from a state that does not depend on what `G` did before the throw:
    two goals raising the same (copied) ball lead to the same recovery run. -/
theorem C12_recovery_state_independent_of_goal (rec : Term → XS → XRes) (n : Nat) (s : XS)
    (g1 g2 c r ball : Term) (c' : Nat) (σ' : Subst)
    (ho1 : (callInner rec n s g1 []).oof = false) (ho2 : (callInner rec n s g2 []).oof = false)
    (he1 : (callInner rec n s g1 []).exc = some (ball, c'))
    (he2 : (callInner rec n s g2 []).exc = some (ball, c'))
    (hu : unify n s.σ c ball = some (some σ')) :
    ∃ rR, catchRes rec n s g1 c r = prepend (joinItems s (callInner rec n s g1 []).items) rR
        ∧ catchRes rec n s g2 c r = prepend (joinItems s (callInner rec n s g2 []).items) rR := by
  refine ⟨leave (mkCall rec n) s (callInner rec n ⟨σ', c', s.det, s.pend⟩ r []), ?_, ?_⟩
  · exact (C12_catch_recovers_from_entry_substitution rec n s g1 c r ball c' σ' ho1 he1 hu).1
  · exact (C12_catch_recovers_from_entry_substitution rec n s g2 c r ball c' σ' ho2 he2 hu).1

/-- A ball that does not unify with the catcher passes through unchanged (same ball, same copy);
    the recovery goal is not run; the clean-up handlers pending in the scope run. -/
theorem C12_catch_nonmatching_ball_propagates (rec : Term → XS → XRes) (n : Nat) (s : XS)
    (g c r ball : Term) (c' : Nat)
    (ho : (callInner rec n s g []).oof = false)
    (he : (callInner rec n s g []).exc = some (ball, c'))
    (hu : unify n s.σ c ball = some none) :
    catchRes rec n s g c r =
      propagate (mkCall rec n) s ⟨joinItems s (callInner rec n s g []).items, false, some (ball, c'), false⟩ := by
  simp [catchRes, ho, he, hu]

/-- ... and the ball of the result is the same ball. -/
theorem C12_nonmatching_ball_is_unchanged (rec : Term → XS → XRes) (n : Nat) (s : XS)
    (g c r ball : Term) (c' : Nat)
    (ho : (callInner rec n s g []).oof = false)
    (he : (callInner rec n s g []).exc = some (ball, c'))
    (hu : unify n s.σ c ball = some none)
    (hr : (catchRes rec n s g c r).oof = false) :
    (catchRes rec n s g c r).exc = some (ball, c') := by
  rw [C12_catch_nonmatching_ball_propagates rec n s g c r ball c' ho he hu] at hr ⊢
  exact propagate_exc hr

/-- Innermost catcher first: when the inner of two nested `catch/3` catches the ball and its recovery
    goal raises nothing, the outer `catch/3` never sees a ball — its catcher is not consulted and its
    recovery goal does not run, whatever they are.  (`inner` stands for the inner catch goal; `he` says
    that, run as the goal of the outer one, it raises nothing. The statement uses nothing else of
    `inner`: it is `C12_catch_transparent_without_ball` twice.) -/
theorem C12_innermost_catcher_first (rec : Term → XS → XRes) (n : Nat) (s : XS)
    (inner c2 r2 c2' r2' : Term)
    (ho : (callInner rec n s inner []).oof = false) (he : (callInner rec n s inner []).exc = none) :
    catchRes rec n s inner c2 r2 = catchRes rec n s inner c2' r2' := by
  rw [(C12_catch_transparent_without_ball rec n s inner c2 r2 ho he).1,
      (C12_catch_transparent_without_ball rec n s inner c2' r2' ho he).1]

/-- A caught ball is gone: the result of a catch/3 whose catcher matched has exactly the ball of the
    recovery goal (if any), so an enclosing catch/3 only sees what the recovery raised (re-throw). -/
theorem C12_caught_ball_replaced_by_recovery_ball (rec : Term → XS → XRes) (n : Nat) (s : XS)
    (g c r ball : Term) (c' : Nat) (σ' : Subst)
    (ho : (callInner rec n s g []).oof = false)
    (he : (callInner rec n s g []).exc = some (ball, c'))
    (hu : unify n s.σ c ball = some (some σ'))
    (hr : (catchRes rec n s g c r).oof = false) :
    (catchRes rec n s g c r).exc = (callInner rec n ⟨σ', c', s.det, s.pend⟩ r []).exc := by
  rw [(C12_catch_recovers_from_entry_substitution rec n s g c r ball c' σ' ho he hu).1] at hr ⊢
  obtain ⟨h1, h2⟩ := prepend_eq hr
  rw [h2]
  exact leave_exc h1

/-- `throw(B)` raises a *copy* of `B`: resolved under the thrower's substitution and renamed apart
    with the branch counter, so later bindings of the variables of `B` (or their unbinding by the
    unwinding) do not affect the ball. -/
theorem C12_throw_copies_ball (n : Nat) (s : XS) (b b' : Term) (hr : resolve n s.σ b = some b')
    (hv : ∀ v, b' ≠ .var v) :
    throwX n s b = XRes.throw (rename (sfx s.ctr) b', s.ctr + 1) := by
  cases b' with
  | var v => exact absurd rfl (hv v)
  | _ => simp [throwX, hr]

/-- `throw(_)` with an unbound argument is an instantiation error. -/
theorem C12_throw_unbound (n : Nat) (s : XS) (b : Term) (v : String)
    (hr : resolve n s.σ b = some (.var v)) :
    throwX n s b = raiseX n s.σ s.ctr (mkError instErr) := by
  simp [throwX, hr]

/-! ## errors raised by builtins are `error(Formal, Context)` terms -/

theorem renameList_length (sf : String) : ∀ (as : List Term), (renameList sf as).length = as.length := by
  intro as
  induction as with
  | nil => rfl
  | cons a as ih => simp [renameList, ih]

theorem resolveList_length : ∀ (n : Nat) (σ : Subst) (as bs : List Term),
    resolveList n σ as = some bs → bs.length = as.length := by
  intro n
  induction n with
  | zero => intro σ as bs h; simp [resolveList] at h
  | succ n ih =>
    intro σ as bs h
    cases as with
    | nil => simp [resolveList] at h; subst h; rfl
    | cons a as =>
      simp only [resolveList] at h
      split at h
      · cases h
      · split at h
        · cases h
        · rename_i as' h2
          cases h
          simp [ih σ as as' h2]

/-- every ball raised for a builtin error (type, instantiation, evaluation, existence, domain
    errors of the builtins, of `call/N`, of arithmetic, of unknown procedures) has the shape
    `error(Formal, Context)`. -/
theorem C12_builtin_errors_are_error_terms (n : Nat) (σ : Subst) (ctr : Nat) (formal : Term)
    (b : Term) (c' : Nat) (h : (raiseX n σ ctr (mkError formal)).exc = some (b, c')) :
    ∃ f ctx, b = .str "error" [f, ctx] := by
  simp only [raiseX, mkError] at h
  cases n with
  | zero => simp [resolve, XRes.oofR] at h
  | succ n =>
    simp only [resolve] at h
    cases hl : resolveList n σ [formal, ctxAtom] with
    | none => simp [hl, XRes.oofR] at h
    | some as =>
      have hlen := resolveList_length n σ _ as hl
      rw [hl] at h
      simp [XRes.throw, rename] at h
      obtain ⟨hb, _⟩ := h
      match as, hlen with
      | [x, y], _ => exact ⟨rename (sfx ctr) x, rename (sfx ctr) y, by rw [← hb]; simp [renameList]⟩

/-! ## setup_call_cleanup/3 in the interpreter -/

/-- whatever the goal of a `setup_call_cleanup/3` does — exits deterministically, exits leaving choice
    points any number of times and is then exhausted, fails, raises a ball after any number of
    answers — one complete traversal of its trace runs the handler exactly once (`items` is the
    goal's trace, `e` its final ball; handler and goal record no clean-up of their own). -/
theorem C12_cleanup_runs_exactly_once_per_traversal (call : Call) (s : XS) (p : Pending) :
    ∀ (items : List Item) (e : Option (Term × Nat)),
    Quiet call p.goal → cls items = 0 → (sccLoop call s p items e).oof = false →
    cls (sccLoop call s p items e).items = 1 := by
  intro items e hq hc ho
  fun_induction sccLoop call s p items e with
  -- the handler runs out of fuel
  | case1 | case3 | case5 => cases ho
  -- end of the trace (goal exhausted / goal raised a ball): the handler runs from the set-up state
  | case2 o | case4 _ o => simp [o, hq p.σ0 p.ctr0]
  -- deterministic exit (handler raises / does not): it runs now and the traversal ends
  | case6 a _ _ _ o | case7 a _ _ _ o => simp [o, hq a.σ a.ctr]
  -- non-deterministic exit, `ev`, `su`: passed on in front of the rest of the traversal
  | case8 _ rest e _ ih | case9 _ rest e ih | case10 rest e ih =>
    obtain ⟨h1, h2⟩ := prepend_eq ho
    rw [h2, cls_append, ih hc h1]; rfl
  -- a `cl` item: excluded by `hc`
  | case11 => simp at hc

/-- an exit that leaves choice points does not run the handler: it hands it to whoever prunes or
    unwinds past the goal (newest handlers first: those of the goal itself, then this one, then the
    ones already pending in the scope), and the traversal goes on. -/
theorem C12_nondeterministic_exit_hands_over_handler (call : Call) (s : XS) (p : Pending) (a : XS)
    (rest : List Item) (e : Option (Term × Nat)) (hd : a.det = false) :
    sccLoop call s p (.ans a :: rest) e
      = prepend [.ans ⟨a.σ, a.ctr, false, a.pend ++ p :: s.pend⟩] (sccLoop call s p rest e) := by
  simp [sccLoop, hd]

/-- a deterministic exit runs the handler at once, keeps its bindings (or the goal's, if the handler
    fails), does not keep the handler pending, and ends the traversal: nothing that follows in the
    goal's trace is looked at. -/
theorem C12_deterministic_exit_runs_handler_now (call : Call) (s : XS) (p : Pending) (a : XS)
    (rest rest' : List Item) (e e' : Option (Term × Nat)) (hd : a.det = true) :
    sccLoop call s p (.ans a :: rest) e = sccLoop call s p (.ans a :: rest') e'
    ∧ ((runClean call a.σ a.ctr p.goal).oof = false → (runClean call a.σ a.ctr p.goal).exc = none →
        (sccLoop call s p (.ans a :: rest) e).items =
          .cl .exit :: (runClean call a.σ a.ctr p.goal).items ++
            [.ans ⟨((runClean call a.σ a.ctr p.goal).st.getD (a.σ, a.ctr)).1,
                   ((runClean call a.σ a.ctr p.goal).st.getD (a.σ, a.ctr)).2, s.det, a.pend ++ s.pend⟩]) := by
  constructor
  · simp [sccLoop, hd]
  · intro h1 h2
    simp [sccLoop, hd, h1, h2]

/-- failure of the goal: the handler runs from the state after the set-up goal; a ball of the goal:
    the same, and the ball is re-raised whatever the handler does. -/
theorem C12_failure_and_ball_run_handler_from_setup_state (call : Call) (s : XS) (p : Pending)
    (e : Term × Nat) (h : (runClean call p.σ0 p.ctr0 p.goal).oof = false) :
    sccLoop call s p [] none
      = ⟨.cl .fail :: (runClean call p.σ0 p.ctr0 p.goal).items, false,
          (runClean call p.σ0 p.ctr0 p.goal).exc, false⟩
    ∧ sccLoop call s p [] (some e)
      = ⟨.cl .exc :: (runClean call p.σ0 p.ctr0 p.goal).items, false, some e, false⟩ := by
  simp [sccLoop, h]

/-- a cut runs every handler pending in its cut scope exactly once (newest first) and leaves none
    pending; afterwards the scope is deterministic. -/
theorem C12_cut_runs_pending_handlers_once (call : Call) (s : XS)
    (hq : ∀ p ∈ s.pend, Quiet call p.goal) (ho : (cutRes call s).oof = false) :
    cls (cutRes call s).items = s.pend.length
    ∧ ∃ σ' c', answersOf (cutRes call s).items = [⟨σ', c', true, []⟩] := by
  unfold cutRes at ho ⊢
  obtain ⟨h1, h2⟩ := of_oof_false ho
  rw [h2]
  refine ⟨by simp [fireCut_cls call s.pend s.σ s.ctr hq h1],
    (fireCut call s.pend s.σ s.ctr).σ, (fireCut call s.pend s.σ s.ctr).ctr, ?_⟩
  simp [answersOf_append, fireCut_no_answers, answersOf]

/-- a ball leaving a cut scope runs every handler pending in that scope exactly once. -/
theorem C12_ball_runs_pending_handlers_once (call : Call) (s : XS) (r : XRes) (e : Term × Nat)
    (hq : ∀ p ∈ s.pend, Quiet call p.goal) (he : r.exc = some e)
    (ho : (propagate call s r).oof = false) :
    cls (propagate call s r).items = cls r.items + s.pend.length
    ∧ (propagate call s r).exc = some e := by
  unfold propagate at ho ⊢
  obtain ⟨_, h2⟩ := of_oof_false ho
  rw [h2] at ho ⊢
  simp only [he] at ho ⊢
  cases hf : fireExc call s.pend with
  | none => simp [hf, XRes.oofR] at ho
  | some its => simp [fireExc_cls call s.pend its hq hf]

/-! ## the machine's clean-up bookkeeping (`cont_pts`, `b_cutoff`, `run_cleaners`) -/

open Proto in
/-- For every sequence of operations (choice point pushes and pops, installations of handlers with
    distinct ids, exits, cuts to any level, failures into the helper's choice point, unwinding to any
    block): every installed handler is either still pending or has run, never both, and never ran
    twice; nothing else ever runs. -/
theorem C12_every_handler_runs_at_most_once_and_is_never_lost (ops : List Op)
    (hn : (installs ops).Nodup) (x : Nat) :
    ((run init ops).ran ++ ids (run init ops).cont).count x = if x ∈ installs ops then 1 else 0 := by
  rw [(run_log ops init).count_eq x]
  simpa [init, ids] using hn.count

open Proto in
/-- ... and an installed handler that is not pending has run (by the previous theorem: exactly once).
    `hgone` and `hid` together say that no entry of `cont` carries `id`; `cutoff` plays no part. In the
    machine the entry leaves `cont` when the choice point of its `scc_helper` goal (`/3` in the pinned source) goes — by a
    deterministic exit, a cut from outside, exhaustion, or a ball unwinding past it (`Proto.step`). -/
theorem C12_handler_has_run_once_its_choice_point_is_gone (ops : List Op)
    (hn : (installs ops).Nodup) (id cutoff : Nat) (hi : id ∈ installs ops)
    (hgone : (id, cutoff) ∈ (run init ops).cont → False) (hid : ∀ c, (id, c) ∈ (run init ops).cont → c = cutoff) :
    (run init ops).ran.count id = 1 := by
  have h := C12_every_handler_runs_at_most_once_and_is_never_lost ops hn id
  simp only [hi, if_true, List.count_append] at h
  have : (ids (run init ops).cont).count id = 0 := by
    apply List.count_eq_zero_of_not_mem
    intro hm
    simp only [ids, List.mem_map] at hm
    obtain ⟨⟨i, c⟩, hm, rfl⟩ := hm
    exact hgone (by rw [← hid c hm]; exact hm)
  omega

open Proto in
/-- the pending entries always belong to live choice points (`Live`, from which this is read off,
    also has them in stack order). -/
theorem C12_pending_handlers_have_live_choice_points (ops : List Op) :
    ∀ p ∈ (run init ops).cont, 1 ≤ p.2 ∧ p.2 ≤ (run init ops).b :=
  (run_live ops init trivial).mem

open Proto in
/-- A cut (or a ball unwinding) to choice point level `k` runs only handlers whose `scc_helper/3`
    choice point has just been removed (`k < b_cutoff`), never the handler of a goal that is still
    running — for instance the enclosing `setup_call_cleanup/3` of a goal that prunes an inner one. -/
theorem C12_cut_runs_only_handlers_of_removed_choice_points (k : Nat) (c : List (Nat × Nat)) :
    ∃ ranEntries, (runCleaners k c).2 = ranEntries.map Prod.fst ∧ c = ranEntries ++ (runCleaners k c).1
      ∧ ∀ p ∈ ranEntries, k < p.2 := by
  rw [runCleaners_eq]
  refine ⟨_, rfl, List.takeWhile_append_dropWhile.symm, fun p hp => ?_⟩
  simpa using List.all_eq_true.mp List.all_takeWhile p hp

open Proto in
/-- Finding C12-2: the pinned loop (`<` to start, `<=` to continue) also runs handler 1, whose
    choice point (level 1) is still the top of the stack after the cut to level 1 — the handler of the
    still running outer goal in
    `setup_call_cleanup(true, (setup_call_cleanup(true,(X=1;X=2),ev(ci)) -> ev(then) ; true), ev(co))`;
    the repaired loop runs handler 2 only. -/
example : (runCleanersPinned 1 [(2, 2), (1, 1)]).2 = [2, 1] ∧ (runCleaners 1 [(2, 2), (1, 1)]).2 = [2] := by
  decide

/-! ## non-vacuity: the outcomes of the statement on the bookkeeping machine -/

open Proto in
/-- deterministic exit -/
example : (run init [.install 7, .exit]).ran = [7] ∧ (run init [.install 7, .exit]).cont = [] := by decide +kernel
open Proto in
/-- failure -/
example : (run init [.install 7, .push, .pop, .failInto]).ran = [7] := by decide +kernel
open Proto in
/-- exception (unwinding to the block below) -/
example : (run init [.push, .install 7, .push, .unwind 1]).ran = [7] := by decide +kernel
open Proto in
/-- non-deterministic exit, then a cut from outside -/
example : (run init [.push, .install 7, .push, .exit, .cut 1]).ran = [7]
    ∧ (run init [.push, .install 7, .push, .exit]).ran = [] := by decide +kernel
open Proto in
/-- non-deterministic exit, then exhaustion -/
example : (run init [.install 7, .push, .exit, .pop, .failInto]).ran = [7] := by decide +kernel
open Proto in
/-- nested: the inner handler runs before the outer one -/
example : (run init [.install 1, .install 2, .push, .exit, .cut 0]).ran = [2, 1] := by decide +kernel
open Proto in
/-- a cut *to* the helper's own choice point (the goal is still running) runs nothing -/
example : (run init [.install 7, .push, .cut 1]).ran = [] := by decide +kernel

/-! ## non-vacuity: the interpreter on concrete nested goals -/

mutual
/-- prefix token list of a term (only used to compare concrete traces by `decide`) -/
def toks : Term → List String
  | .var v => ["?" ++ v]
  | .int v => [if v < 0 then "-" ++ toString v.natAbs else toString v.natAbs]
  | .atom a => [a]
  | .str f args => (f ++ "/") :: toksList args
  | _ => ["#"]
def toksList : List Term → List String
  | [] => ["."]
  | t :: ts => toks t ++ toksList ts
end

def evsOf (r : XRes) : List (List String) := r.items.filterMap fun | .ev t => some (toks t) | _ => none
def mksOf (r : XRes) : List (Option CK) :=
  r.items.filterMap fun | .su => some none | .cl k => some (some k) | _ => none
private def ev' (t : Term) : Term := .str "ev" [t]
private def cj (a b : Term) : Term := .str "," [a, b]
private def dj (a b : Term) : Term := .str ";" [a, b]
private def eq' (a b : Term) : Term := .str "=" [a, b]
private def x12 : Term := dj (eq' (.var "X") (.int 1)) (eq' (.var "X") (.int 2))

/-- `catch((X = 1, throw(b(X,Y))), b(P,Q), ev(r(P,X)))`: the ball carries the binding of `X` (copy
    made at the throw), the recovery goal sees `X` unbound again. The hypotheses of
    `C12_catch_recovers_from_entry_substitution` hold for this goal. -/
example :
    let g := cj (eq' (.var "X") (.int 1)) (.str "throw" [.str "b" [.var "X", .var "Y"]])
    let c : Term := .str "b" [.var "P", .var "Q"]
    let s : XS := ⟨[], 0, true, []⟩
    (callInner (solve 12 []) 12 s g []).oof = false
    ∧ (match (callInner (solve 12 []) 12 s g []).exc with
        | some (ball, _) => (match unify 12 s.σ c ball with | some (some _) => true | _ => false)
        | none => false) = true
    ∧ evsOf (runTop 14 [] (.str "catch" [g, c, ev' (.str "r" [.var "P", .var "X"])]))
        = [["r/", "1", "?X", "."]] := by decide +kernel

/-- innermost matching catcher: the inner catcher `b` does not match `a`, the outer one does. -/
example :
    evsOf (runTop 14 [] (.str "catch" [.str "catch" [.str "throw" [.atom "a"], .atom "b", ev' (.atom "wrong")],
        .atom "a", ev' (.atom "outer")])) = [["outer"]] := by decide +kernel

/-- `setup_call_cleanup(ev(s), (X=1;X=2), ev(c(X))), ev(got(X)), !`: non-deterministic exit, the cut runs
    the handler (kind `cut`) with the current binding of `X`. -/
example :
    let g := cj (.str "setup_call_cleanup" [ev' (.atom "s"), x12, ev' (.str "c" [.var "X"])])
                (cj (ev' (.str "got" [.var "X"])) (.atom "!"))
    evsOf (runTop 14 [] g) = [["s"], ["got/", "1", "."], ["c/", "1", "."]]
    ∧ mksOf (runTop 14 [] g) = [none, some .cut] := by decide +kernel

/-- a ball passing a non-deterministically exited goal runs its handler (kind `exc`, bindings of the
    goal already undone), then the catcher gets the ball. -/
example :
    let g : Term := .str "catch" [cj (.str "setup_call_cleanup" [.atom "true", x12, ev' (.str "c" [.var "X"])])
                                     (.str "throw" [.atom "k"]), .atom "k", ev' (.atom "r")]
    evsOf (runTop 20 [] g) = [["c/", "?X", "."], ["r"]]
    ∧ mksOf (runTop 20 [] g) = [none, some .exc] := by decide +kernel

/-- deterministic exit (second answer of the goal) and exhaustion. -/
example :
    let g := cj (.str "setup_call_cleanup" [.atom "true", x12, ev' (.atom "c")]) (cj (ev' (.str "got" [.var "X"])) (.atom "fail"))
    evsOf (runTop 20 [] g) = [["got/", "1", "."], ["c"], ["got/", "2", "."]]
    ∧ mksOf (runTop 20 [] g) = [none, some .exit]
    ∧ mksOf (runTop 20 [] (.str "setup_call_cleanup" [.atom "true", .atom "fail", ev' (.atom "c")])) = [none, some .fail] := by
  decide +kernel

end Scryer.Exc
