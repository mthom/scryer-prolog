import ScryerModel.Proofs.Atoms
import ScryerModel.Proofs.Utf8
/-!
# C21 — Atom identity is text identity

`Model/Atoms.lean` mirrors the representation decision and the encodings of src/atom_table.rs
(`AtomTable::build_with`, `AtomCell::new_inlined`, `inlined_to_str`, `Atom::as_str`,
`AtomCell::new_char_inlined`) and of build/static_string_indexing.rs (`static_string_index`).
Atoms are compared by their 64-bit index (`#[derive(PartialEq)] struct Atom { index }`), so "two
atoms are identical iff their texts are equal" is: the index computed for a text is a function of
the text only, injective, and decodes back to the text — across the inlined, static and dynamic
representations, for every sequence of insertions. The ordering part of the statement (atoms
order by code points = byte order of UTF-8) is theorem `C13_atom` of C13.
-/
namespace Scryer.Atoms

/-- which texts are inlined (the same expression in atom_table.rs and in the build script). -/
theorem C21_inline_decision (s : Bytes) :
    inlineable s = true ↔ s ≠ [] ∧ s.length ≤ 6 ∧ 0 ∉ s := inlineable_iff s

theorem packLE_lt (s : Bytes) (h : BytesOk s) : packLE s < 256 ^ s.length := by
  induction s with
  | nil => simp [packLE]
  | cons b r ih =>
    have hb : b < 256 := h b (by simp)
    have := ih (fun x hx => h x (by simp [hx]))
    simp only [packLE, List.length_cons, Nat.pow_succ]
    omega

/-- the packed text of an inlined atom fits the 48-bit name field of `AtomCell` (nothing is cut
    off by `with_name`), and the index is odd (`is_inlined`). -/
theorem C21_inline_fits (s : Bytes) (hs : BytesOk s) (hi : inlineable s = true) :
    packLE s < 2 ^ 48 ∧ inlineIndex s % 2 = 1 ∧ inlineIndex s / 2 = packLE s := by
  obtain ⟨_, hl, _⟩ := (inlineable_iff s).1 hi
  have h2 : 256 ^ s.length ≤ 2 ^ 48 := Nat.pow_le_pow_right (by decide) hl
  exact ⟨Nat.lt_of_lt_of_le (packLE_lt s hs) h2, inlineIndex_mod s, inlineIndex_div s⟩

/-- decode ∘ encode = id for inlined atoms (`inlined_to_str` after `new_inlined`), whatever
    multi-byte characters the text is made of. -/
theorem C21_inline_roundtrip (s : Bytes) (hs : BytesOk s) (hi : inlineable s = true) :
    inlinedToStr (inlineIndex s / 2) = s := by
  rw [(C21_inline_fits s hs hi).2.2]
  exact inlinedToStr_pack s hs hi

/-- the inline encoding is injective on inlineable texts. -/
theorem C21_inline_injective (s₁ s₂ : Bytes) (h₁ : BytesOk s₁) (h₂ : BytesOk s₂)
    (i₁ : inlineable s₁ = true) (i₂ : inlineable s₂ = true)
    (e : inlineIndex s₁ = inlineIndex s₂) : s₁ = s₂ := by
  rw [← C21_inline_roundtrip s₁ h₁ i₁, ← C21_inline_roundtrip s₂ h₂ i₂, e]

/-- why a text with a NUL byte must not be inlined: packing cannot tell `"a\0"` from `"a"`, and
    decoding stops at the first zero byte. -/
theorem C21_nul_not_inlineable :
    (∀ s : Bytes, 0 ∈ s → inlineable s = false) ∧
    packLE [97, 0] = packLE [97] ∧ inlinedToStr (packLE [97, 0, 98]) = [97] := by
  refine ⟨?_, by decide, by decide⟩
  intro s h
  cases hs : inlineable s with
  | false => rfl
  | true => exact absurd h ((inlineable_iff s).1 hs).2.2

/-- every insertion keeps the invariant "no text is stored twice, no inlineable text is stored in
    a table, offsets are fresh" — for one insertion and for every sequence of insertions. -/
theorem C21_invariant_kept (t : Table) (h : Inv t) :
    (∀ s, Inv (intern t s).1) ∧ (∀ l, Inv (internAll t l).1) := by
  refine ⟨fun s => intern_inv t s h, fun l => ?_⟩
  induction l generalizing t with
  | nil => exact h
  | cons s r ih => exact ih _ (intern_inv t s h)

/-- decode ∘ encode = id across the three representations: the index returned by `build_with`
    reads back (`as_str`) as the text. -/
theorem C21_text_of_intern (t : Table) (s : Bytes) (h : Inv t) (hs : BytesOk s) :
    text (intern t s).1 (intern t s).2 = some s := (intern_rep t s).2 h hs

/-- interning the same text again returns the same index and leaves the table unchanged. -/
theorem C21_intern_idempotent (t : Table) (s : Bytes) (h : Inv t) (hs : BytesOk s) :
    intern (intern t s).1 s = ((intern t s).1, (intern t s).2) := (intern_rep t s).1

/-- an atom created earlier keeps index and text when any other text is interned afterwards
    (the table only grows; `grow_new` keeps offsets). -/
theorem C21_stable (t : Table) (s : Bytes) (i : Nat) (l : List Bytes)
    (hr : intern t s = (t, i) ∧ text t i = some s) :
    intern (internAll t l).1 s = ((internAll t l).1, i) ∧ text (internAll t l).1 i = some s :=
  rep_mono_all t l s i hr

/-- **atom identity is text identity**: intern any sequence of texts (inlineable, static and new
    ones in any order, with repetitions) starting from a table that satisfies the invariant; two of
    the returned indices are equal iff the two texts are equal. -/
theorem C21_index_eq_iff_text_eq (t : Table) (l : List Bytes) (h : Inv t) (hl : ∀ s ∈ l, BytesOk s)
    (s₁ s₂ : Bytes) (i₁ i₂ : Nat)
    (m₁ : (s₁, i₁) ∈ l.zip (internAll t l).2) (m₂ : (s₂, i₂) ∈ l.zip (internAll t l).2) :
    i₁ = i₂ ↔ s₁ = s₂ := by
  have r₁ := internAll_rep t l h hl _ m₁
  have r₂ := internAll_rep t l h hl _ m₂
  constructor
  · intro e
    subst e
    have := r₁.2.symm.trans r₂.2
    simpa using this
  · intro e
    subst e
    have := r₁.1.symm.trans r₂.1
    simpa using this

/-- every text of the sequence gets an index (the two lists have the same length). -/
theorem C21_internAll_length (t : Table) (l : List Bytes) (h : Inv t) (hl : ∀ s ∈ l, BytesOk s) :
    (internAll t l).2.length = l.length := internAll_length t l

/-- UTF-8 encodings of a non-NUL character: 1–4 bytes, none of them zero — always inlineable. -/
theorem utf8_inlineable (cp : Nat) (h0 : 0 < cp) : inlineable (Scryer.Utf8.encode cp) = true :=
  (inlineable_iff _).2 ⟨Utf8.encode_ne_nil cp,
    Nat.le_trans (Utf8.encode_length cp ▸ (Utf8.lenUtf8_le cp).2) (by decide),
    fun h => Utf8.encode_ne_zero (Nat.ne_of_gt h0) 0 h rfl⟩

/-- the character route (`AtomCell::new_char_inlined`: `unify_char`, char_code/2, get_char/1, the
    elements of strings) builds the same index as `build_with` for the one-character text:
    inlined without a table for every character but NUL, the static atom `"\0"` for NUL. -/
theorem C21_char_route_agrees (t : Table) (nul : Nat) (hn : findStatic t.statics [0] 0 = some nul) :
    (∀ cp, 0 < cp → cp < 0x110000 →
      (intern t (Scryer.Utf8.encode cp)) = (t, charIndex nul (Scryer.Utf8.encode cp))) ∧
    intern t [0] = (t, charIndex nul [0]) := by
  refine ⟨?_, ?_⟩
  · intro cp h0 h
    have hi := utf8_inlineable cp h0
    have hne : Scryer.Utf8.encode cp ≠ [0] := fun e => by rw [e] at hi; cases hi
    rw [intern_inline hi, charIndex, if_neg hne]
  · exact intern_static (by decide) hn

/-! ## non-vacuity -/

/-- a table as the build script makes it: "" and "\0" and the long names are static. -/
def demo : Table := { statics := [[], [0], [97, 98, 99, 100, 101, 102, 103]], dyn := [], next := 0 }

example : Inv demo := by
  -- `demo.dyn = []`: the three fields that quantify over it hold vacuously
  refine ⟨by decide, by decide, ?_, ?_, by decide, ?_, by decide⟩ <;> intro p hp <;> simp [demo] at hp

-- "[]" (2 bytes) inlined; "" static 0; "\0" static 1; "abcdefg" (7 bytes) static 2; a new 7-byte
-- text and a 2-char text with a 4-byte and a 3-byte character (7 bytes) go to the dynamic part;
-- "é€" (5 bytes) is inlined; repeated texts get their first index.
example : (internAll demo [[91, 93], [], [0], [97, 98, 99, 100, 101, 102, 103],
    [97, 98, 99, 100, 101, 102, 104], [0xF0, 0x9F, 0x98, 0x80, 0xE2, 0x82, 0xAC], [0xC3, 0xA9, 0xE2, 0x82, 0xAC],
    [97, 98, 99, 100, 101, 102, 104], [91, 93], [97, 0]]).2
    = [47799, 0, 2, 4, 6, 38, 1481860535175, 6, 47799, 70] := by decide +kernel

end Scryer.Atoms
