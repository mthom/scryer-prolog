import ScryerModel.Proofs.NumCmp
import ScryerModel.Extracted.CmpInstrs
/-
C04 — Arithmetic comparison is exact and self-consistent.

`cmpNum` / `eqNum` mirror the 16 arms of `impl Ord for Number` / `impl PartialEq for Number`
(src/arithmetic.rs) with correctly rounded conversions to `f64`; `holds op a b` is what the comparison
instruction for `op` does with `n1.cmp(&n2)` (src/machine/dispatch.rs). `cmpSpec` is the statement's rule.
Functions are total: no comparison of two numbers raises an error (a value beyond the double range
converts to ±∞ and is compared as such).
-/
namespace Scryer.NumCmp
open Scryer.F64

-- `C04_range_edges` evaluates `2^2000` and `2^1075`
set_option exponentiation.threshold 3000

/-! ### agreement with the comparison of values -/

/-- The 16 representation arms compute the rule of the statement, for all numbers. -/
theorem C04_cmp_is_spec (a b : Number) : cmpNum a b = cmpSpec a b := by
  -- integer against integer: the code compares the integers, the rule the fractions `a/1` and `b/1`
  cases a <;> cases b <;> first | rfl | exact (fracCmp_int _ _).symm

/-- Between integers (fixnum or bignum, any size) and rationals the comparison is the exact order of
    their rational values. -/
theorem C04_exact_between_integers_and_rationals (a b : Number) (ha : a.wf) (hb : b.wf)
    (fa : a.isFloat = false) (fb : b.isFloat = false) :
    cmpNum a b = compare (valQ a) (valQ b) := by
  rw [C04_cmp_is_spec]
  unfold cmpSpec
  rw [fa, fb, if_neg (by decide), XVal.cmp_fin _ _ (valX_wf a ha) (valX_wf b hb) (valX_isFin a fa)
    (valX_isFin b fb), valX_toQ, valX_toQ]

/-- When one side is a float, the other side is converted to the nearest double (`F64.rne`, ties to
    even, beyond the range: ±∞) and the two doubles are compared. -/
theorem C04_float_rule (a b : Number) (h : a.isFloat = true ∨ b.isFloat = true) :
    cmpNum a b = F64.cmp (toF64 a) (toF64 b) := by
  rw [C04_cmp_is_spec]
  rcases h with h | h <;> simp [cmpSpec, h]

/-- Comparing two finite doubles is comparing their rational values … -/
theorem C04_float_cmp_is_value_cmp (x y : F64) (hx : isFinite x = true) (hy : isFinite y = true) :
    F64.cmp x y = compare (toQ x) (toQ y) :=
  XVal.cmp_fin _ _ (toX_wf x) (toX_wf y) (toX_isFin x hx) (toX_isFin y hy)

/-- … and the rational value of a finite double is the IEEE-754 one:
    `(-1)^sign · significand · 2^exponent` (hidden bit and exponent `field − 1075` for normal numbers,
    no hidden bit and exponent −1074 for subnormals and zero). -/
theorem C04_float_value (f : F64) (h : isFinite f = true) :
    toQ f = (if signBit f = 1 then -1 else 1) * ((sigExp f).1 : ℚ) * (2:ℚ) ^ (sigExp f).2 := by
  have h' : expField f ≠ 2047 := by simpa [isFinite] using h
  unfold toQ toX
  rw [if_neg h']
  generalize sigExp f = p
  obtain ⟨m, s⟩ := p
  simp only [dyadic]
  by_cases hs : s ≥ 0
  · obtain ⟨k, rfl⟩ := Int.eq_ofNat_of_zero_le hs
    by_cases hsg : signBit f = 1 <;> simp [hsg, XVal.toQ, hs]
  · have hs' : s < 0 := not_le.mp hs
    obtain ⟨k, hk⟩ := Int.exists_eq_neg_ofNat (le_of_lt hs')
    subst hk
    have hk0 : k ≠ 0 := by omega
    by_cases hsg : signBit f = 1 <;> simp [hsg, XVal.toQ, hk0, div_eq_mul_inv]

/-- `-0.0` and `+0.0` compare equal; NaN (not producible by the evaluator, but a value of the type)
    equals NaN and is above everything, as `OrderedFloat` defines. -/
theorem C04_zero_and_nan :
    F64.cmp negZero posZero = .eq ∧ (∀ x, isNaN x = true → ∀ y, isNaN y = true → F64.cmp x y = .eq) ∧
    (∀ x, isNaN x = true → ∀ y, isNaN y = false → F64.cmp x y = .gt) :=
  ⟨by decide, fun x hx y hy => by rw [cmp_nan hx, hy]; rfl,
    fun x hx y hy => by rw [cmp_nan hx, hy]; rfl⟩

/-- An integer is compared the same whether it is held as a fixnum or as a bignum. -/
theorem C04_representation_independent (v : Int) (x : Number) :
    cmpNum (.fix v) x = cmpNum (.big v) x ∧ cmpNum x (.fix v) = cmpNum x (.big v) := by
  constructor <;> cases x <;> rfl

/-! ### the six predicates -/

/-- Each predicate is the corresponding Boolean function of the specification's ordering. -/
theorem C04_six_predicates (a b : Number) :
    (holds .lt a b = true ↔ cmpSpec a b = .lt) ∧
    (holds .le a b = true ↔ cmpSpec a b ≠ .gt) ∧
    (holds .gt a b = true ↔ cmpSpec a b = .gt) ∧
    (holds .ge a b = true ↔ cmpSpec a b ≠ .lt) ∧
    (holds .eq a b = true ↔ cmpSpec a b = .eq) ∧
    (holds .ne a b = true ↔ cmpSpec a b ≠ .eq) := by
  simp only [holds, holdsWith, ← C04_cmp_is_spec, show cmpWith Conv.exact = cmpNum from rfl]
  cases cmpNum a b <;> decide

/-- Trichotomy: exactly one of `<`, `=:=`, `>` holds (for every pair of numbers and whatever the
    conversion functions are). -/
theorem C04_trichotomy (c : Conv) (a b : Number) :
    (holdsWith c .lt a b = true ∧ holdsWith c .eq a b = false ∧ holdsWith c .gt a b = false) ∨
    (holdsWith c .lt a b = false ∧ holdsWith c .eq a b = true ∧ holdsWith c .gt a b = false) ∨
    (holdsWith c .lt a b = false ∧ holdsWith c .eq a b = false ∧ holdsWith c .gt a b = true) := by
  simp only [holdsWith]; cases cmpWith c a b <;> decide

/-- The six predicates agree with each other. -/
theorem C04_predicates_consistent (c : Conv) (a b : Number) :
    holdsWith c .le a b = (holdsWith c .lt a b || holdsWith c .eq a b) ∧
    holdsWith c .ge a b = (holdsWith c .gt a b || holdsWith c .eq a b) ∧
    holdsWith c .ne a b = !holdsWith c .eq a b ∧
    holdsWith c .ne a b = (holdsWith c .lt a b || holdsWith c .gt a b) ∧
    holdsWith c .le a b = !holdsWith c .gt a b ∧
    holdsWith c .ge a b = !holdsWith c .lt a b := by
  simp only [holdsWith]; cases cmpWith c a b <;> decide

/-- Swapping the arguments mirrors the predicate: `a < b ↔ b > a`, `a =< b ↔ b >= a`, `=:=` and
    `=\=` are symmetric. -/
theorem C04_symmetry (c : Conv) (a b : Number) :
    holdsWith c .lt a b = holdsWith c .gt b a ∧ holdsWith c .le a b = holdsWith c .ge b a ∧
    holdsWith c .eq a b = holdsWith c .eq b a ∧ holdsWith c .ne a b = holdsWith c .ne b a := by
  simp only [holdsWith, cmpWith_swap c a b]; cases cmpWith c b a <;> decide

/-- Antisymmetry: `a =< b` and `b =< a` give `a =:= b`; `a < b` excludes `b < a`. -/
theorem C04_antisymmetry (c : Conv) (a b : Number) :
    (holdsWith c .le a b = true → holdsWith c .le b a = true → holdsWith c .eq a b = true) ∧
    (holdsWith c .lt a b = true → holdsWith c .lt b a = false) := by
  simp only [holdsWith, cmpWith_swap c a b]; cases cmpWith c b a <;> decide

/-- `PartialEq for Number` (used by `==`-like consumers) agrees with `Ord for Number` giving `Equal`,
    in all 16 arms. -/
theorem C04_eq_arm_agrees (c : Conv) (a b : Number) : eqWith c a b = holdsWith c .eq a b := by
  show _ = (cmpWith c a b == .eq)
  cases a <;> cases b
  case fix.fix | fix.big | big.fix | big.big => exact Std.compare_beq_eq_beq.symm
  case fix.flt | flt.fix | big.flt | flt.big | rat.flt | flt.rat | flt.flt => exact eq_iff_cmp _ _
  -- a rational against an integer or a rational: `eqWith` is `fracCmp … == .eq` by definition
  all_goals rfl

/-! ### the instructions (table extracted from dispatch.rs on every run) -/

/-- on which orderings the extracted instruction `(v, op)` succeeds; `none` if it is not in the table. -/
def instrAccepts (v : Variant) (op : CmpOp) (o : Ordering) : Option Bool :=
  match Scryer.Extracted.cmpInstrTable.find? (fun r => r.1 == v && r.2.1 == op) with
  | some r => some (r.2.2.contains o)
  | none => none

/-- Compiled comparison and run-time (metacall) comparison agree: all 24 comparison instructions found
    in the current dispatch.rs — `CallNumber…` / `ExecuteNumber…` emitted for a comparison in a clause
    body, their `Default…` twins, and the `ExecuteNumber…` stubs that `call/N` reaches — succeed on exactly
    the orderings `CmpOp.accepts` lists, whatever the variant. -/
theorem C04_instruction_table :
    Scryer.Extracted.cmpInstrTable.length = 24 ∧
    ∀ v : Variant, ∀ op : CmpOp, ∀ o : Ordering, instrAccepts v op o = some (op.accepts o) := by
  refine ⟨by decide, ?_⟩
  intro v op o
  cases v <;> cases op <;> cases o <;> decide

/-! ### transitivity -/

/-- Within exact numbers (integers and rationals of any size) `=<` is transitive and `=:=` is a
    congruence for the comparison with any third exact number. -/
theorem C04_transitive_exact (a b c : Number) (ha : a.wf) (hb : b.wf) (hc : c.wf)
    (fa : a.isFloat = false) (fb : b.isFloat = false) (fc : c.isFloat = false) :
    (holds .le a b = true → holds .le b c = true → holds .le a c = true) ∧
    (holds .eq a b = true → cmpNum a c = cmpNum b c) := by
  simp only [holds, holdsWith, accepts_le, accepts_eq, show cmpWith Conv.exact = cmpNum from rfl,
    C04_exact_between_integers_and_rationals a b ha hb fa fb,
    C04_exact_between_integers_and_rationals b c hb hc fb fc,
    C04_exact_between_integers_and_rationals a c ha hc fa fc]
  constructor
  · simp only [ne_eq, compare_gt_iff_gt, not_lt]; exact fun h1 h2 => le_trans h1 h2
  · intro h; rw [compare_eq_iff_eq.mp h]

/-- When every link of a chain involves a float (at least two of the three numbers are floats), all
    three comparisons are comparisons of doubles, so `=<` is transitive and `=:=` a congruence. -/
theorem C04_transitive_via_floats (a b c : Number)
    (h : (a.isFloat && b.isFloat) || (a.isFloat && c.isFloat) || (b.isFloat && c.isFloat) = true) :
    (holds .le a b = true → holds .le b c = true → holds .le a c = true) ∧
    (holds .eq a b = true → cmpNum a c = cmpNum b c) := by
  obtain ⟨hab, hbc, hac⟩ : (a.isFloat = true ∨ b.isFloat = true) ∧
      (b.isFloat = true ∨ c.isFloat = true) ∧ (a.isFloat = true ∨ c.isFloat = true) := by
    revert h; cases a.isFloat <;> cases b.isFloat <;> cases c.isFloat <;> decide
  simp only [holds, holdsWith, accepts_le, accepts_eq, show cmpWith Conv.exact = cmpNum from rfl,
    C04_float_rule a b hab, C04_float_rule b c hbc, C04_float_rule a c hac]
  exact ⟨F64.cmp_le_trans _ _ _, F64.cmp_eq_congr _ _ _⟩

/-- Transitivity FAILS across the float conversion when exactly one of three numbers is a float:
    `2^53+1 =:= 2.0^53` and `2.0^53 =:= 2^53` hold (the integer rounds to the double), yet
    `2^53+1 > 2^53`. This is inherent in the rule of the statement, not a defect of the code. -/
theorem C04_transitivity_fails_across_conversion :
    let a := Number.fix (2^53 + 1); let f := Number.flt ⟨0x4340000000000000⟩; let b := Number.fix (2^53)
    holds .eq a f = true ∧ holds .eq f b = true ∧ holds .eq a b = false ∧ holds .gt a b = true := by
  decide

/-! ### conversion at the edges of the double range -/

/-- Conversion overflow is not an error in a comparison: an integer ≥ 2^1024 − 2^970 (here 2^2000, and
    the threshold itself, which is a tie resolved to the even neighbour 2^1024 = +∞) is greater than
    every finite double, the integer just below the threshold equals `f64::MAX`; 2^-1075 (a tie
    between 0 and the least subnormal, resolved to the even 0) converts to zero, 3·2^-1076 to the
    least subnormal. -/
theorem C04_range_edges :
    cmpNum (.big (2^2000)) (.flt ⟨0x7FEFFFFFFFFFFFFF⟩) = .gt ∧
    cmpNum (.big (-(2^2000))) (.flt ⟨0xFFEFFFFFFFFFFFFF⟩) = .lt ∧
    cmpNum (.big (2^1024 - 2^970)) (.flt ⟨0x7FEFFFFFFFFFFFFF⟩) = .gt ∧
    cmpNum (.big (2^1024 - 2^970 - 1)) (.flt ⟨0x7FEFFFFFFFFFFFFF⟩) = .eq ∧
    cmpNum (.rat 1 (2^1075)) (.flt ⟨0⟩) = .eq ∧
    cmpNum (.rat 3 (2^1076)) (.flt ⟨1⟩) = .eq ∧
    cmpNum (.rat 1 (2^1075)) (.rat 3 (2^1076)) = .lt := by
  decide +kernel

/-! ### the pinned conversions (findings C04-1, C04-2) -/

/-- C04-2: the mirror of the pinned `RBig::to_f64` rounds `(3·2^53+8)/3 = 2^53+2.67` to `2^53+4`
    (twice rounded) while the nearest double is `2^53+2`; the pinned comparison therefore says `=:=`
    where the specification says `<`. -/
theorem C04_pinned_rational_conversion_violates :
    dashuRatToF64 (3*2^53+8) 3 = ⟨0x4340000000000002⟩ ∧ rne (3*2^53+8) 3 = ⟨0x4340000000000001⟩ ∧
    cmpWith Conv.pinned (.rat (3*2^53+8) 3) (.flt ⟨0x4340000000000002⟩) = .eq ∧
    cmpSpec (.rat (3*2^53+8) 3) (.flt ⟨0x4340000000000002⟩) = .lt := by
  decide +kernel

/-- C04-1: the mirror of the pinned `IBig::to_f64` (> 128 bits; `encode` drops one sticky bit) rounds
    `2^130 + 2^77 + 2^76` (0.75 ulp above `2^130`) down to `2^130`, and is not even monotone:
    `2^130 + 2^77 + 1` is smaller but converts to the next double. -/
theorem C04_pinned_integer_conversion_violates :
    dashuIntToF64 (2^130 + 2^77 + 2^76) = ⟨0x4810000000000000⟩ ∧
    rne (2^130 + 2^77 + 2^76) 1 = ⟨0x4810000000000001⟩ ∧
    dashuIntToF64 (2^130 + 2^77 + 1) = ⟨0x4810000000000001⟩ ∧
    cmpWith Conv.pinned (.big (2^130 + 2^77 + 2^76)) (.flt ⟨0x4810000000000000⟩) = .eq ∧
    cmpSpec (.big (2^130 + 2^77 + 2^76)) (.flt ⟨0x4810000000000000⟩) = .gt := by
  decide +kernel

/-! ### non-vacuity -/

example : Number.wf (.rat (-7) 3) := by show 0 < 3; decide
example : cmpNum (.rat (-7) 3) (.big (-(2^70))) = .gt := by decide +kernel
example : cmpNum (.fix 1) (.rat 2 2) = .eq := by decide +kernel
example : isFinite ⟨0x3FF0000000000000⟩ = true ∧ toX ⟨0x3FF0000000000000⟩ = .fin (2^52) (2^52) := by decide +kernel
example : holds .lt (.flt ⟨1⟩) (.rat 1 (2^1000)) = true := by decide +kernel
-- a chain with two floats (hypothesis of `C04_transitive_via_floats` is satisfiable)
example : ((Number.fix 1).isFloat && (Number.flt ⟨0⟩).isFloat || (Number.fix 1).isFloat && (Number.flt ⟨1⟩).isFloat
    || (Number.flt ⟨0⟩).isFloat && (Number.flt ⟨1⟩).isFloat) = true := by decide +kernel

end Scryer.NumCmp
