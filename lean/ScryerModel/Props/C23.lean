import ScryerModel.Proofs.TermOps
/-
C23 — term construction and inspection builtins match a term model.

The model (`Model/TermOps.lean`) mirrors `try_functor`, `try_arg`, `univ_errors/3`+`univ_worker/3`,
`can_be_list/2`+`'$term_variables'`, `ground_test` and the body of `subsumes_term/2`; `copy_term/2`
is a renaming with fresh variables followed by a unification.  The theorems below are about ALL
terms (no size bound).  They are tied to the implementation by `vlib/props/C23.py`.
-/
namespace Scryer.C23
open Scryer.Term Scryer.Unify Scryer.TermOps

/-- principal functor name of a non-variable term (an atomic term is its own name). -/
def nameOf : Term → Term
  | .str f _ => .atom f
  | t => t

def arityOf : Term → Nat
  | .str _ args => args.length
  | _ => 0

def argsOf : Term → List Term
  | .str _ args => args
  | _ => []

/-! ## functor/3 -/

/-- Checking mode: for a non-variable `T` the call is exactly the unification of `N` with the name
    and then of `A` with the arity; no error is possible. -/
theorem C23_functor_nonvar (avoid : List String) {t : Term} (ht : isVar t = false) (n a : Term) :
    functor3 avoid t n a = unifyAll [(n, nameOf t), (a, .int (arityOf t))] := by
  cases t with
  | var x => cases ht
  | _ => rfl

/-- Inspection mode: `functor(T, N, A)` with `T` non-variable and `N`, `A` distinct unbound
    variables binds `N` to the name and `A` to the arity of `T` (for an atomic `T`: `T` and 0). -/
theorem C23_functor_inspect (avoid : List String) {t : Term} (ht : isVar t = false)
    {N A : String} (hne : N ≠ A) :
    functor3 avoid t (.var N) (.var A) = .ok [(A, .int (arityOf t)), (N, nameOf t)] := by
  rw [C23_functor_nonvar avoid ht]
  refine unifyAll_bind_two ?_ rfl hne
  cases t with
  | var x => cases ht
  | _ => rfl

/-- … so an answer makes `N` the name and `A` the arity. -/
theorem C23_functor_nonvar_sound (avoid : List String) {t : Term} (ht : isVar t = false)
    {n a : Term} {σ : Subst} (h : functor3 avoid t n a = .ok σ) :
    applyS σ n = nameOf t ∧ applyS σ a = .int (arityOf t) := by
  rw [C23_functor_nonvar avoid ht] at h
  have g := good_of_unifyAll h
  have gname : (nameOf t).vars = [] := by
    cases t with
    | var x => cases ht
    | _ => rfl
  have h1 := g.solves (n, nameOf t) (.head _)
  have h2 := g.solves (a, .int (arityOf t)) (.tail _ (.head _))
  rw [applyS_ground gname] at h1
  rw [applyS_ground (u := .int (arityOf t)) rfl] at h2
  exact ⟨h1, h2⟩

/-- Construction mode: `functor(T, f, k)` with `T` unbound, `f` an atom and `0 < k ≤ max_arity`
    binds `T` to `f(F1,…,Fk)` whose arguments are `k` pairwise distinct variables that occur
    nowhere else (neither `T` nor any name to avoid). -/
theorem C23_functor_construct (avoid : List String) (x f : String) {k : Nat} (hk : 0 < k)
    (hmax : k ≤ maxArity) :
    ∃ fresh : List String, fresh.length = k ∧ fresh.Nodup ∧ (∀ y ∈ fresh, y ≠ x ∧ y ∉ avoid) ∧
      functor3 avoid (.var x) (.atom f) (.int k) = .ok [(x, .str f (fresh.map Term.var))] := by
  refine ⟨freshNames (x :: avoid) k, freshNames_length _ _, freshNames_nodup _ _, ?_, ?_⟩
  · intro y hy
    have := freshNames_not_mem hy
    exact ⟨fun e => this (e ▸ .head _), fun h => this (List.mem_cons_of_mem _ h)⟩
  · rw [functor3_arity_ok avoid x _ (Int.natCast_nonneg k) (Int.ofNat_le.mpr hmax)]
    show Res.ok [(x, mkStr f ((freshNames (x :: avoid) (k : Int).toNat).map Term.var))] = _
    rw [Int.toNat_natCast]
    -- `mkStr` reduces once its argument list is a `cons`; it is not `[]`, having length `k > 0`
    cases hm : (freshNames (x :: avoid) k).map Term.var with
    | nil =>
        have := congrArg List.length hm
        rw [List.length_map, freshNames_length] at this
        exact absurd this (Nat.ne_of_gt hk)
    | cons a l => rfl

/-- Construction with arity 0: `T` is bound to the (atomic) name itself. -/
theorem C23_functor_construct_atomic (avoid : List String) (x : String) {c : Term}
    (hc : isAtomic c = true) :
    functor3 avoid (.var x) c (.int 0) = .ok [(x, c)] := by
  rw [functor3_arity_ok avoid x c (Int.le_refl 0) (Int.natCast_nonneg _)]
  cases c with
  | var y => cases hc
  | str f as => cases hc
  | _ => rfl

/-- Round trip: constructing with `f`, `k` and then inspecting returns `f` and `k`. -/
theorem C23_functor_roundtrip (avoid avoid' : List String) (x f : String) {k : Nat} (hk : 0 < k)
    (hmax : k ≤ maxArity) {N A : String} (hne : N ≠ A) :
    ∃ t, functor3 avoid (.var x) (.atom f) (.int k) = .ok [(x, t)] ∧
      functor3 avoid' t (.var N) (.var A) = .ok [(A, .int k), (N, .atom f)] := by
  obtain ⟨fresh, hl, _, _, h⟩ := C23_functor_construct avoid x f hk hmax
  refine ⟨_, h, ?_⟩
  have := C23_functor_inspect avoid' (t := .str f (fresh.map Term.var)) rfl hne
  simpa [arityOf, nameOf, hl] using this

/-- 8.5.1.3 a), b): `T` and (`N` or `A`) unbound. -/
theorem C23_functor_err_inst (avoid : List String) (x : String) {n a : Term}
    (h : isVar n = true ∨ isVar a = true) :
    functor3 avoid (.var x) n a = .err instErr := by
  rcases h with h | h <;> simp [functor3, h]

/-- 8.5.1.3 d): the arity is neither a variable nor an integer (floats, rationals included). -/
theorem C23_functor_err_integer (avoid : List String) (x : String) {n a : Term}
    (hn : isVar n = false) (ha : isVar a = false) (hi : ∀ v, a ≠ .int v) :
    functor3 avoid (.var x) n a = .err (typeErr "integer" a) := by
  cases a with
  | var y => cases ha
  | int v => exact absurd rfl (hi v)
  | _ => simp only [functor3, hn, ha, Bool.or_self, Bool.false_eq_true, if_false]

/-- 8.5.1.3 f): arity above `max_arity` (255), bignums included. -/
theorem C23_functor_err_max_arity (avoid : List String) (x : String) {n : Term} {v : Int}
    (hn : isVar n = false) (hv : v > (maxArity : Int)) :
    functor3 avoid (.var x) n (.int v) = .err (repErr "max_arity") := by
  have ha : isVar (Term.int v) = false := rfl
  simp [functor3, ha, hn, hv]

/-- 8.5.1.3 g): negative arity. -/
theorem C23_functor_err_negative (avoid : List String) (x : String) {n : Term} {v : Int}
    (hn : isVar n = false) (hv : v < 0) :
    functor3 avoid (.var x) n (.int v) = .err (domErr "not_less_than_zero" (.int v)) := by
  have h1 : ¬ v > (maxArity : Int) := by simp [maxArity]; omega
  have ha : isVar (Term.int v) = false := rfl
  simp [functor3, ha, hn, hv, h1]

/-- 8.5.1.3 c): a compound name (whatever the admissible arity). -/
theorem C23_functor_err_atomic (avoid : List String) (x g : String) (as : List Term) {v : Int}
    (h0 : 0 ≤ v) (hmax : v ≤ (maxArity : Int)) :
    functor3 avoid (.var x) (.str g as) (.int v) = .err (typeErr "atomic" (.str g as)) := by
  exact functor3_arity_ok avoid x _ h0 hmax

/-- 8.5.1.3 e): a number as the name of a term with arguments. -/
theorem C23_functor_err_atom (avoid : List String) (x : String) {n : Term} (hn : isNumber n = true)
    {v : Int} (h0 : 0 < v) (hmax : v ≤ (maxArity : Int)) :
    functor3 avoid (.var x) n (.int v) = .err (typeErr "atom" n) := by
  have h3 : v ≠ 0 := Int.ne_of_gt h0
  rw [functor3_arity_ok avoid x n (Int.le_of_lt h0) hmax]
  cases n with
  | var y => cases hn
  | str f as => cases hn
  | atom a => cases hn
  | _ => exact if_neg h3

/-- functor/3 raises an error only when its first argument is unbound. -/
theorem C23_functor_err_only_if_var (avoid : List String) {t n a e : Term}
    (h : functor3 avoid t n a = .err e) : isVar t = true := by
  cases ht : isVar t with
  | true => rfl
  | false =>
      rw [C23_functor_nonvar avoid ht] at h
      exact absurd h (unifyAll_ne_err _ _)

/-! ## arg/3 -/

/-- `arg(N, T, X)` with `T` compound and `1 ≤ N ≤ arity`: exactly the unification of `X` with the
    `N`-th argument. -/
theorem C23_arg_in_range (f : String) (args : List Term) (i : Nat) (h : i < args.length) (x : Term) :
    arg3 (.int ((i : Int) + 1)) (.str f args) x = unifyAll [(x, args[i])] :=
  arg3_str_some (by omega) ((nth1?_eq_some_iff ..).mpr ⟨i, rfl, h, rfl⟩) x

/-- selection: with `X` a variable not occurring in the selected argument, `X` is bound to it. -/
theorem C23_arg_select (f : String) (args : List Term) (i : Nat) (h : i < args.length) {X : String}
    (hX : X ∉ args[i].vars) :
    arg3 (.int ((i : Int) + 1)) (.str f args) (.var X) = .ok [(X, args[i])] := by
  rw [C23_arg_in_range f args i h]
  exact unifyAll_bind hX

/-- out of range (`N = 0` or `N > arity`, bignums included): failure, no error. -/
theorem C23_arg_out_of_range (f : String) (args : List Term) {v : Int} (hv : 0 ≤ v)
    (h : v = 0 ∨ (args.length : Int) < v) (x : Term) :
    arg3 (.int v) (.str f args) x = .fail :=
  arg3_str_none (by omega) ((nth1?_eq_none_iff ..).mpr (by omega)) x

/-- success characterised: `arg(N, T, X)` has an answer σ iff `T` is compound, `1 ≤ N ≤ arity`
    and σ is the result of unifying `X` with the `N`-th argument. -/
theorem C23_arg_ok_iff (n t x : Term) (σ : Subst) :
    arg3 n t x = .ok σ ↔
      ∃ (i : Nat) (f : String) (args : List Term) (h : i < args.length),
        n = .int ((i : Int) + 1) ∧ t = .str f args ∧ unifyAll [(x, args[i])] = .ok σ := by
  refine ⟨?_, fun ⟨i, f, args, hlt, hn, ht, h⟩ => by rw [hn, ht, C23_arg_in_range f args i hlt, h]⟩
  fun_cases arg3 n t x
  -- case4 (`N ≥ 0` an integer, `T` compound, `nth1?` finds the argument) is the one clause of `arg3`
  -- that can answer; the other six return `.err _` or `.fail`
  case case4 v _ f args u hn =>
    obtain ⟨i, rfl, hlt, rfl⟩ := (nth1?_eq_some_iff ..).mp hn
    exact fun h => ⟨i, f, args, hlt, rfl, rfl, h⟩
  all_goals nofun

/-- the error conditions of ISO 8.5.2.3 a)–e). -/
def ArgIsoError (n t : Term) : Prop :=
  isVar n = true ∨ isVar t = true ∨ (isVar n = false ∧ ∀ v, n ≠ .int v) ∨
    (isVar t = false ∧ isCompound t = false) ∨ ∃ v, n = .int v ∧ v < 0

/-- the formal of an arg/3 error is the one ISO prescribes for a condition that holds. -/
theorem C23_arg_error_formal {n t x e : Term} (h : arg3 n t x = .err e) :
    (e = instErr ∧ (isVar n = true ∨ isVar t = true)) ∨
    (e = typeErr "integer" n ∧ isVar n = false ∧ ∀ v, n ≠ .int v) ∨
    (e = typeErr "compound" t ∧ isVar t = false ∧ isCompound t = false) ∨
    (e = domErr "not_less_than_zero" n ∧ ∃ v, n = .int v ∧ v < 0) := by
  revert h
  -- the cases are the clauses of `arg3` from top to bottom: 1 `N` unbound, 2 `N < 0`, 3 `T` unbound,
  -- 4 / 5 `T` compound (argument found / `N` out of range), 6 `T` atomic, 7 `N` not an integer
  fun_cases arg3 n t x <;> intro h
  case case4 => exact absurd h (unifyAll_ne_err _ _)
  -- identifies `e` in the five error clauses and closes case5 (`.fail`)
  all_goals cases h
  case case1 => exact Or.inl ⟨rfl, Or.inl rfl⟩
  case case2 v hv => exact Or.inr (Or.inr (Or.inr ⟨rfl, v, rfl, hv⟩))
  case case3 => exact Or.inl ⟨rfl, Or.inr rfl⟩
  case case6 hv hc => exact Or.inr (Or.inr (Or.inl ⟨rfl, isVar_eq_false hv, isCompound_eq_false hc⟩))
  case case7 hv hi => exact Or.inr (Or.inl ⟨rfl, isVar_eq_false hv, hi⟩)

/-- arg/3 raises an error exactly when one of the ISO error conditions holds (whatever the other
    arguments are: a huge `N` does not hide an unbound or non-compound `T`). -/
theorem C23_arg_error_iff (n t x : Term) : (∃ e, arg3 n t x = .err e) ↔ ArgIsoError n t := by
  constructor
  · rintro ⟨e, h⟩
    rcases C23_arg_error_formal h with ⟨_, h | h⟩ | ⟨_, h⟩ | ⟨_, h⟩ | ⟨_, h⟩
    · exact Or.inl h
    · exact Or.inr (Or.inl h)
    · exact Or.inr (Or.inr (Or.inl h))
    · exact Or.inr (Or.inr (Or.inr (Or.inl h)))
    · exact Or.inr (Or.inr (Or.inr (Or.inr h)))
  · fun_cases arg3 n t x
    case case4 v hv f args u _ | case5 v hv f args _ =>
      -- an integer `N ≥ 0` and a compound `T` meet none of the error conditions
      rintro (h | h | ⟨_, h⟩ | ⟨_, h⟩ | ⟨w, hw, hlt⟩)
      · cases h
      · cases h
      · exact absurd rfl (h v)
      · cases h
      · cases hw; exact absurd hlt hv
    -- the other five clauses return `.err _`
    all_goals exact fun _ => ⟨_, rfl⟩

/-- Finding C23-1 (pinned behaviour, since repaired in /repo): with `N = 2^64` the pinned `try_arg`
    fails although `T` is unbound (ISO 8.5.2.3 b: instantiation_error) … -/
theorem C23_1_pinned_arg_hides_unbound_term :
    arg3Pinned (.int (2 ^ 64)) (.var "T") (.var "X") = .fail ∧
    ArgIsoError (.int (2 ^ 64)) (.var "T") ∧
    arg3 (.int (2 ^ 64)) (.var "T") (.var "X") = .err instErr := by
  refine ⟨by simp [arg3Pinned], Or.inr (Or.inl rfl), by simp [arg3]⟩

/-- … and although `T` is not compound (8.5.2.3 d: type_error(compound, T)). -/
theorem C23_1_pinned_arg_hides_noncompound_term :
    arg3Pinned (.int (2 ^ 64)) (.atom "a") (.var "X") = .fail ∧
    arg3 (.int (2 ^ 64)) (.atom "a") (.var "X") = .err (typeErr "compound" (.atom "a")) := by
  refine ⟨by simp [arg3Pinned], by simp [arg3]⟩

/-- Finding C23-2 (the pinned implementation panicked on it; since repaired in /repo):
    `X = [b], arg(1, "abc", X)` is the plain unification of `[b]` with the first argument `a`, i.e.
    failure — in the model the mode "third argument instantiated" needs no special case. -/
theorem C23_2_arg_first_char_against_bound_list :
    arg3 (.int 1) (Term.ofChars ['a', 'b', 'c']) (Term.ofList [.atom "b"]) = .fail := by
  have := C23_arg_in_range "." [.atom "a", Term.ofChars ['b', 'c']] 0 (by decide)
    (Term.ofList [.atom "b"])
  simp only [Int.ofNat_zero, Int.zero_add, List.getElem_cons_zero] at this
  have e : Term.ofChars ['a', 'b', 'c'] = .str "." [.atom "a", Term.ofChars ['b', 'c']] := rfl
  rw [e, this]
  simp [unifyAll, Term.ofList, Term.cons, ofOutcome]

/-- below `2^64` the pinned code and the repaired model coincide. -/
theorem C23_arg_pinned_eq {n : Term} (h : ∀ v, n = .int v → v < 2 ^ 64) (t x : Term) :
    arg3Pinned n t x = arg3 n t x := by
  cases n with
  | int v =>
      have h1 := h v rfl
      simp only [arg3Pinned]
      rw [if_neg (by omega)]
  | _ => simp [arg3Pinned]

/-! ## =../2 -/

/-- Decomposition: `T =.. L` with `T` compound and `L` an unbound variable not in `T` binds `L` to
    `[Name|Args]`. -/
theorem C23_univ_decompose (f : String) (args : List Term) {L : String} (hL : L ∉ varsL args) :
    univ (.str f args) (.var L) = .ok [(L, Term.ofList (.atom f :: args))] := by
  have he : univErrors (.str f args) (.var L) = none := by
    rw [univErrors_partial _ _ (by simp [splitList_var])]; rfl
  simp only [univ, he]
  apply unifyAll_bind
  rw [vars_ofList]
  simpa [Term.varsL, Term.nil] using hL

/-- … and for an atomic `T`, `L = [T]`. -/
theorem C23_univ_decompose_atomic {c : Term} (hc : isAtomic c = true) (L : String) :
    univ c (.var L) = .ok [(L, Term.ofList [c])] := by
  have he : univErrors c (.var L) = none := by
    rw [univErrors_partial _ _ (by rw [splitList_var]; rfl), isVar_of_isAtomic hc]; rfl
  rw [univ_atomic hc he]
  refine unifyAll_bind ?_
  rw [vars_ofList, varsL, varsL, vars_of_isAtomic hc]
  exact nofun

/-- Construction: `T =.. [f|Args]` with `T` unbound, `f` an atom and at most `max_arity` arguments
    not containing `T` binds `T` to `f(Args…)` (to the atom `f` when there are no arguments). -/
theorem C23_univ_construct (x f : String) (args : List Term) (hx : x ∉ varsL args)
    (hmax : args.length ≤ maxArity) :
    univ (.var x) (Term.ofList (.atom f :: args)) = .ok [(x, mkStr f args)] := by
  have hs := splitList_proper (.atom f :: args)
  have hg : ¬ (args.length > maxArity) := by omega
  have he : univErrors (.var x) (Term.ofList (.atom f :: args)) = none := by
    rw [univErrors_proper]
    simp [isVar, isAtom, isCompound, hg]
  simp only [univ, he, hs]
  simp [hx]

/-- … `T =.. [C]` with `C` atomic binds `T` to `C`. -/
theorem C23_univ_construct_atomic (x : String) {c : Term} (hc : isAtomic c = true) :
    univ (.var x) (Term.ofList [c]) = .ok [(x, c)] := by
  have he : univErrors (.var x) (Term.ofList [c]) = none := by
    rw [univErrors_proper]
    simp [isVar_of_isAtomic hc, isCompound_of_isAtomic hc]
  simp only [univ, he, splitList_proper]
  cases c with
  | var y => cases hc
  | str f as => cases hc
  | _ => rfl

/-- Round trip, both directions: decomposing `f(Args…)` gives `[f|Args]`, and constructing from
    `[f|Args]` gives back a term identical to `f(Args…)`. -/
theorem C23_univ_roundtrip (f : String) (a : Term) (as : List Term)
    (hmax : (a :: as).length ≤ maxArity) {L x : String} (hL : L ∉ varsL (a :: as))
    (hx : x ∉ varsL (a :: as)) :
    univ (.str f (a :: as)) (.var L) = .ok [(L, Term.ofList (.atom f :: a :: as))] ∧
    univ (.var x) (Term.ofList (.atom f :: a :: as)) = .ok [(x, .str f (a :: as))] :=
  ⟨C23_univ_decompose f _ hL, by simpa [mkStr] using C23_univ_construct x f (a :: as) hx hmax⟩

/-- Checking mode: for a compound `T`, once the list argument has passed the error checks, the
    call is the unification of the list with `[Name|Args]`. -/
theorem C23_univ_check (f : String) (args : List Term) {l : Term}
    (he : univErrors (.str f args) l = none) :
    univ (.str f args) l = unifyAll [(l, Term.ofList (.atom f :: args))] := by
  simp [univ, he]

/-- 8.5.3.3 a): `T` unbound and the list partial. -/
theorem C23_univ_err_partial_list (x : String) {l : Term} (h : isVar (splitList l).2 = true) :
    univ (.var x) l = .err instErr := by
  simp [univ, univErrors_partial _ _ h]

/-- 8.5.3.3 b): the second argument is neither a partial list nor a list (whatever `T` is). -/
theorem C23_univ_err_not_list (t : Term) {l : Term} (h1 : isVar (splitList l).2 = false)
    (h2 : isNil (splitList l).2 = false) : univ t l = .err (typeErr "list" l) := by
  simp [univ, univErrors_not_list _ _ h1 h2]

/-- 8.5.3.3 c): `T` unbound and the head of the list unbound. -/
theorem C23_univ_err_var_head (x y : String) (xs : List Term) :
    univ (.var x) (Term.ofList (.var y :: xs)) = .err instErr := by
  simp [univ, univErrors_proper]

/-- 8.5.3.3 d): a list of length ≥ 2 whose head is neither a variable nor an atom. -/
theorem C23_univ_err_head_not_atom (t : Term) {h : Term} (a : Term) (as : List Term)
    (h1 : isVar h = false) (h2 : isAtom h = false) :
    univ t (Term.ofList (h :: a :: as)) = .err (typeErr "atom" h) := by
  simp [univ, univErrors_proper, h1, h2]

/-- 8.5.3.3 e): a one-element list whose element is compound. -/
theorem C23_univ_err_compound_head (t : Term) (g : String) (as : List Term) :
    univ t (Term.ofList [.str g as]) = .err (typeErr "atomic" (.str g as)) := by
  simp [univ, univErrors_proper, isVar, isAtom, isCompound]

/-- 8.5.3.3 f): `T` unbound and the list empty. -/
theorem C23_univ_err_empty (x : String) :
    univ (.var x) Term.nil = .err (domErr "non_empty_list" Term.nil) := by
  have := univErrors_proper (.var x) []
  simp only [Term.ofList, List.foldr_nil] at this
  simp [univ, this]

/-- 8.5.3.3 g): `T` unbound and more than `max_arity` arguments. -/
theorem C23_univ_err_max_arity (x f : String) (args : List Term) (h : args.length > maxArity) :
    univ (.var x) (Term.ofList (.atom f :: args)) = .err (repErr "max_arity") := by
  simp [univ, univErrors_proper, isVar, isAtom, isCompound, h]

/-! ## copy_term/2 -/

/-- The copy is a variant of the original. -/
theorem C23_copy_variant (avoid : List String) (t : Term) : Variant t (copyOf avoid t) :=
  ⟨_, _, renameFn_isVar _ _, renameFn_isVar _ _, rfl, (copy_invOn avoid t).subst_inv⟩

/-- The copy shares no variable with the original, nor with any name to avoid (the variables of
    the rest of the query): all its variables are fresh. -/
theorem C23_copy_fresh (avoid : List String) (t : Term) {y : String}
    (hy : y ∈ (copyOf avoid t).vars) : y ∉ avoid ∧ y ∉ t.vars := by
  have := freshNames_not_mem ((copy_invOn avoid t).vars_subst hy)
  simp only [List.mem_append, not_or] at this
  exact ⟨this.1, fun h => this.2 (mem_termVars.mpr h)⟩

/-- Sharing is preserved: the copy is the image of the original under ONE variable-for-variable
    substitution (same variable ↦ same fresh variable) that is injective on the variables of the
    original (different variables ↦ different fresh variables) and leaves every ground sub-term
    as it is. -/
theorem C23_copy_preserves_sharing (avoid : List String) (t : Term) :
    ∃ ρ : String → Term, copyOf avoid t = t.subst ρ ∧ (∀ x, ∃ y, ρ x = .var y) ∧
      (∀ x1 ∈ t.vars, ∀ x2 ∈ t.vars, ρ x1 = ρ x2 → x1 = x2) ∧
      (∀ u : Term, u.vars = [] → u.subst ρ = u) :=
  ⟨_, rfl, renameFn_isVar _ _, fun _ h1 _ h2 => (copy_invOn avoid t).inj h1 h2,
    fun _ hu => subst_ground hu _⟩

/-- A ground term is copied to itself. -/
theorem C23_copy_ground (avoid : List String) {t : Term} (h : t.vars = []) : copyOf avoid t = t :=
  subst_ground h _

/-- Idempotent up to variance: a copy of a copy is a variant of the copy (and of the original). -/
theorem C23_copy_idempotent (a1 a2 : List String) (t : Term) :
    Variant (copyOf a2 (copyOf a1 t)) (copyOf a1 t) ∧ Variant (copyOf a2 (copyOf a1 t)) t :=
  ⟨(C23_copy_variant a2 _).symm, ((C23_copy_variant a1 t).trans (C23_copy_variant a2 _)).symm⟩

/-- `copy_term(T, C)` with `C` an unbound variable: `C` is bound to the copy, whose variables are
    fresh w.r.t. `T`, `C` and the rest of the query; no variable of `T` is bound (the original is
    unchanged). -/
theorem C23_copy_term_fresh_target (avoid : List String) (t : Term) (c : String) :
    copyTerm avoid t (.var c) = .ok [(c, copyOf (avoid ++ [c]) t)] ∧
    (c ∉ t.vars → applyS [(c, copyOf (avoid ++ [c]) t)] t = t) := by
  constructor
  · unfold copyTerm
    simp only [Term.vars]
    apply unifyAll_bind
    intro h
    have := (C23_copy_fresh (avoid ++ [c]) t h).1
    simp at this
  · intro hc
    simp only [applyS]
    exact subst1_of_not_mem hc

/-- in general `copy_term(T, C)` is the unification of `C` with the fresh copy. -/
theorem C23_copy_term_spec (avoid : List String) (t c : Term) :
    copyTerm avoid t c = unifyAll [(c, copyOf (avoid ++ c.vars) t)] := rfl

/-! ## term_variables/2 and ground/1 -/

/-- no duplicates. -/
theorem C23_term_variables_nodup (t : Term) : (termVars t).Nodup := termVars_nodup t

/-- exactly the variables of the term. -/
theorem C23_term_variables_mem (t : Term) (x : String) : x ∈ termVars t ↔ x ∈ t.vars :=
  mem_termVars

/-- depth-first left-to-right first-occurrence order: the result is the first-occurrence
    de-duplication `nub` of the left-to-right sequence `t.vars` of all variable occurrences, where
    `nub` is pinned down by `nub [] = []` and
    `nub (l ++ [x]) = if x ∈ l then nub l else nub l ++ [x]`. -/
theorem C23_term_variables_order :
    ∃ nub : List String → List String, nub [] = [] ∧
      (∀ l x, nub (l ++ [x]) = if x ∈ l then nub l else nub l ++ [x]) ∧
      ∀ t, termVars t = nub t.vars := by
  refine ⟨nubFrom [], rfl, fun l x => ?_, termVars_eq⟩
  have : x ∈ nubFrom [] l ↔ x ∈ l := mem_nubFrom.trans (or_iff_right List.not_mem_nil)
  rw [nubFrom_append]
  show (if x ∈ nubFrom [] l then _ else _) = _
  simp only [this]

/-- `term_variables(T, Vs)` with `Vs` an unbound variable not in `T`. -/
theorem C23_term_variables_fresh_target (t : Term) {V : String} (hV : V ∉ t.vars) :
    termVariables t (.var V) = .ok [(V, Term.ofList ((termVars t).map Term.var))] := by
  have : canBeList (.var V) = true := by simp [canBeList, isVar]
  simp only [termVariables, this, if_true]
  apply unifyAll_bind
  rw [vars_ofList, varsL_map_var]
  simp only [Term.nil, Term.vars_atom, List.append_nil]
  exact fun h => hV (mem_termVars.mp h)

/-- the second argument must be a partial list or a list (8.5.5.3). -/
theorem C23_term_variables_type_error (t : Term) {vs : Term} (h : canBeList vs = false) :
    termVariables t vs = .err (typeErr "list" vs) := by
  simp [termVariables, h]

/-- `ground(T)` succeeds iff `T` has no variable iff `term_variables(T, [])` succeeds. -/
theorem C23_ground_iff (t : Term) :
    (ground1 t = .ok [] ↔ t.vars = []) ∧ (t.vars = [] ↔ termVars t = []) ∧
    (termVars t = [] ↔ termVariables t Term.nil = .ok []) := by
  refine ⟨?_, ?_, ?_⟩
  · unfold ground1
    rw [← groundB_iff]
    cases groundB t <;> simp
  · rw [List.eq_nil_iff_forall_not_mem, List.eq_nil_iff_forall_not_mem]
    exact forall_congr' fun x => not_congr mem_termVars.symm
  · have hc : canBeList Term.nil = true := by simp [canBeList, isVar, isNil, Term.nil, splitList]
    simp only [termVariables, hc, if_true]
    cases htv : termVars t with
    | nil => simp [Term.ofList, unifyAll, Term.nil, ofOutcome]
    | cons x l =>
        simp [Term.ofList, unifyAll, Term.nil, Term.cons, ofOutcome]

/-- ground/1 never raises an error and never binds. -/
theorem C23_ground_no_error (t : Term) : ground1 t = .ok [] ∨ ground1 t = .fail := by
  unfold ground1; split <;> simp

/-! ## subsumes_term/2 -/

/-- The mirrored algorithm (collect the variables of `S`, unify with occurs check, collect the
    variables of the instantiated list, compare with `==`) succeeds iff `G` subsumes `S` in the
    sense of ISO 8.2.4: some substitution leaving the variables of `S` alone makes `G` identical
    to `S`. -/
theorem C23_subsumes_iff (g s : Term) : subsumes g s = true ↔ Subsumes g s := by
  unfold subsumes
  constructor
  · intro h
    split at h
    · cases h
    · rename_i σ hu
      obtain ⟨ws, hn, himg⟩ := (eqVars_varSetL_iff _).mp h
      -- θ = ρ ∘ σ with ρ the inverse renaming ws ↦ termVars s
      have hfix : ∀ x ∈ s.vars, (σ.toFun x).subst (renameFn ws (termVars s)) = .var x :=
        fun x hx => (invOn_of_map_eq hn himg).leftInv (mem_termVars.mpr hx)
      refine ⟨_, hfix, ?_⟩
      rw [← Term.subst_subst, ← applyS_eq_subst, (good_of_unify hu).solves (g, s) (.head _),
        applyS_eq_subst, Term.subst_subst]
      exact Term.subst_eq_self hfix
  · rintro ⟨θ, hfix, heq⟩
    have hunif : Unifies θ [(g, s)] := unifies_pair.mpr (by rw [heq, Term.subst_eq_self hfix])
    cases hu : unifyOC g s with
    | none => exact absurd hunif (not_unifies_of_unify hu θ)
    | some σ =>
        simp only
        -- `θ ∘ σ = θ` is the identity on the variables of `s`: `θ` undoes `σ` on them
        have hid : ∀ v ∈ termVars s, (applyS σ (.var v)).subst θ = .var v := fun v hv =>
          ((good_of_unify hu).mgu θ hunif (.var v)).trans (hfix v (mem_termVars.mp hv))
        obtain ⟨ws, hn, hws⟩ := map_var_of_leftInv (termVars_nodup s) hid
        exact (eqVars_varSetL_iff _).mpr ⟨ws, hn, hws⟩

/-- `subsumes_term/2` never leaves a binding and never raises an error. -/
theorem C23_subsumes_no_bindings (g s : Term) :
    subsumesTerm g s = .ok [] ∨ subsumesTerm g s = .fail := by
  unfold subsumesTerm; split <;> simp

/-- every term subsumes itself. -/
theorem C23_subsumes_refl (t : Term) : subsumes t t = true :=
  (C23_subsumes_iff t t).mpr ⟨Term.var, fun _ _ => rfl, Term.subst_id t⟩

/-- for a ground `S`: `G` subsumes `S` iff `S` is an instance of `G`. -/
theorem C23_subsumes_ground (g : Term) {s : Term} (hs : s.vars = []) :
    subsumes g s = true ↔ ∃ θ : String → Term, g.subst θ = s := by
  rw [C23_subsumes_iff]
  constructor
  · rintro ⟨θ, _, h⟩; exact ⟨θ, h⟩
  · rintro ⟨θ, h⟩
    refine ⟨θ, ?_, h⟩
    intro x hx
    rw [hs] at hx
    cases hx

/-- `f(X)` does not subsume `f(g(X))`: the substitution may not touch `X`, a variable of the
    second term. -/
theorem C23_subsumes_shared_variable_example :
    subsumes (.str "f" [.var "X"]) (.str "f" [.str "g" [.var "X"]]) = false := by
  cases h : subsumes (.str "f" [.var "X"]) (.str "f" [.str "g" [.var "X"]]) with
  | false => rfl
  | true =>
      obtain ⟨θ, hfix, heq⟩ := (C23_subsumes_iff _ _).mp h
      have hx : θ "X" = .var "X" := hfix "X" (by simp [Term.vars, Term.varsL])
      simp [Term.subst, Term.substL, hx] at heq

/-! ## non-vacuity -/

example : functor3 [] (.str "f" [.var "X", .atom "a"]) (.var "N") (.var "A") =
    .ok [("A", .int 2), ("N", .atom "f")] :=
  C23_functor_inspect [] rfl (by decide)

example : ∃ fresh : List String, fresh.length = 3 ∧
    functor3 ["T"] (.var "T") (.atom "foo") (.int 3) = .ok [("T", .str "foo" (fresh.map .var))] := by
  obtain ⟨fr, h1, _, _, h⟩ := C23_functor_construct ["T"] "T" "foo" (k := 3) (by decide) (by decide)
  exact ⟨fr, h1, h⟩

example : arg3 (.int 2) (.str "f" [.atom "a", .atom "b"]) (.var "X") = .ok [("X", .atom "b")] :=
  C23_arg_select "f" [.atom "a", .atom "b"] 1 (by decide) (by simp)

example : subsumes (.str "f" [.var "X", .var "Y"]) (.str "f" [.var "Z", .var "Z"]) = true :=
  (C23_subsumes_iff _ _).mpr ⟨fun x => if x = "X" ∨ x = "Y" then .var "Z" else .var x,
    by intro x hx; simp [Term.vars, Term.varsL] at hx; subst hx; simp,
    by simp [Term.subst, Term.substL]⟩

example : Variant (.str "f" [.var "X", .var "Y", .var "X"])
    (copyOf ["X", "Y"] (.str "f" [.var "X", .var "Y", .var "X"])) := C23_copy_variant _ _

end Scryer.C23
