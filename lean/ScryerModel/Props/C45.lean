import ScryerModel.Proofs.ReadVars
/-!
# C45 — read_term/2 reports variables, names and singletons exactly

`Model/ReadVars.lean` has two layers.

* The **specification** over the clause's variable occurrences (`occsOf toks`, left to right):
  `specVariables` (distinct variables, first occurrence first; every `_` is its own variable),
  `specVariableNames` (`Name=Var` for the named ones, same order), `specSingletons` (the named
  ones — `_`-prefixed included — whose variable occurs once).
* The **mechanism**, mirrored from `read.rs`/`machine_state.rs`: the dictionary filled in the
  heap writer's visiting order (ANY permutation `order` of the occurrence positions — the code's
  order is breadth-first), `IndexMap` insert-or-replace for anonymous variables under the key
  `akey position`, the pre-order walk computing first-visit flags and indices, the stable sort by
  index.

`C45_mechanism_eq_spec` proves mechanism = specification for every clause, every visiting order and
every injective `akey`. Before the repair of finding C45-1 the code used a key that is NOT injective
(the heap length, equal for neighbouring anonymous variables): `C45_pinned_key_collision` shows
that this loses variables (the repaired code keys by argument site).
-/
namespace Scryer.ReadVars
open List

/-! ## Tokens -/

/-- `_` alone is the anonymous variable; every other variable token — `_A`, `__`, `_1` included —
    is a named variable carrying its full text as name. -/
theorem C45_classify (name : String) :
    (name = "_" → classify name = .anon) ∧ (name ≠ "_" → classify name = .named name) := by
  unfold classify
  constructor <;> intro h <;> simp [h]

/-- Layout and comments between the tokens do not change the variable occurrences (and so none
    of the three lists). -/
theorem C45_layout_irrelevant (toks : List Tok) :
    occsOf (toks.filter (· != .layout)) = occsOf toks :=
  occsOf_filter _ (fun _ => by simp) toks

/-- Tokens that are not variable tokens (atoms, quoted atoms, strings, numbers, `0'c`, punctuation)
    contribute nothing, wherever they stand. -/
theorem C45_other_tokens_irrelevant (toks : List Tok) :
    occsOf (toks.filter (· != .other)) = occsOf toks :=
  occsOf_filter _ (fun _ => by simp) toks

/-! ## Identity of variables -/

/-- Two occurrences denote the same variable iff they are the same occurrence or carry the same
    name: same name ⇒ same variable, different names ⇒ different variables, and an anonymous
    occurrence is different from every other occurrence. -/
theorem C45_variable_identity (occs : List Occ) (i j : Nat) (hi : i < occs.length) (hj : j < occs.length) :
    (varsOf occs)[i]? = (varsOf occs)[j]? ↔
      i = j ∨ ∃ n, occs[i]? = some (.named n) ∧ occs[j]? = some (.named n) := by
  rw [getElem?_varsOf, getElem?_varsOf, getElem?_eq_getElem hi, getElem?_eq_getElem hj]
  simp only [Option.map_some, Option.some.injEq, toV_eq_iff]
  constructor
  · rintro ⟨he, rfl | ⟨n, hn⟩⟩
    · exact .inl rfl
    · exact .inr ⟨n, hn, he ▸ hn⟩
  · rintro (rfl | ⟨n, h1, h2⟩)
    · exact ⟨rfl, .inl rfl⟩
    · exact ⟨h1.trans h2.symm, .inr ⟨n, h1⟩⟩
/-! ## The specification has the properties the statement asks for -/

/-- `variables/1`: no duplicates, exactly the variables of the term, a subsequence of the
    occurrence sequence, ordered by first occurrence. -/
theorem C45_variables (occs : List Occ) :
    (specVariables occs).Nodup ∧
    (∀ v, v ∈ specVariables occs ↔ v ∈ varsOf occs) ∧
    (specVariables occs).Sublist (varsOf occs) ∧
    (specVariables occs).Pairwise (fun a b => (varsOf occs).idxOf a < (varsOf occs).idxOf b) :=
  ⟨nodup_dedupFirst _, fun _ => mem_dedupFirst, dedupFirst_sublist _, dedupFirst_order _⟩

/-- every anonymous occurrence is a variable of its own in `variables/1`. -/
theorem C45_anonymous_in_variables (occs : List Occ) (i : Nat) (h : occs[i]? = some .anon) :
    V.site i ∈ specVariables occs := by
  rw [specVariables, mem_dedupFirst, mem_iff_getElem?]
  exact ⟨i, by rw [getElem?_varsOf, h]; rfl⟩

theorem count_varsOf_named (occs : List Occ) (n : String) :
    (varsOf occs).count (V.named n) = occs.count (Occ.named n) := by
  conv => rhs; rw [← map_occOf_varsOf occs]
  rw [count_eq_countP, count_eq_countP, countP_map]
  apply countP_congr
  intro v _
  cases v <;> simp [occOf]

theorem mem_varsOf_named (occs : List Occ) (n : String) : V.named n ∈ varsOf occs ↔ Occ.named n ∈ occs := by
  rw [← count_pos_iff, count_varsOf_named, count_pos_iff]
/-- `variable_names/1`: exactly one `Name=Var` per name occurring in the clause, `Var` being the
    variable of that name (an anonymous variable is never named), names pairwise different, and
    the variables in the same relative order as in `variables/1`. -/
theorem C45_variable_names (occs : List Occ) :
    (∀ e, e ∈ specVariableNames occs ↔ ∃ n, e = (n, V.named n) ∧ Occ.named n ∈ occs) ∧
    ((specVariableNames occs).map (·.1)).Nodup ∧
    ((specVariableNames occs).map (·.2)).Sublist (specVariables occs) := by
  refine ⟨?_, ?_, ?_⟩
  · intro e
    simp only [specVariableNames, specVariables, mem_filterMap, nameEntry_eq_some, mem_dedupFirst]
    constructor
    · rintro ⟨_, hv, n, rfl, rfl⟩; exact ⟨n, rfl, (mem_varsOf_named occs n).mp hv⟩
    · rintro ⟨n, rfl, hn⟩; exact ⟨_, (mem_varsOf_named occs n).mpr hn, n, rfl, rfl⟩
  · -- different variables of the list carry different names
    rw [specVariableNames, map_filterMap, Nodup, pairwise_filterMap]
    refine (nodup_dedupFirst _).imp ?_
    intro a b hab x hx y hy
    cases a <;> cases b <;> simp [nameEntry] at hx hy
    subst hx hy
    simpa using hab
  · unfold specVariableNames
    generalize specVariables occs = L
    induction L with
    | nil => simp
    | cons v L ih =>
      cases v with
      | site i => simpa [filterMap_cons, nameEntry] using ih.cons (V.site i)
      | named n => simpa [filterMap_cons, nameEntry] using ih.cons_cons (V.named n)

/-- `singletons/1`: exactly the names that occur once in the clause (whether or not they start
    with `_`), each with its variable; a sub-list of `variable_names/1`. -/
theorem C45_singletons (occs : List Occ) :
    (∀ e, e ∈ specSingletons occs ↔ ∃ n, e = (n, V.named n) ∧ occs.count (Occ.named n) = 1) ∧
    (specSingletons occs).Sublist (specVariableNames occs) := by
  refine ⟨?_, filter_sublist⟩
  intro e
  simp only [specSingletons, mem_filter, (C45_variable_names occs).1 e, beq_iff_eq]
  constructor
  · rintro ⟨⟨n, rfl, _⟩, hc⟩
    exact ⟨n, rfl, by rwa [count_varsOf_named] at hc⟩
  · rintro ⟨n, rfl, hc⟩
    refine ⟨⟨n, rfl, ?_⟩, by rwa [count_varsOf_named]⟩
    exact count_pos_iff.mp (by omega)

/-- an `_`-prefixed name that occurs once IS reported as a singleton (the statement's
    "including _-prefixed ones"), an anonymous variable never. -/
example : specSingletons (occsOf [.var "_A", .other, .var "_", .var "B", .var "B"]) = [("_A", .named "_A")] := by
  decide

/-! ## The mirrored mechanism computes the specification -/

/-- For every clause, every order in which the heap writer meets the occurrences and every
    injective key for anonymous variables: `variables` and `variable_names` are exactly the
    specified lists, `singletons` is the specified list up to order. -/
theorem C45_mechanism_eq_spec (akey : Nat → Nat) (hk : ∀ i j, akey i = akey j → i = j) (occs : List Occ)
    (order : List Nat) (hp : order ~ List.range occs.length) :
    (mechanism akey occs order).variables = specVariables occs ∧
    (mechanism akey occs order).variableNames = specVariableNames occs ∧
    (mechanism akey occs order).singletons ~ specSingletons occs := by
  rw [mechanism_eq akey hk occs hp]
  exact ⟨rfl, rfl, ((dedupFirst_perm (visited_perm occs hp)).filterMap _).filter _⟩

/-- … hence the same singletons, each exactly once. -/
theorem C45_mechanism_singletons_mem (akey : Nat → Nat) (hk : ∀ i j, akey i = akey j → i = j)
    (occs : List Occ) (order : List Nat) (hp : order ~ List.range occs.length) (e : String × V) :
    e ∈ (mechanism akey occs order).singletons ↔ ∃ n, e = (n, V.named n) ∧ occs.count (Occ.named n) = 1 := by
  rw [(C45_mechanism_eq_spec akey hk occs order hp).2.2.mem_iff]
  exact (C45_singletons occs).1 e

/-- When the dictionary is filled in left-to-right order the three lists are the specification
    exactly, order of the singletons included. -/
theorem C45_mechanism_eq_spec_preorder (akey : Nat → Nat) (hk : ∀ i j, akey i = akey j → i = j)
    (occs : List Occ) : mechanism akey occs (List.range occs.length) = spec occs := by
  rw [mechanism_eq akey hk occs (Perm.refl _), visited_range]; rfl

/-! ## Witnesses -/

/-- The pinned key (the heap length at the time the anonymous variable is met) is the same for
    neighbouring anonymous variables. With such a key the mechanism loses a variable:
    `f(_,_)` reports one variable instead of two. -/
theorem C45_pinned_key_collision :
    (mechanism (fun _ => 0) [.anon, .anon] [0, 1]).variables = [V.site 1] ∧
    specVariables [.anon, .anon] = [V.site 0, V.site 1] := by
  constructor <;> decide

/-- non-vacuity: a clause with repetition, `_`, `_A`; the heap writer's order differs from
    left-to-right (breadth-first on `f(g(A),B,_C,_,A,_)`: B,_C,_,A,_ before the nested A). -/
example :
    mechanism id (occsOf [.other, .var "A", .other, .var "B", .var "_C", .layout, .var "_", .var "A", .var "_"])
      [1, 2, 3, 4, 5, 0] =
    { variables := [.named "A", .named "B", .named "_C", .site 3, .site 5],
      variableNames := [("A", .named "A"), ("B", .named "B"), ("_C", .named "_C")],
      singletons := [("B", .named "B"), ("_C", .named "_C")] } := by decide +kernel

example : [1, 2, 3, 4, 5, 0] ~ List.range 6 := by decide +kernel

end Scryer.ReadVars
