import ScryerModel.Proofs.Cwil
import ScryerModel.Proofs.CwilMech
/-!
# C40 — Inference-limited execution is deterministic and faithful

Model: `Scryer.Cwil` (Model/Cwil.lean).  The trace `⟨es, fin⟩` of `call(G)` lists the counted
inferences (`tick`), the inferences refused by a limit inside `G` (`probe`) and the solutions of
`G` in the order Prolog produces them; `limitGo bind s0 L es fin` is the trace of
`call_with_inference_limit(G, L, R)` (`bind a s` unifies `R` with the atom `a` in state `s`, `s0` is
the state at the call).  `passGo bind es fin` is `call(G)` with `R` added (`!` on a solution after
which the search is over, `true` otherwise).  `fires L es`: the limit fires, i.e. the goal attempts
an inference when `L` have been counted.  All statements are for every trace, hence for the traces
`run` computes for every program, goal and fuel.  `fires`, `passed` and `limitGo` follow one
recursion on the budget and the trace, and the proofs go along it (`fires.induct`; its cases are the
clauses of `fires` in order, listed at the head of Proofs/Cwil.lean).

The second part is about the counter itself: `mrun true` drives the literal mirror of `struct CWIL`
(machine_state.rs) through the operations the library performs (`enter L` = install a counter,
`tick` = `increment_call_count`, `leave` = remove the innermost counter; a firing limit unwinds to
its level and runs the (repaired) handler), `srun` is the specification: a stack of remaining
budgets, the outermost exhausted level fires.  `mrun false` is the handler of the pinned code
(finding C40-1).
-/
namespace Scryer.Cwil
open Scryer.Solve

variable (bind : String → St → Option St) (s0 : St)

/-! ## Faithfulness -/

/-- Whenever the limit does not fire the limited run IS `call(G)` with `R` added: same solutions,
same bindings, same order, same ball. -/
theorem C40_faithful_if_not_exceeded (L : Nat) (es : List Ev) (fin : Fin) (h : fires L es = false) :
    limitGo bind s0 L es fin = passGo bind es fin := by
  induction L, es using fires.induct with
  | case1 => rfl
  | case2 | case4 => cases h
  | case3 b es ih => exact congrArg (Res.cons .tick) (ih h)
  | case5 b es ih => exact congrArg (Res.cons .probe) (ih h)
  | case6 b s es ih => exact congrArg (ansStep bind s es fin) (ih h)

/-- In particular below the limit nothing is lost or changed: a goal that needs fewer than `L`
inferences runs as `call(G)` does. -/
theorem C40_faithful_below_limit (L : Nat) (es : List Ev) (fin : Fin) (h : ticks es < L) :
    limitGo bind s0 L es fin = passGo bind es fin :=
  C40_faithful_if_not_exceeded bind s0 L es fin (fires_of_lt es L h)

/-- If the limit fires, what was delivered before is exactly the consumed part of the goal's run
with `R = true` on every solution (a choice point is certainly left: the search goes on), then
`R = inference_limit_exceeded` once (bindings of the goal undone: state `s0`), and nothing is left
to retry (`done`, no ball). -/
theorem C40_exceeded_shape (L : Nat) (es : List Ev) (fin : Fin) (h : fires L es = true) :
    limitGo bind s0 L es fin = ⟨annotTrue bind (passed L es) ++ (exceededRes bind s0).evs, .done⟩ := by
  obtain ⟨r, e, hr⟩ := limitGo_add bind s0 h 0 fin
  rw [Nat.zero_add] at e
  rw [e, hr rfl, exceededRes_eta]
  rfl

/-! ## The limit is tight -/

/-- For a goal that contains no inner limit: `inference_limit_exceeded` iff the goal needs more
than `L` inferences (all solutions share the budget). -/
theorem C40_tight (L : Nat) (es : List Ev) (h : hasProbe es = false) :
    fires L es = true ↔ L < ticks es := by
  induction L, es using fires.induct with
  | case1 => exact ⟨nofun, nofun⟩
  | case2 es => exact ⟨fun _ => Nat.succ_pos _, fun _ => rfl⟩
  | case3 b es ih => exact (ih h).trans Nat.succ_lt_succ_iff.symm
  | case4 | case5 => cases h
  | case6 b s es ih => exact ih h

/-- When the limit fires exactly `L` inferences were counted. -/
theorem C40_budget_used_when_exceeded (L : Nat) (es : List Ev) (h : fires L es = true) :
    ticks (passed L es) = L := by
  induction L, es using fires.induct with
  | case1 => cases h
  | case2 | case4 => rfl
  | case3 b es ih => exact congrArg (· + 1) (ih h)
  | case5 b es ih => exact ih h
  | case6 b s es ih => exact ih h

/-! ## Monotonicity in L -/

/-- `inference_limit_exceeded` at `L'` implies it at every `L ≤ L'`. -/
theorem C40_exceeded_downward (L L' : Nat) (es : List Ev) (hl : L ≤ L') (h : fires L' es = true) :
    fires L es = true := by
  -- written `k + L` the larger budget steps with `L` by computation, in every clause of `fires`
  obtain ⟨k, rfl⟩ := Nat.le.dest hl
  rw [Nat.add_comm] at h
  clear hl
  induction L, es using fires.induct with
  | case1 => cases h
  | case2 | case4 => rfl
  | case3 b es ih | case5 b es ih | case6 b s es ih => exact ih h

/-- Once the limit does not fire the result is the same for every larger limit. -/
theorem C40_stable_above (L L' : Nat) (es : List Ev) (fin : Fin) (hl : L ≤ L')
    (h : fires L es = false) : limitGo bind s0 L' es fin = limitGo bind s0 L es fin := by
  have h' : fires L' es = false :=
    Bool.eq_false_iff.mpr fun hf => Bool.eq_false_iff.mp h (C40_exceeded_downward L L' es hl hf)
  rw [C40_faithful_if_not_exceeded bind s0 L es fin h, C40_faithful_if_not_exceeded bind s0 L' es fin h']

/-- What is delivered under `L` before `inference_limit_exceeded` is delivered, identically and
in the same order, as a prefix under every `L' ≥ L`. -/
theorem C40_monotone_prefix (L L' : Nat) (es : List Ev) (fin : Fin) (hl : L ≤ L')
    (h : fires L es = true) :
    (limitGo bind s0 L es fin).evs = annotTrue bind (passed L es) ++ (exceededRes bind s0).evs ∧
    ∃ t, (limitGo bind s0 L' es fin).evs = annotTrue bind (passed L es) ++ t := by
  refine ⟨by rw [C40_exceeded_shape bind s0 L es fin h], ?_⟩
  obtain ⟨k, rfl⟩ := Nat.le.dest hl
  obtain ⟨r, e, _⟩ := limitGo_add bind s0 h k fin
  exact ⟨r.evs, by rw [Nat.add_comm, e]; rfl⟩

/-! ## Nested limits -/

/-- An enclosing counter sees exactly the inferences the inner call consumed: all of the goal's if
the inner limit did not fire, exactly `L` if it did (the refused inference is not counted). -/
theorem C40_outer_count (L : Nat) (es : List Ev) (fin : Fin) :
    ticks (limitGo bind s0 L es fin).evs = if fires L es = true then L else ticks es := by
  cases h : fires L es with
  | true =>
    rw [C40_exceeded_shape bind s0 L es fin h]
    simp [ticks_append, ticks_annotTrue, ticks_exceeded, C40_budget_used_when_exceeded L es h]
  | false =>
    rw [C40_faithful_if_not_exceeded bind s0 L es fin h]
    simp [ticks_passGo]

/-- The inner call never costs the outer counter more than its own limit. -/
theorem C40_outer_count_le (L : Nat) (es : List Ev) (fin : Fin) :
    ticks (limitGo bind s0 L es fin).evs ≤ L ∧ ticks (limitGo bind s0 L es fin).evs ≤ ticks es := by
  rw [C40_outer_count]
  cases h : fires L es with
  | true =>
    -- fewer inferences than the budget cannot make the limit fire
    exact ⟨Nat.le_refl _, Nat.le_of_not_lt fun hlt => Bool.eq_false_iff.mp (fires_of_lt es L hlt) h⟩
  | false =>
    -- a probe can hit the budget early, never late
    refine ⟨?_, Nat.le_refl _⟩
    show ticks es ≤ L
    rw [← passed_of_not_fires es L h]
    exact ticks_passed_le L es

/-- Two nested limits around a goal without further limits: the outer limit fires iff it is at
least as tight as the inner one (a tie goes to the outer limit, as `CWIL::add_limit` does not push
a limit that is not strictly tighter) and the goal needs more: the effective limit is the minimum.
`h` is not used: `fires_limitGo` is the same equation for every trace. -/
theorem C40_nested_effective_limit (Lo Li : Nat) (es : List Ev) (fin : Fin) (h : hasProbe es = false) :
    fires Lo (limitGo bind s0 Li es fin).evs = (decide (Lo ≤ Li) && fires Lo es) :=
  fires_limitGo bind s0 Lo Li es fin

/-! ## The instrumented interpreter uses `limit` for the construct -/

/-- The trace of `call_with_inference_limit(G, L, R)` (called without counting its own call) is
`limit` applied to the trace of `G`; the inner run never needs more than `L + 1` inferences. -/
theorem C40_run_unfold (prog : Prog) (n : Nat) (g1 l r g' : Term) (s : St) (b lim : Nat)
    (hl : checkLimit n s.σ l = .ok lim) (hg : metaGoal n s.σ g1 = some g') :
    run (n + 1) prog (.str "call_with_inference_limit" [g1, l, r]) s false b =
      limit (bindWith n r) s lim (run n prog g' s true (if lim < b then lim + 1 else b)) := by
  rw [run, step, withTick.eq_def, if_neg Bool.false_ne_true, hl, hg]

/-- A negative limit is a domain error, raised before the goal is run. (The instantiation and type
errors of `checkLimit` for an unbound or non-integer limit are not stated.) -/
theorem C40_limit_argument_errors (n : Nat) (σ : Subst) (l : Term) (v : Int) (hv : v < 0)
    (h : walk n σ l = some (.int v)) :
    checkLimit n σ l = .err (domErr "not_less_than_zero" (.int v)) := by
  simp [checkLimit, h, hv]

/-! ## The counter mechanism -/

/-- The `CWIL` mirror (absolute limits on one shared local count, a limit pushed only if strictly
tighter than the enclosing one, removal by block, repaired handler) behaves on EVERY sequence of
operations exactly like a stack of independent remaining budgets in which the outermost exhausted
level fires — whatever the local and global counts were before. -/
theorem C40_mechanism_meets_spec (ops : List Op) (lc gc : Nat) :
    mrun true ⟨⟨lc, gc, [], false⟩, 0⟩ ops = srun [] ops :=
  run_sim ops _ _ (inv_init lc gc)

/-- Determinism / independence of the machine state: which limit fires at which inference does not
depend on the values of the inference counters before the call. -/
theorem C40_initial_counts_irrelevant (ops : List Op) (lc gc : Nat) :
    mrun true ⟨⟨lc, gc, [], false⟩, 0⟩ ops = mrun true ⟨CWIL.new, 0⟩ ops := by
  rw [C40_mechanism_meets_spec, CWIL.new, C40_mechanism_meets_spec]

/-- When every level has been left (normally, by a ball, or after its limit fired: `sfinal [] ops = []`)
the limit stack is empty again, the depth is 0 and the flag is clear: the instance for an empty
budget stack of the invariant `Inv` kept by every operation (`final_inv`). -/
theorem C40_counter_stack_restored (ops : List Op) (lc gc : Nat)
    (h : sfinal [] ops = []) :
    (mfinal true ⟨⟨lc, gc, [], false⟩, 0⟩ ops).c.limits = [] ∧
    (mfinal true ⟨⟨lc, gc, [], false⟩, 0⟩ ops).depth = 0 ∧
    (mfinal true ⟨⟨lc, gc, [], false⟩, 0⟩ ops).c.exceeded = false := by
  have i := final_inv ops _ _ (inv_init lc gc)
  rw [h] at i
  exact ⟨by rw [i.lims]; rfl, by rw [i.depth]; rfl, i.flag⟩

/-- The pinned handler (flag only cleared by `reset`, i.e. when no limit is left) violates the
specification: after an inner limit (1) has fired inside an outer limit (5) the outer limit is
never enforced (finding C40-1); the repaired handler fires it. -/
theorem C40_pinned_handler_violates :
    let ops := [Op.enter 5, .enter 1, .tick, .tick, .tick, .tick, .tick, .tick, .tick]
    srun [] ops = [none, none, none, some 2, none, none, none, none, some 1] ∧
    mrun true ⟨CWIL.new, 0⟩ ops = [none, none, none, some 2, none, none, none, none, some 1] ∧
    mrun false ⟨CWIL.new, 0⟩ ops = [none, none, none, some 2, none, none, none, none, none] := by
  decide +kernel

/-! ## Non-vacuity -/

def exS : St := ⟨[], 0⟩
def exBind : String → St → Option St := fun a s => some ⟨("R", .atom a) :: s.σ, s.ctr⟩
def exEs : List Ev := [.tick, .ans exS, .tick, .ans exS]
def exR (s : St) : String := match lookup s.σ "R" with | some (.atom a) => a | _ => "?"

/-- a goal with two solutions needing 1 + 1 inferences; limit 1: first solution with `true`, then
exceeded; limit 2: both solutions, `true` then `!`. -/
example : fires 1 exEs = true ∧ fires 2 exEs = false ∧
    (answers (limitGo exBind exS 1 exEs .done).evs).map exR = ["true", "inference_limit_exceeded"] ∧
    (answers (limitGo exBind exS 2 exEs .done).evs).map exR = ["true", "!"] :=
  ⟨rfl, rfl, rfl, rfl⟩

/-- tie of an inner and an outer limit: the outer one fires. -/
example : fires 3 (limitGo (fun _ s => some s) ⟨[], 0⟩ 3 [.tick, .tick, .tick, .tick] .done).evs = true := by
  decide

end Scryer.Cwil
