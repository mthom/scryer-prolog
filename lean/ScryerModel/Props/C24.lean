import ScryerModel.Proofs.Graph
/-!
# C24 — Cyclic terms are processed correctly and always terminate

Terms are finite term GRAPHS (`Model/Graph.lean`: array of variable / constant / compound nodes,
arbitrary sharing and back edges); the infinite-tree reading of a node is the family of its
unfoldings `unfold g k i` to every finite depth `k`. All theorems hold for every graph of any size
and any cycle structure.

* termination: every algorithm is structurally recursive on explicit fuel; `C24_compare_terminates`,
  `C24_unify_terminates`, `C24_walk_terminates_and_is_exact` (and, for `acyclic`, the right-to-left
  direction of `C24_acyclic_iff_no_reachable_cycle`) show that the fuel the entry points start with is
  never exhausted (`size + 1` for the node walks, `size² + 1` for the pair walks), i.e. the
  visited-set / tabu-list mechanism bounds the walk;
* `acyclic_term/1` ⇔ the unfolding is a finite tree ⇔ no cycle is reachable;
* `==` (and `compare/3` answering `=`) ⇔ the two nodes have the same unfolding at every depth;
  any `<`/`>` answer of `compare/3` comes with a depth at which the unfoldings differ;
* `term_variables/2` = exactly the reachable variable nodes, each once; `ground/1` ⇔ none;
* `copy_term/2`: the copy denotes the same tree up to an injective renaming of the variables to
  NEW nodes, and the source graph is untouched;
* the model is pure, so "`acyclic_term/1` leaves every term unchanged" holds trivially in the model;
  for the implementation (pointer reversal, mark bits) it is tied by the run only
  (the unfolding probes before/after), see notes/design/C24.md.

Not proved (tied by the correspondence run only): that the unifier computed by `unify` makes the two
nodes equal and is most general; the order `compare/3` induces on non-equal rational trees.
-/
namespace Scryer.Graph

/-! ## acyclic_term/1 -/

/-- `acyclic_term/1` succeeds exactly when the term is a finite tree (its unfolding is complete at
some depth). -/
theorem C24_acyclic_iff_finite (g : Graph) (r : Nat) :
    acyclic g r = true ↔ ∃ k, fin g k r = true :=
  ⟨fun h => ⟨_, fin_of_acyc g _ [] r h⟩, fun ⟨_, h⟩ => acyclic_of_noCycle (finite_noCycle h)⟩

/-- `acyclic_term/1` succeeds exactly when no cycle is reachable from the root. In particular the
walk terminates with the right answer on every graph: its fuel `size + 1` is never the reason for
a `false`. -/
theorem C24_acyclic_iff_no_reachable_cycle (g : Graph) (r : Nat) :
    acyclic g r = true ↔ ¬ ∃ x, Reach g r x ∧ ReachP g x x :=
  ⟨fun h => finite_noCycle (fin_of_acyc g _ [] r h), acyclic_of_noCycle⟩

/-- a finite term stays finite at larger depths. -/
theorem C24_fin_mono (g : Graph) {k k' : Nat} (hk : k ≤ k') {i : Nat} (h : fin g k i = true) :
    fin g k' i = true := by
  induction k generalizing k' i with
  | zero => cases h
  | succ k ih =>
    obtain ⟨k', rfl⟩ := Nat.exists_eq_succ_of_ne_zero (Nat.ne_of_gt (Nat.lt_of_lt_of_le k.succ_pos hk))
    exact fin_succ.2 fun c e => ih (Nat.le_of_succ_le_succ hk) (fin_succ.1 h c e)

/-! ## ==/2 and compare/3 -/

/-- the pair walk never runs out of fuel: at most `size²` pairs of compound nodes enter the tabu
list (termination of `==`/`compare/3` on every graph). -/
theorem C24_compare_terminates (g : Graph) (a b : Nat) : cmp g a b ≠ .fuel :=
  (cmpN_fuel g _ a b [] (room_pairFuel g)).1

/-- `a == b` exactly when the two nodes denote the same (possibly infinite) tree: equal unfoldings
at every depth. Variables are equal only to themselves. -/
theorem C24_eq_iff_same_unfoldings (g : Graph) (a b : Nat) :
    eq g a b = true ↔ ∀ k, unfold g k a = unfold g k b := by
  unfold eq
  cases hc : cmp g a b with
  | same s' => exact ⟨fun _ => cmp_same_sound hc, fun _ => rfl⟩
  | fuel => exact absurd hc (C24_compare_terminates g a b)
  | _ =>
    obtain ⟨k, hk⟩ := cmp_diff hc trivial
    exact ⟨nofun, fun h => absurd (h k) hk⟩

/-- whenever `compare/3` reports an order (`<`, `>`, or two distinct variables) the trees really
differ: there is a depth at which the unfoldings are different. -/
theorem C24_compare_difference_is_real (g : Graph) (a b : Nat)
    (h : cmp g a b = .lt ∨ cmp g a b = .gt ∨ ∃ x y, cmp g a b = .vars x y) :
    ∃ k, unfold g k a ≠ unfold g k b := by
  rcases h with h | h | ⟨x, y, h⟩ <;> exact cmp_diff h trivial

/-- `==` is an equivalence on nodes (a consequence of the unfolding characterisation). -/
theorem C24_eq_equivalence (g : Graph) (a b c : Nat) :
    eq g a a = true ∧ (eq g a b = true → eq g b a = true) ∧
    (eq g a b = true → eq g b c = true → eq g a c = true) := by
  simp only [C24_eq_iff_same_unfoldings]
  exact ⟨fun _ => trivial, fun h k => (h k).symm, fun h1 h2 k => (h1 k).trans (h2 k)⟩

/-! ## ground/1 and term_variables/2 -/

/-- the node walk with a visited set terminates on every well-formed graph and lists exactly the
reachable nodes, each once. -/
theorem C24_walk_terminates_and_is_exact (g : Graph) (hw : WF g) (r : Nat) (hr : r < g.size) :
    (∃ s, dfs g (g.size + 1) r [] = some s) ∧
    (reachList g r).Nodup ∧ ∀ x, x ∈ reachList g r ↔ Reach g r x :=
  -- neither hypothesis is needed: only compound nodes spend fuel, and they lie inside the array
  ⟨(dfs_top g r).imp fun _ h => h.1, reachList_spec g r⟩

/-- `term_variables/2` returns exactly the variable nodes reachable from the root, each once. -/
theorem C24_term_variables_exact (g : Graph) (hw : WF g) (r : Nat) (hr : r < g.size) :
    (termVars g r).Nodup ∧ ∀ x, x ∈ termVars g r ↔ (Reach g r x ∧ node g x = .var) := by
  obtain ⟨_, h1, h2⟩ := C24_walk_terminates_and_is_exact g hw r hr
  exact ⟨h1.filter _, fun x => by rw [termVars, List.mem_filter, h2, isVar_iff]⟩

/-- `ground/1` succeeds exactly when no variable is reachable. -/
theorem C24_ground_iff_no_reachable_variable (g : Graph) (hw : WF g) (r : Nat) (hr : r < g.size) :
    ground g r = true ↔ ∀ x, Reach g r x → node g x ≠ .var := by
  rw [ground, List.isEmpty_iff, List.eq_nil_iff_forall_not_mem]
  exact forall_congr' fun x => by rw [(C24_term_variables_exact g hw r hr).2 x, not_and]

/-! ## copy_term/2 -/

/-- `copy_term/2`: the nodes of the source are untouched; the copy denotes, at every depth, the
tree of the source with each variable `x` renamed to `fwd … x`; these are new nodes (index ≥ old
size: the copy shares no variable with the source) and distinct reachable nodes get distinct
copies (sharing and cycles are preserved, not merged). -/
theorem C24_copy_term (g : Graph) (hw : WF g) (r : Nat) (hr : r < g.size) :
    (∀ i, i < g.size → node (copy g r).1 i = node g i) ∧
    (∀ k, unfold (copy g r).1 k (copy g r).2 = unfoldR (fwd g.size (reachList g r)) g k r) ∧
    (∀ x, g.size ≤ fwd g.size (reachList g r) x) ∧
    (∀ x y, Reach g r x → Reach g r y →
      fwd g.size (reachList g r) x = fwd g.size (reachList g r) y → x = y) := by
  obtain ⟨_, _, hl⟩ := C24_walk_terminates_and_is_exact g hw r hr
  refine ⟨fun i hi => node_append_left g _ hi, fun k => ?_, fun x => Nat.le_add_right _ _,
    fun x y hx hy h => indexOf_inj ((hl x).2 hx) ((hl y).2 hy) (Nat.add_left_cancel h)⟩
  -- a copied node unfolds like its source: its children are reachable, hence copied too
  have key : ∀ k x, x ∈ reachList g r →
      unfold (copy g r).1 k (fwd g.size (reachList g r) x) = unfoldR (fwd g.size (reachList g r)) g k x := by
    intro k
    induction k with
    | zero => intro x _; rfl
    | succ k ih =>
      intro x hx
      rw [unfold, unfoldR, node_copy g r hx]
      cases hn : node g x with
      | str f as =>
        simp only [mapNode, List.map_map]
        exact congrArg _ (List.map_congr_left fun c hc => ih c ((hl c).2 (((hl x).1 hx).tail ⟨f, as, hn, hc⟩)))
      | _ => rfl
  exact key k r ((hl r).2 .refl)

/-- renaming by the identity is the plain unfolding (so for a ground term the copy denotes the
same tree as the source). -/
theorem C24_unfoldR_id (g : Graph) (k i : Nat) : unfoldR id g k i = unfold g k i := by
  induction k generalizing i with
  | zero => rfl
  | succ k ih =>
    rw [unfoldR, unfold]
    cases node g i with
    | str f as => exact congrArg _ (List.map_congr_left fun c _ => ih c)
    | _ => rfl

/-! ## unification -/

/-- unification without occurs check terminates on every graph: the tabu list of compound pairs
bounds the walk, the fuel `size² + 1` is never exhausted. (That the computed bindings are a most
general unifier is not proved here; it is tied to the implementation by the run.) -/
theorem C24_unify_terminates (g : Graph) (a b : Nat) : ∀ x, unify g a b = x → x ≠ .fuel := by
  rintro x rfl
  exact (uniN_fuel g _ a b [] [] (room_pairFuel g)).1

/-! ## non-vacuity: the branches are reached -/

/-- `X = f(X, Y)`: node 0 = f(0, 1), node 1 a variable. -/
def gLoop : Graph := #[.str 2 [0, 1], .var]
/-- `f(X, a)` twice: a one-node loop and its two-node unrolling. -/
def gTwin : Graph := #[.str 2 [0, 1], .atom 11, .str 2 [3, 1], .str 2 [2, 1]]
/-- a finite DAG with sharing: f(g(V), g(V)) with one shared g(V). -/
def gDag : Graph := #[.str 2 [1, 1], .str 3 [2], .var]

example : WF gLoop := WF_of_wfB (by decide +kernel)
example : acyclic gLoop 0 = false := by decide
example : acyclic gDag 0 = true := by decide
example : termVars gLoop 0 = [1] := by decide
example : ground gLoop 0 = false := by decide
example : eq gTwin 0 2 = true := by decide
example : eq gTwin 0 1 = false := by decide
example : cmp gTwin 1 0 = .lt := by decide
example : (copy gLoop 0).2 = 2 ∧ (copy gLoop 0).1 = #[.str 2 [0, 1], .var, .str 2 [2, 3], .var] := by decide
example : unify gLoop 0 1 = .ok [(1, 0)] [] := by decide
example : unify gTwin 0 1 = .fail := by decide

end Scryer.Graph
