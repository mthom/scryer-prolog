import ScryerModel.Proofs.ArithInt
import ScryerModel.Proofs.ArithIntBits
/-!
# C01 — Integer arithmetic is exact at every magnitude

Property theorems over the mechanism model `Model/ArithInt.lean` (which mirrors
`arithmetic_ops.rs` branch by branch). `Num.val` is the mathematical integer a `Number`
denotes; `Num.wf` says a fixnum payload is inside the 56-bit range. Every theorem is for all
integers — no bound on magnitude. The lemmas about the loops, bounds and guards are in
`Proofs/ArithInt` (core Lean only) and `Proofs/ArithIntBits` (link to Mathlib's `Int.land/lor/xor`).
Operations that can raise, and `eval`, are proved in the form `Refines` of `Proofs/ArithInt`:
`applyBin_refines` is one step of the evaluator against one step of the specification, `eval_refines`
the fold over an expression, of which `C01_eval_wf` and `C01_eval_exact` are the two halves.

The only side condition anywhere is the "fits in memory" condition of the shifts (`shrOk`,
`shlOk`, collected over an expression by `InDomain`): shift counts are clamped to `usize::MAX`
by the code, which is exact unless the operand has ≥ 2^64-1 significant bits (right shift) or
the count itself exceeds `usize::MAX` with a non-zero operand (left shift; the exact result
could not be stored). `C01_shl_side_condition_necessary` shows the latter is not an artefact.
-/
namespace Scryer.Arith

/-! ## `+ - * - abs` -/

/-- `+` is exact for every pair of representations, across the i64 and fixnum boundaries. -/
theorem C01_add_exact (a b : Num) : (add a b).val = a.val + b.val ∧ (add a b).wf := by
  cases a <;> cases b
  · exact checked_spec _ _
  · exact ⟨rfl, trivial⟩
  · exact ⟨Int.add_comm _ _, trivial⟩
  · exact ⟨rfl, trivial⟩

/-- unary minus is exact (`checked_neg`, else bignum). -/
theorem C01_neg_exact (a : Num) : (neg a).val = - a.val ∧ (neg a).wf :=
  neg_spec a

/-- `-` (computed as `a + (-b)`) is exact. -/
theorem C01_sub_exact (a b : Num) : (sub a b).val = a.val - b.val ∧ (sub a b).wf := by
  have h := C01_add_exact a (neg b)
  rwa [(neg_spec b).1, ← Int.sub_eq_add_neg] at h

/-- `*` is exact (checked i64 multiplication, else bignum). -/
theorem C01_mul_exact (a b : Num) : (mul a b).val = a.val * b.val ∧ (mul a b).wf := by
  cases a <;> cases b
  · exact checked_spec _ _
  · exact ⟨rfl, trivial⟩
  · exact ⟨Int.mul_comm _ _, trivial⟩
  · exact ⟨rfl, trivial⟩

/-- `abs` is exact; the special constant used for `Fixnum::MIN` is the right one. -/
theorem C01_abs_exact (a : Num) (h : a.wf) : (abs a).val = a.val.natAbs ∧ (abs a).wf := by
  cases a with
  | big v => exact ⟨rfl, trivial⟩
  | fix v =>
    simp only [abs, val_fix]
    split
    · rename_i hn; exact ⟨rfl, hn⟩
    · rename_i hn
      -- `|v|` is out of the fixnum range only for `v = Fixnum::MIN`
      have hv := (inFix_iff v).1 h
      have : ¬ (-(2^55) ≤ (v.natAbs : Int) ∧ (v.natAbs : Int) ≤ 2^55 - 1) :=
        fun hh => hn ((inFix_iff _).2 hh)
      refine ⟨?_, trivial⟩
      simp only [ofBig_val, FIX_MAX]
      omega

/-! ## `//`, `rem`, `mod`, `div` -/

/-- `//` truncates toward zero (`Int.tdiv`) for every representation pair, including
`i64::MIN // -1`; `zero_divisor` exactly when the divisor denotes 0. -/
theorem C01_idiv_exact (a b : Num) :
    (idiv a b).map Num.val
      = (if b.val = 0 then .error .zeroDivisor else .ok (Int.tdiv a.val b.val)) ∧
    (∀ n, idiv a b = .ok n → n.wf) := by
  refine Refines.exact ?_
  cases a <;> cases b
  -- fix/fix: `checked_div`, which refuses only `i64::MIN / -1`; with a bignum on either side `dashu` divides
  · refine .guard .rfl _ fun _ => ?_
    split
    · exact .ok (ofI64_spec _)
    · exact .ok ⟨rfl, trivial⟩
  all_goals exact .guard .rfl _ fun _ => .ok ⟨rfl, trivial⟩

/-- `rem` is the truncating remainder (`Int.tmod`, sign of the dividend). -/
theorem C01_rem_exact (a b : Num) :
    (remainder a b).map Num.val
      = (if b.val = 0 then .error .zeroDivisor else .ok (Int.tmod a.val b.val)) ∧
    (∀ n, remainder a b = .ok n → n.wf) := by
  refine Refines.exact ?_
  cases a <;> cases b
  · exact .guard .rfl _ fun _ => .ok (ofI64_spec _)
  all_goals exact .guard .rfl _ fun _ => .ok ⟨rfl, trivial⟩

/-- `ibig_rem_floor` (residue modulo `|n2|`, shifted by `n2` when `n2 < 0` and the residue is
non-zero) is the flooring modulus, for every `n1 n2`. -/
theorem C01_ibigRemFloor_exact (n1 n2 : Int) : ibigRemFloor n1 n2 = Int.fmod n1 n2 := by
  unfold ibigRemFloor
  rw [Int.fmod_eq_emod]
  have e : n1.emod (n2.natAbs : Int) = n1 % n2 := by
    show n1 % (n2.natAbs : Int) = n1 % n2
    rcases Int.natAbs_eq n2 with h | h
    · rw [← h]
    · conv => rhs; rw [h]
      rw [Int.emod_neg]
  simp only [e]
  by_cases hn : n2 < 0
  · simp only [hn, if_true]
    by_cases hr : n1 % n2 = 0
    · have : n2 ∣ n1 := Int.dvd_of_emod_eq_zero hr
      simp [hr, this]
    · have : ¬ n2 ∣ n1 := fun hd => hr (Int.emod_eq_zero_of_dvd hd)
      have h0 : ¬ (0 ≤ n2) := by omega
      simp [hr, this, h0]
  · have h0 : 0 ≤ n2 := by omega
    simp [hn, h0]

/-- `mod` is the flooring modulus (`Int.fmod`, sign of the divisor). -/
theorem C01_mod_exact (a b : Num) :
    (modulus a b).map Num.val
      = (if b.val = 0 then .error .zeroDivisor else .ok (Int.fmod a.val b.val)) ∧
    (∀ n, modulus a b = .ok n → n.wf) := by
  refine Refines.exact ?_
  cases a <;> cases b
  · exact .guard .rfl _ fun _ => .ok (ofI64_spec _)
  all_goals exact .guard .rfl _ fun _ => .ok ⟨C01_ibigRemFloor_exact _ _, trivial⟩

/-- `div`, computed as `(a - a mod b) // b`, is flooring division (`Int.fdiv`). -/
theorem C01_div_exact (a b : Num) :
    (intFloorDiv a b).map Num.val
      = (if b.val = 0 then .error .zeroDivisor else .ok (Int.fdiv a.val b.val)) ∧
    (∀ n, intFloorDiv a b = .ok n → n.wf) := by
  have h := (Refines.of (d := True) (C01_mod_exact a b)).bind (K := fun m => idiv (sub a m) b)
    (K' := fun m => if b.val = 0 then .error .zeroDivisor else .ok (Int.tdiv (a.val - m) b.val))
    fun m _ => by rw [← (C01_sub_exact a m).1]; exact .of (C01_idiv_exact _ b)
  refine ⟨(h.1 trivial).trans ?_, h.2⟩
  by_cases hb : b.val = 0
  · simp only [if_pos hb]
  · simp only [if_neg hb, tdiv_sub_fmod _ _ hb]

/-- each of the four operations raises `zero_divisor` iff the divisor denotes 0
(and raises nothing else). -/
theorem C01_zero_divisor_iff (a b : Num) :
    (idiv a b = .error .zeroDivisor ↔ b.val = 0) ∧
    (remainder a b = .error .zeroDivisor ↔ b.val = 0) ∧
    (modulus a b = .error .zeroDivisor ↔ b.val = 0) ∧
    (intFloorDiv a b = .error .zeroDivisor ↔ b.val = 0) :=
  ⟨zeroDivisor_iff _ _ _ (C01_idiv_exact a b).1, zeroDivisor_iff _ _ _ (C01_rem_exact a b).1,
   zeroDivisor_iff _ _ _ (C01_mod_exact a b).1, zeroDivisor_iff _ _ _ (C01_div_exact a b).1⟩

/-! ## gcd -/

/-- the binary GCD on machine words: whenever it answers (no `checked_abs` failure) the answer
is the mathematical gcd. Covers the loop invariant *and* fuel sufficiency of the model's three
loops (64 halvings are enough below 2^64; the subtraction loop ends because `n1+n2` decreases). -/
theorem C01_isizeGcd_exact (n1 n2 r : Int) (h1 : inI64 n1 = true) (h2 : inI64 n2 = true)
    (h : isizeGcd n1 n2 = some r) : r = Int.gcd n1 n2 := by
  have hi1 := (inI64_iff n1).1 h1
  have hi2 := (inI64_iff n2).1 h2
  unfold isizeGcd at h
  by_cases hz1 : n1 = 0
  · rw [if_pos hz1] at h
    split at h <;> cases h
    rw [hz1, Int.gcd_zero_left]
  rw [if_neg hz1] at h
  by_cases hz2 : n2 = 0
  · rw [if_pos hz2] at h
    split at h <;> cases h
    rw [hz2, Int.gcd_zero_right]
  rw [if_neg hz2] at h
  split at h
  · cases h
  · rename_i hmin
    have hmin1 : n1 ≠ -(2^63) := fun e => hmin (Or.inl e)
    have hmin2 : n2 ≠ -(2^63) := fun e => hmin (Or.inr e)
    obtain ⟨a, b, s, hc, hg⟩ := gcdWords n1.natAbs n2.natAbs (Int.natAbs_ne_zero.2 hz1)
      (Int.natAbs_ne_zero.2 hz2) (by omega) (by omega)
    rw [hc] at h
    cases h
    show _ = ((Nat.gcd n1.natAbs n2.natAbs : Nat) : Int)
    rw [← hg, Int.natCast_mul, Int.natCast_pow]; rfl

/-- `gcd` is exact for every representation pair (`gcd(0,0) = 0`). -/
theorem C01_gcd_exact (a b : Num) (ha : a.wf) (hb : b.wf) :
    (gcd a b).val = Int.gcd a.val b.val ∧ (gcd a b).wf := by
  cases a <;> cases b
  · simp only [gcd]
    split
    · rename_i r hr
      exact ⟨(ofI64_val r).trans
        (C01_isizeGcd_exact _ _ r (inI64_of_inFix _ ha) (inI64_of_inFix _ hb) hr), ofI64_wf r⟩
    · exact ⟨rfl, trivial⟩
  · exact ⟨congrArg Int.ofNat (Int.gcd_comm _ _), trivial⟩
  · exact ⟨rfl, trivial⟩
  · exact ⟨rfl, trivial⟩

/-! ## shifts -/

/-- the specification's left shift is multiplication by a power of two. -/
theorem C01_shlZ_exact (a : Int) (n : Nat) : shlZ a n = a * 2 ^ n := by
  unfold shlZ; split
  · rename_i h; rw [h, Int.zero_mul]
  · rfl

/-- the specification's right shift is flooring division by a power of two. -/
theorem C01_shrZ_exact (a : Int) (n : Nat) : shrZ a n = a / 2 ^ n := by
  unfold shrZ; rw [Int.shiftRight_eq_div_pow]; simp

/-- `checked_signed_shl`: whenever it answers, the answer is `x * 2^shift`, and (for an i64 `x`
and a non-negative count) it lies inside i64 — so the machine shift did not wrap. -/
theorem C01_checkedSignedShl_exact (x s r : Int) (h : checkedSignedShl x s = some r) :
    r = x * 2 ^ s.toNat ∧ (inI64 x = true → 0 ≤ s → inI64 r = true) := by
  unfold checkedSignedShl at h
  by_cases h0 : s = 0
  · rw [if_pos h0] at h; cases h
    exact ⟨h0 ▸ (Int.mul_one x).symm, fun hx _ => hx⟩
  rw [if_neg h0] at h
  by_cases hx0 : x ≥ 0
  · rw [if_pos hx0] at h
    split at h <;> cases h
    rename_i hs
    refine ⟨C01_shlZ_exact _ _, fun _ hs0 => ?_⟩
    -- the guard `shift < leading_zeros` keeps the exact product inside i64
    have := shl_fits x s hx0 hs0 hs
    rw [C01_shlZ_exact]; exact (inI64_iff _).2 ⟨by omega, by omega⟩
  rw [if_neg hx0] at h
  split at h
  · cases h
  · simp only at h
    split at h <;> cases h
    rename_i hs
    refine ⟨by rw [C01_shlZ_exact, Int.neg_mul, Int.neg_neg], fun _ hs0 => ?_⟩
    have := shl_fits (-x) s (by omega) hs0 hs
    rw [C01_shlZ_exact]; exact (inI64_iff _).2 ⟨by omega, by omega⟩

/-- right shift of a fixnum by ANY count `n ≥ 0` is `⌊a / 2^n⌋`: below 64 the machine shift,
from 64 on (also beyond the clamp to `u32::MAX`) the sign fill `if a < 0 then -1 else 0`. -/
theorem C01_shrNonneg_fix_exact (a n : Int) (ha : inFix a = true) (hn : 0 ≤ n) :
    (shrNonneg (.fix a) n).val = a / 2 ^ n.toNat := by
  have ha := (inFix_iff a).1 ha
  simp only [shrNonneg, ofI64_val, clampU32]
  by_cases hu : inU32 n = true
  · simp only [hu, if_true]
    split
    · exact C01_shrZ_exact _ _
    · rw [ediv_pow_signfill a 55 n.toNat (by omega) (by omega) (by omega)]
  · simp only [hu]
    have hu' : ¬ (0 ≤ n ∧ n ≤ 2^32 - 1) := fun h => hu ((inU32_iff n).2 h)
    have : ¬ (U32_MAX < 64) := by unfold U32_MAX; omega
    simp only [Bool.false_eq_true, if_false, this]
    rw [ediv_pow_signfill a 55 n.toNat (by omega) (by omega) (by omega)]

/-- right shift by `n ≥ 0` is `⌊a / 2^n⌋`, for a bignum under the side condition `shrOk`
(`n ≤ usize::MAX`, or `-2^(2^64-1) ≤ a < 2^(2^64-1)`); fixnums always satisfy it. -/
theorem C01_shrNonneg_exact (a : Num) (n : Int) (ha : a.wf) (hn : 0 ≤ n) (h : shrOk a.val n) :
    (shrNonneg a n).val = a.val / 2 ^ n.toNat ∧ (shrNonneg a n).wf := by
  refine ⟨?_, shrNonneg_wf a n⟩
  cases a with
  | fix v => exact C01_shrNonneg_fix_exact v n ha hn
  | big v =>
    simp only [shrNonneg, ofBig_val, val_big, clampUsize, C01_shrZ_exact]
    by_cases hu : inUsize n = true
    · simp only [hu, if_true]
    · simp only [hu]
      have hu' : ¬ (0 ≤ n ∧ n ≤ USIZE_MAX) := fun h => hu ((inUsize_iff n).2 h)
      rcases h with h | h
      · exact absurd ⟨hn, h⟩ hu'
      · -- clamped count: both the clamped and the true shift leave only the sign
        have hle : USIZE_MAX.toNat ≤ n.toNat := Int.toNat_le_toNat (by omega)
        simp only [Bool.false_eq_true, if_false]
        rw [ediv_pow_signfill v _ _ (Nat.le_refl _) h.1 h.2, ediv_pow_signfill v _ _ hle h.1 h.2]

/-- no side condition is needed when the left operand is a fixnum. -/
theorem C01_shrOk_of_fix (a n : Int) (ha : inFix a = true) : shrOk a n :=
  Or.inr (fitsMem_of_inFix a ha)

/-- stands here, not in `Proofs/ArithInt`, because it rests on `C01_checkedSignedShl_exact` and
    `C01_shlZ_exact` above. -/
theorem shlNonneg_val_clamped (a : Num) (n : Int) :
    (shlNonneg a n).val = a.val * 2 ^ (clampUsize n).toNat := by
  cases a with
  | fix v =>
    simp only [shlNonneg, val_fix]
    split
    · rename_i r hr; rw [ofI64_val]; exact (C01_checkedSignedShl_exact _ _ _ hr).1
    · exact C01_shlZ_exact _ _
  | big v => exact C01_shlZ_exact _ _

/-- left shift by `n ≥ 0` is `a * 2^n` under `shlOk` (`n ≤ usize::MAX ∨ a = 0`). -/
theorem C01_shlNonneg_exact (a : Num) (n : Int) (hn : 0 ≤ n) (h : shlOk a.val n) :
    (shlNonneg a n).val = a.val * 2 ^ n.toNat ∧ (shlNonneg a n).wf := by
  refine ⟨?_, shlNonneg_wf a n⟩
  rw [shlNonneg_val_clamped]
  rcases h with h | h
  · have : inUsize n = true := (inUsize_iff n).2 ⟨hn, h⟩
    simp only [clampUsize, this, if_true]
  · rw [h, Int.zero_mul, Int.zero_mul]

/-- the `shlOk` side condition cannot be dropped: beyond the clamp a non-zero operand gives
`a * 2^usize::MAX ≠ a * 2^n` (on the real machine the allocation fails first). -/
theorem C01_shl_side_condition_necessary (a : Num) (n : Int) (hn : USIZE_MAX < n)
    (ha : a.val ≠ 0) : (shlNonneg a n).val ≠ a.val * 2 ^ n.toNat := by
  rw [shlNonneg_val_clamped]
  have hu : ¬ (inUsize n = true) := fun h => by
    have := ((inUsize_iff n).1 h).2; omega
  simp only [clampUsize, hu, Bool.false_eq_true, if_false]
  have hlt : USIZE_MAX.toNat < n.toNat := (Int.toNat_lt_toNat (by unfold USIZE_MAX at hn; omega)).2 hn
  exact fun h => Int.ne_of_lt (Int.pow_lt_pow_of_lt (by decide) hlt) (Int.eq_of_mul_eq_mul_left ha h)

/-- `>>` with any integer count: floor division for counts ≥ 0, and a negative count shifts
the other way (`a >> -k = a << k`). -/
theorem C01_shr_exact (a b : Num) (ha : a.wf) (hd : binDomain .shr a.val b.val) :
    (shr a b).val
      = (if b.val ≥ 0 then a.val / 2 ^ b.val.toNat else a.val * 2 ^ (-b.val).toNat) ∧
    (shr a b).wf := by
  unfold shr
  rw [isNeg_ite, (neg_spec b).1]
  simp only [binDomain] at hd
  by_cases h0 : b.val ≥ 0
  · simp only [if_pos h0] at hd ⊢
    exact C01_shrNonneg_exact a _ ha (by omega) hd
  · simp only [if_neg h0] at hd ⊢
    exact C01_shlNonneg_exact a _ (by omega) hd

/-- `<<` with any integer count (negative counts shift right, flooring). -/
theorem C01_shl_exact (a b : Num) (ha : a.wf) (hd : binDomain .shl a.val b.val) :
    (shl a b).val
      = (if b.val ≥ 0 then a.val * 2 ^ b.val.toNat else a.val / 2 ^ (-b.val).toNat) ∧
    (shl a b).wf := by
  unfold shl
  rw [isNeg_ite, (neg_spec b).1]
  simp only [binDomain] at hd
  by_cases h0 : b.val ≥ 0
  · simp only [if_pos h0] at hd ⊢
    exact C01_shlNonneg_exact a _ (by omega) hd
  · simp only [if_neg h0] at hd ⊢
    exact C01_shrNonneg_exact a _ ha (by omega) hd

/-! ## bitwise -/

/-- `/\`, `\/`, `xor` compute the two's-complement operation on the denoted integers. -/
theorem C01_bitwise_exact (a b : Num) :
    ((band a b).val = land a.val b.val ∧ (band a b).wf) ∧
    ((bor a b).val = lor a.val b.val ∧ (bor a b).wf) ∧
    ((bxor a b).val = lxor a.val b.val ∧ (bxor a b).wf) := by
  cases a <;> cases b
  · exact ⟨ofI64_spec _, ofI64_spec _, ofI64_spec _⟩
  all_goals exact ⟨⟨rfl, trivial⟩, ⟨rfl, trivial⟩, ⟨rfl, trivial⟩⟩

/-- `\` is `-a - 1`; the unchecked `Fixnum(!n)` stays inside the 56-bit range. -/
theorem C01_bnot_exact (a : Num) (h : a.wf) : (bnot a).val = -a.val - 1 ∧ (bnot a).wf := by
  cases a with
  | fix v =>
    -- the fixnum range is symmetric under `!`
    have h := (inFix_iff v).1 h
    exact ⟨rfl, (inFix_iff _).2 ⟨by omega, by omega⟩⟩
  | big v => exact ⟨rfl, trivial⟩

/-- `land/lor/lxor/(-a-1)` are the bitwise operations of infinite two's complement: bit `i` of
the result is the Boolean operation on bits `i` (Mathlib's `Int.testBit`), and they coincide
with Mathlib's `Int.land`, `Int.lor`, `Int.xor`. -/
theorem C01_bitwise_bits (a b : Int) (i : Nat) :
    (land a b).testBit i = (a.testBit i && b.testBit i) ∧
    (lor a b).testBit i = (a.testBit i || b.testBit i) ∧
    (lxor a b).testBit i = (a.testBit i ^^ b.testBit i) ∧
    (-a - 1).testBit i = !a.testBit i ∧
    land a b = Int.land a b ∧ lor a b = Int.lor a b ∧ lxor a b = Int.xor a b :=
  ⟨land_eq_Int_land a b ▸ Int.testBit_land a b i, lor_eq_Int_lor a b ▸ Int.testBit_lor a b i,
   lxor_eq_Int_xor a b ▸ Int.testBit_lxor a b i, bnot_eq_lnot a ▸ Int.testBit_lnot a i,
   land_eq_Int_land a b, lor_eq_Int_lor a b, lxor_eq_Int_xor a b⟩

/-! ## min / max / sign -/

/-- `min` and `max` return an argument with the minimal / maximal value (well-formed if both are). -/
theorem C01_min_max_exact (a b : Num) (ha : a.wf) (hb : b.wf) :
    ((min a b).val = (if a.val ≤ b.val then a.val else b.val) ∧ (min a b).wf) ∧
    ((max a b).val = (if a.val ≤ b.val then b.val else a.val) ∧ (max a b).wf) := by
  refine ⟨⟨?_, ?_⟩, ?_, ?_⟩
  · -- restating the right side on the payloads gives its `if` a `Decidable` instance on them too
    cases a <;> cases b <;> rename_i x y <;> show Num.val _ = if x ≤ y then x else y <;>
      simp only [min, apply_ite Num.val, val_fix, val_big] <;> omega
  · cases a <;> cases b <;> simp only [min] <;> split <;> first | exact ha | exact hb
  · cases a <;> cases b <;> rename_i x y <;> show Num.val _ = if x ≤ y then y else x <;>
      simp only [max, apply_ite Num.val, val_fix, val_big] <;> omega
  · cases a <;> cases b <;> simp only [max] <;> split <;> first | exact ha | exact hb

/-- `sign` is the mathematical sign. -/
theorem C01_sign_exact (a : Num) : (sign a).val = Int.sign a.val ∧ (sign a).wf := by
  unfold sign
  split
  · rename_i h; exact ⟨(Int.sign_eq_one_of_pos h).symm, by decide⟩
  · split
    · rename_i h; exact ⟨(Int.sign_eq_neg_one_of_neg h).symm, by decide⟩
    · have : a.val = 0 := by omega
      exact ⟨by rw [this]; rfl, by decide⟩

/-! ## power -/

/-- the specification's power function is `a ^ n`. -/
theorem C01_powZ_exact (a : Int) (n : Nat) : powZ a n = a ^ n := by
  unfold powZ
  split
  · rename_i h; rw [h, Int.one_pow]
  · split
    · rename_i h; rw [h]
      split
      · rename_i hn; rw [hn]; rfl
      · rename_i hn; rw [Int.zero_pow hn]
    · split
      · rename_i h; rw [h, neg_one_pow]
      · rfl

/-- `i64::checked_pow`: whenever it answers, the answer is `a ^ n` and lies inside i64. That the fuel 33
suffices (a `u32` exponent has at most 32 bits, one round each) is not stated: running out would only
hand the case to `binary_pow`, which is exact as well. -/
theorem C01_checkedPow_exact (a : Int) (n : Nat) (r : Int) (h : checkedPow a n = some r) :
    r = a ^ n ∧ inI64 r = true := by
  unfold checkedPow at h
  split at h
  · rename_i h0; cases h; exact ⟨by rw [h0, Int.pow_zero], by decide⟩
  · obtain ⟨hv, hi⟩ := checkedPowLoop_spec _ _ _ _ _ h
    exact ⟨by rw [hv, Int.one_mul], hi⟩

/-- `binary_pow` (square-and-multiply, sign of the exponent ignored) is `n ^ |p|`; the fuel
`log2 |p| + 1` of the model is sufficient. -/
theorem C01_binaryPow_exact (n p : Int) : binaryPow n p = n ^ p.natAbs := by
  unfold binaryPow
  simp only
  split
  · rename_i h; rw [h, Int.pow_zero]
  · rename_i h
    rw [binaryPowLoop_val _ _ _ _ (by omega) Nat.lt_log2_self, Int.one_mul]

/-- `^` on integers: `undefined` for `0 ^ negative` (checked first), `type_error(float, a)`
for a negative exponent unless `a ∈ {1, -1}`, otherwise exactly `a ^ |b|` (so `(±1)^(-n) =
(±1)^n`). -/
theorem C01_intPow_exact (a b : Num) :
    (intPow a b).map Num.val
      = (if a.val = 0 ∧ b.val < 0 then .error .undefined
         else if b.val < 0 ∧ a.val ≠ 1 ∧ a.val ≠ -1 then .error (.typeFloat a.val)
         else .ok (a.val ^ b.val.natAbs)) ∧
    (∀ n, intPow a b = .ok n → n.wf) := by
  unfold intPow
  refine Refines.exact (.guard (zeroNegGuard_iff a b) _ fun h0 => ?_)
  rw [zeroNegGuard_iff] at h0
  cases a <;> cases b <;> rename_i x n <;> refine .guard (powGuard_iff x n h0) _ fun _ => ?_
  -- fix/fix: `checked_pow` if the exponent is a `u32` and nothing overflows; otherwise, as for the other
  -- three pairs, `binary_pow` on bignums
  · split
    · rename_i r hr
      split at hr
      · rename_i hu
        have hn : 0 ≤ n := ((inU32_iff n).1 hu).1
        refine .ok ⟨?_, ofI64_wf r⟩
        rw [ofI64_val, (C01_checkedPow_exact _ _ _ hr).1]
        show x ^ n.toNat = x ^ n.natAbs
        congr 1; omega
      · cases hr
    · exact .ok ⟨C01_binaryPow_exact x n, trivial⟩
  all_goals exact .ok ⟨C01_binaryPow_exact x n, trivial⟩

/-! ## whole expressions -/

theorem applyUn_refines (op : UnOp) (a : Num) (ha : a.wf) :
    Refines True (applyUn op a) (specUn op a.val) := by
  cases op
  -- in the order of `UnOp`: neg abs sign bnot plus
  · exact .ok (neg_spec a)
  · exact .ok (C01_abs_exact a ha)
  · exact .ok (C01_sign_exact a)
  · exact .ok (C01_bnot_exact a ha)
  · exact .ok ⟨rfl, ha⟩

/-- one step of the evaluator against one step of the specification; only the value of a shift
needs the side condition. -/
theorem applyBin_refines (op : BinOp) (a b : Num) (ha : a.wf) (hb : b.wf) :
    Refines (binDomain op a.val b.val) (applyBin op a b) (specBin op a.val b.val) := by
  cases op
  case idiv => exact .of (C01_idiv_exact a b)
  case div => exact .of (C01_div_exact a b)
  case mod => exact .of (C01_mod_exact a b)
  case rem => exact .of (C01_rem_exact a b)
  case pow => simp only [specBin, C01_powZ_exact]; exact .of (C01_intPow_exact a b)
  case shl =>
    simp only [specBin, C01_shlZ_exact, C01_shrZ_exact]
    exact ⟨fun hd => congrArg Except.ok (C01_shl_exact a b ha hd).1, fun _ e => by cases e; exact shl_wf a b⟩
  case shr =>
    simp only [specBin, C01_shlZ_exact, C01_shrZ_exact]
    exact ⟨fun hd => congrArg Except.ok (C01_shr_exact a b ha hd).1, fun _ e => by cases e; exact shr_wf a b⟩
  -- the total operations, in the order of `BinOp`: add sub mul gcd min max band bor bxor
  · exact .ok (C01_add_exact a b)
  · exact .ok (C01_sub_exact a b)
  · exact .ok (C01_mul_exact a b)
  · exact .ok (C01_gcd_exact a b ha hb)
  · exact .ok (C01_min_max_exact a b ha hb).1
  · exact .ok (C01_min_max_exact a b ha hb).2
  · exact .ok (C01_bitwise_exact a b).1
  · exact .ok (C01_bitwise_exact a b).2.1
  · exact .ok (C01_bitwise_exact a b).2.2

theorem eval_refines (e : Expr) : Refines (InDomain e) (eval e) (evalSpec e) := by
  induction e with
  | lit v => exact .ok (ofI64_spec v)
  | un op e ih => exact ih.bind fun a ha => (applyUn_refines op a ha).mono fun _ => trivial
  | bin op l r ihl ihr =>
    -- each `bind` adds what the specification has reached, so the side condition grows to
    -- `InDomain e ∧ evalSpec l = .ok a`, then `(…) ∧ evalSpec r = .ok b`; the projections take `InDomain r`
    -- from it, then the shift clause of `InDomain e` with its two premises
    exact (ihl.mono (·.1)).bind fun a ha => (ihr.mono (·.1.2.1)).bind fun b hb =>
      (applyBin_refines op a b ha hb).mono fun h => h.1.1.2.2 _ _ h.1.2 h.2

/-- every value the evaluator produces is well-formed (fixnum payloads stay in the 56-bit range). -/
theorem C01_eval_wf (e : Expr) (n : Num) (h : eval e = .ok n) : n.wf :=
  (eval_refines e).2 n h

/-- The capstone: for every expression over every functor of the property, the mechanism
(`eval`, over the two-representation `Num`) returns exactly what the specification over ℤ
(`evalSpec`) says — same value or same error — provided the shifts inside `e` satisfy the
"fits in memory" side condition `InDomain`. -/
theorem C01_eval_exact (e : Expr) (h : InDomain e) : (eval e).map Num.val = evalSpec e :=
  (eval_refines e).1 h

/-- `InDomain` holds outright for expressions without shift operators. -/
theorem C01_inDomain_of_no_shift (op : BinOp) (l r : Expr) (hl : InDomain l) (hr : InDomain r)
    (h1 : op ≠ .shl) (h2 : op ≠ .shr) : InDomain (.bin op l r) := by
  refine ⟨hl, hr, fun a b _ _ => ?_⟩
  cases op <;> trivial   -- `trivial` also closes the `.shl ≠ .shl` / `.shr ≠ .shr` cases

/-- … and for shifts whose count is a literal within `usize`. -/
theorem C01_inDomain_of_small_count (l : Expr) (c : Int) (hl : InDomain l)
    (hc : -USIZE_MAX ≤ c ∧ c ≤ USIZE_MAX) :
    InDomain (.bin .shl l (.lit c)) ∧ InDomain (.bin .shr l (.lit c)) := by
  have key : ∀ b, evalSpec (.lit c) = .ok b → (b ≤ USIZE_MAX ∧ -b ≤ USIZE_MAX) := by
    intro b hb
    simp only [evalSpec, Except.ok.injEq] at hb
    subst hb; omega
  -- either direction, either sign of the count: the side condition holds by its first disjunct
  constructor
  all_goals
    refine ⟨hl, trivial, fun a b _ hb => ?_⟩
    have := key b hb
    simp only [binDomain]; split
    · exact Or.inl this.1
    · exact Or.inl this.2

/-! ## non-vacuity: the boundary cases really take the overflow / clamp / sign-fill branches -/

private instance : DecidableEq R := fun x y =>
  match x, y with
  | .ok a, .ok b => if h : a = b then isTrue (by rw [h]) else isFalse (fun e => h (by cases e; rfl))
  | .error a, .error b =>
      if h : a = b then isTrue (by rw [h]) else isFalse (fun e => h (by cases e; rfl))
  | .ok _, .error _ => isFalse (fun e => nomatch e)
  | .error _, .ok _ => isFalse (fun e => nomatch e)

example : add (.fix (2^55 - 1)) (.fix 1) = .big (2^55) := by decide +kernel
example : abs (.fix (-(2^55))) = .big (2^55) ∧ (Num.fix (-(2^55))).wf := by decide +kernel
example : neg (.fix (-(2^55))) = .big (2^55) := by decide +kernel
example : mul (.fix (2^54)) (.fix (2^54)) = .big (2^108) := by decide +kernel
-- `2^62 << 1`: `checked_signed_shl` refuses (leading_zeros = 1), the bignum path is taken
example : checkedSignedShl (2^62) 1 = none := by decide +kernel
example : eval (.bin .shl (.lit (2^62)) (.lit 1)) = .ok (.big (2^63)) := by decide +kernel
example : shl (.fix (2^54)) (.fix 8) = .big (2^62) ∧ shl (.fix (2^54)) (.fix 9) = .big (2^63) :=
  by decide +kernel
-- `(-(2^63)) // -1` does not overflow
example : eval (.bin .idiv (.lit (-(2^63))) (.lit (-1))) = .ok (.big (2^63)) := by decide +kernel
example : idiv (.fix I64_MIN) (.fix (-1)) = .ok (.big (2^63)) := by decide +kernel
-- sign fill: `-1 >> 64`, counts beyond u32 and beyond usize, and a bignum shifted out entirely
example : eval (.bin .shr (.lit (-1)) (.lit 64)) = .ok (.fix (-1)) := by decide +kernel
example : shr (.fix (-5)) (.fix (2^32)) = .fix (-1) ∧ shr (.fix 5) (.big (2^64)) = .fix 0 :=
  by decide +kernel
example : eval (.bin .shr (.lit (-(2^70))) (.lit 200)) = .ok (.big (-1)) := by decide +kernel
example : InDomain (.bin .shr (.lit (-(2^70))) (.lit 200)) :=
  (C01_inDomain_of_small_count (.lit (-(2^70))) 200 trivial (by decide +kernel)).2
-- a negative count dispatches to the other direction
example : shr (.fix 3) (.fix (-2)) = .fix 12 ∧ shl (.fix (-7)) (.fix (-1)) = .fix (-4) :=
  by decide +kernel
-- division family: signs, and the error
example : modulus (.fix (-7)) (.big 2) = .ok (.big 1) ∧ modulus (.fix 7) (.big (-2)) = .ok (.big (-1)) :=
  by decide +kernel
example : intFloorDiv (.fix (-7)) (.fix 2) = .ok (.fix (-4)) ∧ idiv (.fix (-7)) (.fix 2) = .ok (.fix (-3)) :=
  by decide +kernel
example : eval (.bin .mod (.lit 1) (.bin .sub (.lit (2^64)) (.lit (2^64)))) = .error .zeroDivisor := by
  decide +kernel
-- gcd: the word algorithm answers on the fixnum boundary; `checked_abs` fails only on i64::MIN
example : gcd (.fix (2^55 - 1)) (.fix (-(2^55))) = .fix 1 ∧ gcd (.fix (-(2^55))) (.fix (2^54)) = .fix (2^54) :=
  by decide +kernel
example : isizeGcd I64_MIN 6 = none ∧ isizeGcd 0 0 = some 0 := by decide +kernel
-- power: overflow of checked_pow falls through to binary_pow; the three error/unit cases
example : intPow (.fix 2) (.fix 63) = .ok (.big (2^63)) ∧ intPow (.fix 2) (.fix 62) = .ok (.big (2^62)) :=
  by decide +kernel
example : intPow (.fix 0) (.fix (-1)) = .error .undefined ∧
    intPow (.fix 2) (.fix (-1)) = .error (.typeFloat 2) ∧
    intPow (.fix (-1)) (.fix (-3)) = .ok (.big (-1)) := by decide +kernel
-- bitwise on mixed signs and representations; `\` at the fixnum edge
example : band (.fix (-2)) (.fix (-5)) = .fix (-6) ∧ bor (.fix 5) (.big (2^64)) = .big (2^64 + 5) ∧
    bxor (.big (-1)) (.fix 5) = .big (-6) ∧ bnot (.fix (2^55 - 1)) = .fix (-(2^55)) :=
  by decide +kernel

end Scryer.Arith
