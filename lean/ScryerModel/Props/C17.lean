import ScryerModel.Proofs.Resync
import ScryerModel.Model.Quote
/-!
# C17 — Malformed input never crashes or desynchronises the reader

`Model/Resync.lean` mirrors `Lexer::next_token` and everything below it (`lexer.rs`), `read_tokens`
(`parser.rs`), `MachineState::read` (`read.rs`) and the loop "read until end_of_file", keeping only
positions: a token / a lexical error is its kind and the remaining input. `fixed = true` (and the
functions `skipToEnd`, `readClause`, `reads`) is the REPAIRED reader (findings C17-1, C17-2, C17-3);
`fixed = false`, `readClausePinned`, `readsPinned` is the pinned code. `u : UC` = Rust's Unicode
predicates (parameters). All theorems hold for every character list (no length bound) and every `u`;
`C17_end_detector_complete` alone assumes that `u` does not class `.` as upper case.

What is NOT proved here: the shift/reduce parser proper is not modelled (a parser error is raised
after the whole clause has been consumed, so it cannot desynchronise the reader; that it does not
panic is only tested), and `reads (c ++ rest) = outcome c :: reads rest` is proved in the form
"`reads s` = first outcome :: `reads` (what that read left)" (`C17_reads_compositional`), not for
an arbitrary textual concatenation (the tie checks that form on the model and the implementation).
-/
namespace Scryer.C17
open Scryer.Resync Scryer.CharClass

/-- Tokenizer totality and progress: on ANY input `next_token` returns a token or a lexical error,
    never panics (`token.pop().unwrap()` is never reached with an empty token); a token consumes at
    least one character, so does every error except "end of input", which is only reported with the
    input exhausted. (The definitions themselves are structural recursions: Lean accepted them as
    terminating without fuel.) -/
theorem C17_tokenizer_total_progress (u : UC) (s : List Char) :
    nextTok u true s ≠ .panic ∧
    (∀ k rest, nextTok u true s = .tok k rest → rest.length < s.length) ∧
    (∀ e rest, nextTok u true s = .err e rest → e ≠ .eof → rest.length < s.length) ∧
    (∀ rest, nextTok u true s = .err .eof rest → rest = []) :=
  ⟨nextTok_no_panic u s, nextTok_tok_lt u s, nextTok_err_lt u s, nextTok_eof_nil u s⟩

/-- Maximal munch for the run tokens (variables, letter-digit names, graphic names — `runTok` with
    the class `p`): the token is the longest prefix of class characters; it stops at a character
    outside the class, and the kind is the one asked for. -/
theorem C17_maximal_munch (p : Char → Bool) (k k' : Kind) (s rest : List Char)
    (h : runTok p k s = .tok k' rest) :
    k' = k ∧ ∃ pre d r, s = pre ++ rest ∧ rest = d :: r ∧ p d = false ∧ ∀ c ∈ pre, p c = true := by
  fun_induction runTok p k s
  case case1 => cases h
  case case2 c r hp ih =>
    obtain ⟨hk, pre, d, r', hs, hr, hd, hall⟩ := ih h
    exact ⟨hk, c :: pre, d, r', by rw [hs]; rfl, hr, hd, List.forall_mem_cons.mpr ⟨hp, hall⟩⟩
  case case3 c r hp =>
    cases h
    exact ⟨rfl, [], c, r, rfl, rfl, Bool.eq_false_iff.mpr hp, nofun⟩

/-- End-token detector, soundness: whenever `next_token` reports `End`, the text after the layout
    stands at a `.` that is followed by layout, `%` or the end of input, and the reader is left
    just behind the `.` or one character further (`tokAt` goes further exactly over a new line; the
    statement does not say when). -/
theorem C17_end_detector_sound (u : UC) (f : Bool) (s rest : List Char)
    (h : nextTok u f s = .tok .endT rest) :
    ∃ ins t, scanLayout u s = .ok ins t ∧ atEnd u t = true ∧ (rest = t.drop 1 ∨ rest = t.drop 2) := by
  unfold nextTok at h
  split at h
  · cases h
  · rename_i ins t he
    exact ⟨ins, t, he, (h ▸ tokAt_dispatched u f ins t).of_end⟩

/-- End-token detector, completeness: at a token start, `.` followed by layout, `%` or the end of
    input IS the end token. -/
theorem C17_end_detector_complete (u : UC) (hu : u.is_uppercase '.' = false) (f ins : Bool) (r : List Char)
    (h : atEnd u ('.' :: r) = true) :
    ∃ rest, tokAt u f ins ('.' :: r) = .tok .endT rest ∧ (rest = r ∨ rest = r.drop 1) := by
  have hv : (capital_letter_char u '.' || variable_indicator_char u '.') = false := by
    simp [capital_letter_char, variable_indicator_char, hu]
  cases r with
  | nil => exact ⟨[], by simp [tokAt, hv], .inl rfl⟩
  | cons d r' =>
    have hd : (layout_char u d || d == '%') = true := h
    refine ⟨if new_line_char u d then r' else d :: r', by simp [tokAt, hv, hd], ?_⟩
    split <;> simp

/-- The detector never fires inside a token: whatever follows the opening quote of a quoted atom /
    string / `0'c` literal, the first digit of a number, the back quote of a back-quoted string, or
    the first character of a graphic token (`=..`, `.(`, `a.b`'s `.b`), these scanners never yield `End`. -/
theorem C17_no_end_inside_tokens (u : UC) (s : List Char) :
    (∀ m st rest, qGo u m st s ≠ .tok .endT rest) ∧
    (∀ st z n rest, intGo u st z n s ≠ .tok .endT rest) ∧
    (∀ rest, bqGo u s ≠ .tok .endT rest) ∧
    (∀ rest, runTok (graphic_token_char u) .name s ≠ .tok .endT rest) :=
  ⟨fun m st => (qGo_scan u m st s (k := 1) fun _ => Nat.le_refl 1).2,
   fun st z n => (intGo_scan u st z n s).2, (bqGo_scan u s).2,
   (runTok_scan _ Kind.noConfusion s).2⟩

/-- Skip mode (`Lexer::skip_to_end_token`, the repair) terminates on every input and stops exactly
    behind an end token, or at the end of the input. That it is the first end token on the reader's
    way through `s`, which the clause below does not say, is `skipGo_spec` (`Resynced`). -/
theorem C17_skip_total (u : UC) (s : List Char) :
    ∃ r, skipToEnd u s = some r ∧ r.length ≤ s.length ∧
      (r = [] ∨ ∃ s', nextTok u true s' = .tok .endT r) :=
  (skipGo_spec u _ s (Nat.lt_succ_self _)).imp fun _ h => ⟨h.1, h.2.1, h.2.2.weaken⟩

/-- One `read_term` call on any text: it returns (no fuel exhaustion, no panic), never lengthens
    the input, consumes at least one character unless it reports end_of_file, and — term, parser
    error or lexical error alike — leaves the reader exactly behind an end token or at the end of
    the input (`readClause_spec` ties that end token to `s`, see `Resynced`). -/
theorem C17_read_resynchronises (u : UC) (s : List Char) :
    ∃ o rest, readClause u s = some (o, rest) ∧ rest.length ≤ s.length ∧
      (o ≠ .eof → rest.length < s.length) ∧
      (rest = [] ∨ ∃ s', nextTok u true s' = .tok .endT rest) :=
  (readClause_spec u s).imp fun _ => .imp fun _ h => ⟨h.1, h.2.1, h.2.2.1, h.2.2.2.weaken⟩

/-- Reading a text until end_of_file terminates for every text. -/
theorem C17_reads_total (u : UC) (s : List Char) : ∃ l, reads u s = some l :=
  (readsGo_total u s).imp fun _ h => h _ (Nat.lt_succ_self _)

/-- Compositionality of the clause stream: the reads of a text are the outcome of the first read
    followed by the reads of exactly what that read left — whether the first read delivered a
    clause or a syntax error; and nothing follows end_of_file. -/
theorem C17_reads_compositional (u : UC) (s : List Char) :
    (∀ o rest, readClause u s = some (o, rest) → o ≠ .eof →
      reads u s = (reads u rest).map fun l => (o, s.length - rest.length) :: l) ∧
    (∀ rest, readClause u s = some (.eof, rest) → reads u s = some []) := by
  refine ⟨fun o rest hc ho => ?_, fun rest hc => readsGo_eof hc _⟩
  obtain ⟨o', r', hc', _, hlt, _⟩ := readClause_spec u s
  cases hc.symm.trans hc'
  obtain ⟨l, hl⟩ := readsGo_total u rest
  rw [reads, reads, readsGo_cons hc ho, hl _ (hlt ho), hl _ (Nat.lt_succ_self _)]

/-! ## non-vacuity and witnesses (ASCII instance of the Unicode parameters) -/

abbrev ua : UC := Scryer.Quote.asciiUC

/-- `a 'b\qc' d. good.` (newline): the repaired reader reports the illegal escape, skips through the end token of that
    clause — the `.` is found although the quoted atom was broken — and then reads `good.` -/
example : reads ua ['a', ' ', '\'', 'b', '\\', 'q', 'c', '\'', ' ', 'd', '.', ' ', 'g', 'o', 'o', 'd', '.', '\n'] =
    some [(.error .invalidSingleQuoted, 11), (.clause 1, 7)] := by decide +kernel

/-- the pinned reader continues in the middle of the offending clause: `qc`, then a quoted atom
    opened by the old closing quote swallows `good.`: `good` is never read -/
example : readsPinned ua 4 ['a', ' ', '\'', 'b', '\\', 'q', 'c', '\'', ' ', 'd', '.', ' ', 'g', 'o', 'o', 'd', '.', '\n'] =
    [(.error .invalidSingleQuoted, 5), (.error .invalidSingleQuoted, 12)] := by decide +kernel

/-- a `.` inside a quoted atom, a graphic token, a number and a `0'.` literal is not an end token -/
example : reads ua ['\'', 'a', '.', ' ', 'b', '\'', ' ', '=', '.', '.', ' ', '1', '.', '5', ' ', '0', '\'', '.', ' ', '.', '\n', 'x', '.'] =
    some [(.clause 4, 21), (.clause 1, 2)] := by decide +kernel

/-- a character that cannot start a token: the pinned reader never consumes it (the same error for
    ever), the repaired reader consumes it, skips through `.` and goes on -/
example : readsPinned ua 3 ['\x01', ' ', 'b', '.', ' ', 'c', '.'] =
    [(.error .unexpectedChar, 0), (.error .unexpectedChar, 0), (.error .unexpectedChar, 0)] := by decide +kernel
example : reads ua ['\x01', ' ', 'b', '.', ' ', 'c', '.'] = some [(.error .unexpectedChar, 4), (.clause 1, 3)] := by decide +kernel

/-- the hypothesis of `C17_end_detector_complete` holds for the ASCII instance -/
example : ua.is_uppercase '.' = false := by decide +kernel

/-- layout and comments after the last clause are end_of_file, not a clause (C17-3) -/
example : reads ua ['a', '.', '\n', '\n', '%', ' ', 'c', '\n'] = some [(.clause 1, 3)] := by decide +kernel

end Scryer.C17
