import ScryerModel.Proofs.UGraph
import ScryerModel.Proofs.UGraphClosure
import ScryerModel.Proofs.UGraphTopSort
/-!
# C53 — Graph library results match graph-theoretic definitions

Property theorems over `Model/UGraph.lean`, the clause-by-clause transcription of
`src/lib/ugraphs.pl` (and of the `ordsets.pl` predicates it calls) for graphs whose vertices are
natural numbers. A graph is read relationally through `vertices g` (its vertex list) and
`Edge g x y`; `WF g` is the S-representation invariant (keys strictly ascending, neighbour lists
strictly ascending, every neighbour a vertex). All theorems are for graphs of any size.

`C53_canonical` says a well-formed graph is determined by its vertex set and edge relation, so
"`WF` + vertices + edges" pins each result down exactly: this is why the correspondence run may
compare results as text.

Two predicates of the pinned library are wrong on part of their documented input domain (see
notes/findings/C53-1.md, C53-2.md). For them the theorem about the transcription of the pinned
clauses (`delVertices`, `addVertices`) is named `…_partial` and carries the extra hypothesis under
which they are right, an `example` shows the failure outside it, and the full-strength theorem is
proved for the repaired algorithm (`delVerticesFixed`, `addVerticesFixed`): the clauses of the
repaired tree (/repo 87ec230, 6646d29).
-/
namespace Scryer.UGraph
open Relation

/-- Canonical form: a well-formed S-representation is determined by its vertices and edges. -/
theorem C53_canonical {g h : Graph} (hg : WF g) (hh : WF h)
    (hv : ∀ v, v ∈ vertices g ↔ v ∈ vertices h) (he : ∀ x y, Edge g x y ↔ Edge h x y) : g = h :=
  graph_ext hg.keys hh.keys hg.nbrs hh.nbrs hv he

/-- `vertices/2` lists exactly the keys. -/
theorem C53_vertices (g : Graph) (v : Nat) : v ∈ vertices g ↔ ∃ ns, (v, ns) ∈ g := mem_vertices

/-- `edges/2` lists exactly the edges, in standard order without duplicates. -/
theorem C53_edges {g : Graph} (hg : WF g) :
    (∀ x y, (x, y) ∈ edges g ↔ Edge g x y) ∧ (edges g).Pairwise EdgeLt :=
  ⟨fun _ _ => mem_edges, sorted_edges hg.keys hg.nbrs⟩

/-- `vertices_edges_to_ugraph/3` on ARBITRARY lists (unsorted, with duplicates): the result is
    well-formed, its vertices are the listed ones plus all edge endpoints, its edges the listed ones. -/
theorem C53_vertices_edges_to_ugraph (vs : List Nat) (es : List (Nat × Nat)) :
    WF (verticesEdgesToUgraph vs es) ∧
    (∀ v, v ∈ vertices (verticesEdgesToUgraph vs es) ↔ v ∈ vs ∨ ∃ e ∈ es, v = e.1 ∨ v = e.2) ∧
    (∀ x y, Edge (verticesEdgesToUgraph vs es) x y ↔ (x, y) ∈ es) :=
  ⟨(vetu_spec vs es).2, fun _ => vetu_vertices, (vetu_spec vs es).1⟩

/-- `ugraph_union/3`. -/
theorem C53_ugraph_union {g1 g2 : Graph} (h1 : WF g1) (h2 : WF g2) :
    WF (ugraphUnion g1 g2) ∧ (∀ v, v ∈ vertices (ugraphUnion g1 g2) ↔ v ∈ vertices g1 ∨ v ∈ vertices g2) ∧
    ∀ x y, Edge (ugraphUnion g1 g2) x y ↔ Edge g1 x y ∨ Edge g2 x y := by
  have hv : ∀ v, v ∈ vertices (ugraphUnion g1 g2) ↔ v ∈ vertices g1 ∨ v ∈ vertices g2 := by
    intro v; rw [vertices_ugraphUnion, mem_ordUnion]
  refine ⟨.of_edge ?_ (nbrs_ugraphUnion h1.nbrs h2.nbrs) fun x y e => (hv y).2 ?_, hv, fun x y => edge_ugraphUnion⟩
  · rw [vertices_ugraphUnion]; exact sorted_ordUnion h1.keys h2.keys
  · exact (edge_ugraphUnion.1 e).imp h1.dst h2.dst

/-- `add_vertices/3` as repaired (`sort/2` for `msort_/2`), any list of vertices. -/
theorem C53_add_vertices_fixed {g : Graph} (hg : WF g) (vs : List Nat) :
    WF (addVerticesFixed g vs) ∧ (∀ v, v ∈ vertices (addVerticesFixed g vs) ↔ v ∈ vertices g ∨ v ∈ vs) ∧
    ∀ x y, Edge (addVerticesFixed g vs) x y ↔ Edge g x y := by
  have h := C53_ugraph_union (wf_addEmptyVertices (sorted_sortNat vs)) hg
  rw [← addVerticesToSGraph_eq_union] at h
  refine ⟨h.1, fun v => ?_, fun x y => ?_⟩
  · rw [addVerticesFixed, h.2.1, vertices_addEmptyVertices, mem_sortNat, or_comm]
  · rw [addVerticesFixed, h.2.2, or_iff_right edge_addEmptyVertices]

/-- `add_vertices/3` as written in the pinned library. Missing: lists with a repeated vertex, on
    which it returns an ill-formed graph (finding C53-2; see the `example` below). -/
theorem C53_add_vertices_partial {g : Graph} (hg : WF g) {vs : List Nat} (hnd : vs.Nodup) :
    WF (addVertices g vs) ∧ (∀ v, v ∈ vertices (addVertices g vs) ↔ v ∈ vertices g ∨ v ∈ vs) ∧
    ∀ x y, Edge (addVertices g vs) x y ↔ Edge g x y := by
  rw [addVertices_eq_fixed g hnd]; exact C53_add_vertices_fixed hg vs

/-- `del_vertices/3` as repaired, any list of vertices (present or not, repeated). -/
theorem C53_del_vertices_fixed {g : Graph} (hg : WF g) (vs : List Nat) :
    WF (delVerticesFixed g vs) ∧ (∀ v, v ∈ vertices (delVerticesFixed g vs) ↔ v ∈ vertices g ∧ v ∉ vs) ∧
    ∀ x y, Edge (delVerticesFixed g vs) x y ↔ Edge g x y ∧ x ∉ vs ∧ y ∉ vs := by
  rw [delVerticesFixed_eq]
  have hs := sorted_sortNat vs
  have hv : ∀ v, v ∈ vertices (delVerticesAuxFixed g (sortNat vs) (sortNat vs)) ↔ v ∈ vertices g ∧ v ∉ vs := by
    intro v
    rw [vertices_delVerticesAuxFixed, mem_ordSubtract hg.keys hs, mem_sortNat]
  have he : ∀ x y, Edge (delVerticesAuxFixed g (sortNat vs) (sortNat vs)) x y ↔ Edge g x y ∧ x ∉ vs ∧ y ∉ vs := by
    intro x y
    rw [edge_delVerticesAuxFixed hg.keys hs hg.nbrs hs, mem_sortNat, mem_sortNat]
  refine ⟨.of_edge ?_ (nbrs_delVerticesAuxFixed hg.keys hs hg.nbrs)
    fun x y e => (hv y).2 ⟨hg.dst ((he x y).1 e).1, ((he x y).1 e).2.2⟩, hv, he⟩
  rw [vertices_delVerticesAuxFixed]
  exact sorted_ordSubtract hg.keys

/-- `del_vertices/3` as written in the pinned library. Missing: lists that mention a vertex which
    is not in the graph — then a later listed vertex may survive (finding C53-1; `example` below). -/
theorem C53_del_vertices_partial {g : Graph} (hg : WF g) {vs : List Nat} (hsub : ∀ v ∈ vs, v ∈ vertices g) :
    WF (delVertices g vs) ∧ (∀ v, v ∈ vertices (delVertices g vs) ↔ v ∈ vertices g ∧ v ∉ vs) ∧
    ∀ x y, Edge (delVertices g vs) x y ↔ Edge g x y ∧ x ∉ vs ∧ y ∉ vs := by
  rw [delVertices_eq_fixed hg.keys hsub]; exact C53_del_vertices_fixed hg vs

/-- `add_edges/3`, any list of edges: the endpoints become vertices, the edges are added. -/
theorem C53_add_edges {g : Graph} (hg : WF g) (es : List (Nat × Nat)) :
    WF (addEdges g es) ∧
    (∀ v, v ∈ vertices (addEdges g es) ↔ v ∈ vertices g ∨ ∃ e ∈ es, v = e.1 ∨ v = e.2) ∧
    ∀ x y, Edge (addEdges g es) x y ↔ Edge g x y ∨ (x, y) ∈ es := by
  have h2 := vetu_spec [] es
  have h := C53_ugraph_union hg h2.2
  refine ⟨h.1, fun v => ?_, fun x y => ?_⟩
  · rw [addEdges, pToSGraph_eq, h.2.1, vetu_vertices, or_iff_right List.not_mem_nil]
  · rw [addEdges, pToSGraph_eq, h.2.2, h2.1]

/-- `del_edges/3`, any list of edges: no vertex is removed, exactly the listed edges disappear. -/
theorem C53_del_edges {g : Graph} (hg : WF g) (es : List (Nat × Nat)) :
    WF (delEdges g es) ∧ vertices (delEdges g es) = vertices g ∧
    ∀ x y, Edge (delEdges g es) x y ↔ Edge g x y ∧ (x, y) ∉ es := by
  have h2 := vetu_spec [] es
  have hv : vertices (delEdges g es) = vertices g := vertices_graphSubtract _ _
  have he : ∀ x y, Edge (delEdges g es) x y ↔ Edge g x y ∧ (x, y) ∉ es := by
    intro x y
    rw [delEdges, pToSGraph_eq, edge_graphSubtract hg.keys h2.2.keys hg.nbrs h2.2.nbrs, h2.1]
  exact ⟨.of_edge (hv ▸ hg.keys) (nbrs_graphSubtract hg.nbrs) fun x y e => hv ▸ hg.dst ((he x y).1 e).1, hv, he⟩

/-- `transpose_ugraph/2`: same vertices, every edge reversed; in particular `edges` of the
    transpose are exactly the swapped edges. -/
theorem C53_transpose {g : Graph} (hg : WF g) :
    WF (transposeUgraph g) ∧ vertices (transposeUgraph g) = vertices g ∧
    (∀ x y, Edge (transposeUgraph g) x y ↔ Edge g y x) ∧
    (∀ x y, (x, y) ∈ edges (transposeUgraph g) ↔ (y, x) ∈ edges g) :=
  ⟨(vetu_spec _ _).2, transpose_vertices hg, fun _ _ => transpose_edge,
   fun _ _ => by rw [mem_edges, mem_edges, transpose_edge]⟩

/-- `neighbours/3` (`neighbors/3`): fails exactly on non-vertices; otherwise returns the ordered
    set of successors. -/
theorem C53_neighbours {g : Graph} (hg : WF g) (v : Nat) :
    (neighbours v g = none ↔ v ∉ vertices g) ∧
    ∀ ns, neighbours v g = some ns → Sorted ns ∧ ∀ y, y ∈ ns ↔ Edge g v y :=
  ⟨neighbours_eq_none, fun _ h =>
    ⟨hg.nbrs _ (neighbours_some_mem h), fun _ => mem_neighbours_iff hg.keys h⟩⟩

/-- `compose/3`: relational composition on the union of the vertex sets. -/
theorem C53_compose {g1 g2 : Graph} (h1 : WF g1) (h2 : WF g2) :
    WF (compose g1 g2) ∧ (∀ v, v ∈ vertices (compose g1 g2) ↔ v ∈ vertices g1 ∨ v ∈ vertices g2) ∧
    ∀ x z, Edge (compose g1 g2) x z ↔ ∃ y, Edge g1 x y ∧ Edge g2 y z := by
  have hs := sorted_ordUnion h1.keys h2.keys
  have hv : ∀ v, v ∈ vertices (compose g1 g2) ↔ v ∈ vertices g1 ∨ v ∈ vertices g2 := by
    intro v; rw [compose, vertices_composeAux, mem_ordUnion]
  have he : ∀ x z, Edge (compose g1 g2) x z ↔ ∃ y, Edge g1 x y ∧ Edge g2 y z :=
    fun x z => edge_composeAux hs h1.keys (fun v hv => mem_ordUnion.2 (Or.inl hv)) h1.nbrs h2.keys
  refine ⟨.of_edge ?_ (nbrs_composeAux h2.nbrs) fun x z e => ?_, hv, he⟩
  · rw [compose, vertices_composeAux]; exact hs
  · obtain ⟨y, _, e2⟩ := (he x z).1 e
    exact (hv z).2 (Or.inr (h2.dst e2))

/-- `complement/2`: same vertices; `x → y` iff `x ≠ y` are vertices and `x → y` is not an edge. -/
theorem C53_complement {g : Graph} (hg : WF g) :
    WF (complement g) ∧ vertices (complement g) = vertices g ∧
    ∀ x y, Edge (complement g) x y ↔ x ∈ vertices g ∧ y ∈ vertices g ∧ x ≠ y ∧ ¬ Edge g x y := by
  have hv : vertices (complement g) = vertices g := by rw [complement, complementAux_eq_map, vertices_map_nbrs]
  have he : ∀ x y, Edge (complement g) x y ↔ x ∈ vertices g ∧ y ∈ vertices g ∧ x ≠ y ∧ ¬ Edge g x y := by
    intro x y
    rw [complement, complementAux_eq_map, edge_map_nbrs, mem_vertices, ← exists_and_right]
    refine exists_congr fun e => and_congr_right fun h => ?_
    rw [mem_ordSubtract hg.keys (sorted_ordAddElement (hg.nbrs _ h)), mem_ordAddElement, not_or,
      mem_iff_edge hg.keys h, ne_comm]
  refine ⟨.of_edge (hv ▸ hg.keys) ?_ fun x y e => hv ▸ ((he x y).1 e).2.1, hv, he⟩
  rw [complement, complementAux_eq_map]
  exact List.forall_mem_map.2 fun p _ => sorted_ordSubtract hg.keys

/-- `transitive_closure/2` (Warshall): succeeds, keeps the vertices, and its edge relation is
    exactly the transitive closure `TransGen (Edge g)` (paths of length ≥ 1). -/
theorem C53_transitive_closure {g : Graph} (hg : WF g) :
    ∃ c, transitiveClosure g = some c ∧ WF c ∧ vertices c = vertices g ∧
      ∀ a b, Edge c a b ↔ TransGen (Edge g) a b := by
  have h0 : WInv g (fun _ => False) g :=
    ⟨rfl, hg.nbrs, fun a b e => .single e, fun a b p => by
      cases p with
      | single e => exact e
      | cons _ s _ => exact absurd s id⟩
  obtain ⟨c, hc, hinv⟩ := warshall_spec hg.keys g g _ h0 (fun v hv => hv)
  have hE : ∀ a b, Edge c a b ↔ TransGen (Edge g) a b := fun a b =>
    ⟨hinv.sound a b, fun h => hinv.complete a b ((pathThrough_of_transGen h).mono fun x hx => Or.inr hx)⟩
  refine ⟨c, hc, .of_edge (hinv.keys ▸ hg.keys) hinv.nbrs fun x y e => ?_, hinv.keys, hE⟩
  -- the last edge of the path ends in a vertex
  obtain ⟨_, _, e'⟩ := TransGen.tail'_iff.1 ((hE x y).1 e)
  exact hinv.keys ▸ hg.dst e'

/-- Consequently the closure is transitive, contains the graph, and is contained in every
    transitive relation that contains the graph (it is the least one). -/
theorem C53_transitive_closure_least {g c : Graph} (hg : WF g) (hc : transitiveClosure g = some c) :
    (∀ x y z, Edge c x y → Edge c y z → Edge c x z) ∧ (∀ x y, Edge g x y → Edge c x y) ∧
    ∀ T : Nat → Nat → Prop, (∀ x y z, T x y → T y z → T x z) → (∀ x y, Edge g x y → T x y) →
      ∀ x y, Edge c x y → T x y := by
  obtain ⟨c', hc', _, _, hE⟩ := C53_transitive_closure hg
  rw [hc] at hc'; cases hc'
  refine ⟨fun x y z h1 h2 => (hE x z).2 (((hE x y).1 h1).trans ((hE y z).1 h2)),
    fun x y e => (hE x y).2 (.single e), fun T ht hsub x y e => ?_⟩
  have := (hE x y).1 e
  clear e
  induction this with
  | single e => exact hsub _ _ e
  | tail _ e ih => exact ht _ _ _ ih (hsub _ _ e)

/-- `reachable/3` from a vertex: succeeds with the ordered set of vertices related to it by the
    reflexive-transitive closure of the edge relation (the loop bound of the model is not hit). -/
theorem C53_reachable {g : Graph} (hg : WF g) {v : Nat} (hv : v ∈ vertices g) :
    ∃ out, reachable v g = some out ∧ Sorted out ∧ ∀ x, x ∈ out ↔ ReflTransGen (Edge g) v x := by
  -- the invariant holds of the queue `[v]` and the set `[v]`
  apply reachableLoop_spec hg
  case hs => simp [Sorted]
  case hq => simp
  case hv => simp
  case hr => intro x hx; simp at hx; subst hx; exact .refl
  case hV => intro x hx; simp at hx; subst hx; exact hv
  case hc => intro x hx hxq; simp at hx hxq; exact absurd hx hxq
  case hm => simp [vertices_eq_map]; omega

/-- `reachable/3` from a non-vertex fails. -/
theorem C53_reachable_not_vertex {g : Graph} {v : Nat} (hv : v ∉ vertices g) : reachable v g = none := by
  simp [reachable, reachableLoop, neighbours_eq_none.2 hv]

/-- `top_sort/2`, soundness: any answer is a permutation of the vertices in which the source of
    every edge occurs strictly before its target. -/
theorem C53_top_sort_sound {g : Graph} (hg : WF g) {L : List Nat} (h : topSort g = some L) :
    L.Perm (vertices g) ∧ ∀ pre v post, L = pre ++ v :: post → ∀ u, Edge g u v → u ∈ pre := by
  have := topSort_spec hg
  rw [h] at this
  exact ⟨this.1, fun pre v post hp u e => (this.2 pre v post hp u e).resolve_left List.not_mem_nil⟩

/-- `top_sort/2`, completeness: on an acyclic graph it succeeds (connected or not; the loop
    bound of the model is not hit). -/
theorem C53_top_sort_complete {g : Graph} (hg : WF g) (hac : ∀ v, ¬ TransGen (Edge g) v v) :
    ∃ L, topSort g = some L := by
  have := topSort_spec hg
  split at this
  · next L hL => exact ⟨L, hL⟩
  · exact absurd (exists_rank_of_acyclic hac) this

/-- `top_sort/2` succeeds exactly on the acyclic graphs. -/
theorem C53_top_sort_iff_acyclic {g : Graph} (hg : WF g) :
    (∃ L, topSort g = some L) ↔ ∀ v, ¬ TransGen (Edge g) v v := by
  refine ⟨fun ⟨L, h⟩ => ?_, C53_top_sort_complete hg⟩
  obtain ⟨hperm, hresp⟩ := C53_top_sort_sound hg h
  -- an edge, hence a path, goes forward in `L`
  have hlt : ∀ u v, Edge g u v → L.idxOf u < L.idxOf v := by
    intro u v e
    obtain ⟨pre, post, rfl, hnp⟩ := List.eq_append_cons_of_mem (hperm.mem_iff.2 (hg.dst e))
    have hu := hresp pre v post rfl u e
    rw [List.idxOf_append_of_mem hu, List.idxOf_append_of_notMem hnp, List.idxOf_cons_self, Nat.add_zero]
    exact List.idxOf_lt_length_of_mem hu
  intro v t
  have hlt' : ∀ u v, TransGen (Edge g) u v → L.idxOf u < L.idxOf v := by
    intro u v t
    induction t with
    | single e => exact hlt _ _ e
    | tail _ e ih => exact lt_trans ih (hlt _ _ e)
  exact lt_irrefl _ (hlt' v v t)

/-! ## non-vacuity: hypotheses are satisfiable, branches are reached -/

/-- the doc example of `vertices/2` is well-formed. -/
example : WF [(1, [3, 5]), (2, [4]), (3, []), (4, [5]), (5, [])] :=
  ⟨by unfold Sorted; decide, by unfold Sorted; decide, by decide⟩

-- top_sort: an acyclic graph is ordered (the stack order of the library), a cycle / a loop fails
example : topSort [(1, [2]), (2, []), (3, [1])] = some [3, 1, 2] := by decide
example : topSort [(1, [2]), (2, [1])] = none := by decide
example : topSort [(1, [1])] = none := by decide
example : topSort [(1, []), (2, [])] = some [1, 2] := by decide

-- Warshall adds the path 1 → 3, and the loop of a cycle
example : transitiveClosure [(1, [2]), (2, [3]), (3, [])] = some [(1, [2, 3]), (2, [3]), (3, [])] := by
  simp [transitiveClosure, warshall, warshallStep, neighbours, ordUnion]
example : transitiveClosure [(1, [2]), (2, [1])] = some [(1, [1, 2]), (2, [1, 2])] := by
  simp [transitiveClosure, warshall, warshallStep, neighbours, ordUnion]

-- reachable: from a vertex, and failure from a non-vertex
example : reachable 1 [(1, [3]), (2, [1]), (3, [])] = some [1, 3] := by
  simp [reachable, reachableLoop, neighbours, ordUnionNew, consFst]
example : reachable 7 [(1, [3]), (2, [1]), (3, [])] = none := by
  simp [reachable, reachableLoop, neighbours]

/-- finding C53-1: the pinned `del_vertices/3` keeps vertex 2 when the list also names the
    absent vertex 1; the repaired algorithm removes it. -/
example : delVertices [(2, []), (3, [2])] [1, 2] = [(2, []), (3, [])] ∧
    delVerticesFixed [(2, []), (3, [2])] [1, 2] = [(3, [])] := by
  simp [delVertices, delVerticesFixed, delVerticesAux, delVerticesAuxFixed, delRemaining, sortNat, sortSet,
    insertSet, natLt, ordSubtract]

/-- finding C53-2: the pinned `add_vertices/3` duplicates a vertex that is listed twice; the
    result is not a well-formed graph. -/
example : addVertices [] [1, 1] = [(1, []), (1, [])] ∧ ¬ WF (addVertices [] [1, 1]) ∧
    addVerticesFixed [] [1, 1] = [(1, [])] := by
  have h1 : addVertices [] [1, 1] = [(1, []), (1, [])] := by
    simp [addVertices, msortNat, insertDup, addVerticesToSGraph, addEmptyVertices]
  refine ⟨h1, fun h => ?_, ?_⟩
  · have := h.keys
    simp [h1, Sorted] at this
  · simp [addVerticesFixed, sortNat, sortSet, insertSet, natLt, addVerticesToSGraph, addEmptyVertices]

end Scryer.UGraph
