import ScryerModel.Proofs.Coroutine
/-
C26 — dif/2, freeze/2 and when/2 are insensitive to posting order.

Model: `Scryer.Coroutine` (Model/Coroutine.lean): a constraint store (most general unifier `σ` of
the equations posted so far, pending disequations, suspended goals, woken goals) and
`exec`/`run`, which executes a history of postings
    `.basic (.unify s t)`   s = t
    `.basic (.dif s t)`     dif(s,t)
    `.susp ⟨cond, id, body⟩`  when(cond, G)   (freeze(X,G) is the condition `nonvar X`);
                              G logs `id` and then posts `body` (unifications and dif/2).
`none` is failure.  A "solution" is any function `θ : String → Term` (finite terms).
All theorems hold for ALL terms, conditions and histories (no size bound).  The Prolog libraries
and the wake-up mechanism of the implementation are tied to this model by the correspondence run
(vlib/props/C26.py), not by these theorems.
-/
namespace Scryer.C26
open Scryer.Term Scryer.Unify Scryer.Coroutine

/-- what is observed at the end of two runs is the same: the same solutions of the accumulated
    equations, bindings that are instances of each other (equal up to renaming), every condition
    has the same truth value, the same pending disequations, and the same suspended and woken
    goals with the same multiplicities (so the run logs are permutations of each other). -/
structure SameOutcome (a b : Store) : Prop where
  solutions : ∀ θ, Unifies θ a.eqs ↔ Unifies θ b.eqs
  bindings_ab : ∀ t, applyS b.σ (applyS a.σ t) = applyS b.σ t
  bindings_ba : ∀ t, applyS a.σ (applyS b.σ t) = applyS a.σ t
  conds : ∀ c : Cond, c.holds a.σ = c.holds b.σ
  difs : ∀ d, d ∈ a.difs ↔ d ∈ b.difs
  susps : a.susps.Perm b.susps
  fired : a.fired.Perm b.fired
  log : a.log.Perm b.log

/-! ### confluence -/

/-- CONFLUENCE, success/failure: two histories with the same postings (here even: `p` uses only
    postings of `q`; no multiplicities needed) — if `q` succeeds, so does `p`. -/
theorem C26_success_order_independent {p q : List Op} (hpq : ∀ o ∈ p, o ∈ q) {b : Store}
    (h : run q = some b) : ∃ a, run p = some a :=
  let ⟨a, ha, _⟩ := run_below hpq h
  ⟨a, ha⟩

/-- CONFLUENCE, failure: permuting a history does not change whether it fails. -/
theorem C26_failure_order_independent {p q : List Op} (h : p.Perm q) :
    run p = none ↔ run q = none := by
  have key : ∀ p q : List Op, p.Perm q → run p = none → run q = none := by
    intro p q h hp
    cases hq : run q with
    | none => rfl
    | some b =>
        obtain ⟨a, ha⟩ := C26_success_order_independent h.subset hq
        rw [hp] at ha; cases ha
  exact ⟨key p q h, key q p h.symm⟩

/-- CONFLUENCE, outcome: every interleaving of the same postings that succeeds ends with the
    same bindings (up to renaming), the same residual disequations, the same suspended goals
    and the same run log (as multisets). -/
theorem C26_confluence {p q : List Op} (h : p.Perm q) {a b : Store}
    (ha : run p = some a) (hb : run q = some b) : SameOutcome a b := by
  obtain ⟨a', ha', hab⟩ := run_below h.subset hb
  obtain ⟨b', hb', hba⟩ := run_below h.symm.subset ha
  cases ha.symm.trans ha'; cases hb.symm.trans hb'
  obtain ⟨iA, _, _, _⟩ := run_target ha
  obtain ⟨iB, _, _, _⟩ := run_target hb
  obtain ⟨s1, s2, s3⟩ := same_content iA iB hab hba
  obtain ⟨_, _, fa, wa⟩ := fired_perm_filter ha
  obtain ⟨_, _, fb, wb⟩ := fired_perm_filter hb
  -- the conditions have the same truth values on both sides, so the two filters coincide
  simp only [← s2] at fb wb
  have hsp := suspsOf_perm h
  have hfired : a.fired.Perm b.fired := fa.trans ((hsp.filter _).trans fb.symm)
  exact ⟨s1, iA.mgu.applyS_absorbs ((s1 _).mpr iB.mgu.unifies),
    iB.mgu.applyS_absorbs ((s1 _).mp iA.mgu.unifies), s2, s3,
    wa.trans ((hsp.filter _).trans wb.symm), hfired, hfired.map _⟩

/-- Posting a constraint before or after a sequence of unifications (the wording of C26 in
    properties.jsonl): a special case of `C26_confluence`. -/
theorem C26_post_before_or_after (c : Op) (us : List Op) {a b : Store}
    (ha : run (c :: us) = some a) (hb : run (us ++ [c]) = some b) : SameOutcome a b :=
  C26_confluence (by simpa using (List.perm_append_singleton c us).symm) ha hb

/-! ### the store computes a function of the logical content -/

/-- the invariant behind confluence: after any history the substitution is a most general
    unifier of all equations posted (directly or by woken goals); a disequation is pending iff
    it was posted and its sides are still unifiable together with the equations; no posted
    disequation is violated. -/
theorem C26_store_is_logical_content {ops : List Op} {st : Store} (h : run ops = some st) :
    IsMgu st.σ st.eqs ∧
    (∀ d, d ∈ st.difs ↔ d ∈ st.allDifs ∧ Compat st.eqs d) ∧
    (∀ d ∈ st.allDifs, ¬Entails st.eqs d) ∧
    Below ops st := by
  obtain ⟨i, _, hb, _⟩ := run_target h
  exact ⟨i.mgu, i.difs_iff, i.notEntailed, hb⟩

/-- the tests made under `σ` are statements about ALL solutions of the equations. -/
theorem C26_tests_are_semantic {σ : Subst} {E : Eqs} (h : IsMgu σ E) (d : Term × Term)
    (c : Cond) :
    (identical σ d = true ↔ ∀ θ, Unifies θ E → d.1.subst θ = d.2.subst θ) ∧
    (unifiable σ d = true ↔ ∃ θ, Unifies θ E ∧ d.1.subst θ = d.2.subst θ) ∧
    (c.holds σ = true ↔ c.Sem E) :=
  ⟨h.identical_iff, h.unifiable_iff, h.holds_iff⟩

/-- dropped disequations are entailed: the pending disequations and ALL posted disequations have
    the same solutions (the residual constraints are logically equivalent to what was posted). -/
theorem C26_residual_equivalent {ops : List Op} {st : Store} (h : run ops = some st)
    (θ : String → Term) (hθ : Unifies θ st.eqs) :
    (∀ d ∈ st.difs, d.1.subst θ ≠ d.2.subst θ) ↔ (∀ d ∈ st.allDifs, d.1.subst θ ≠ d.2.subst θ) := by
  obtain ⟨i, _, _, _⟩ := run_target h
  constructor
  · intro hp d hd e
    exact hp d ((i.difs_iff d).mpr ⟨hd, θ, hθ, e⟩) e
  · intro ha d hd
    exact ha d ((i.difs_iff d).mp hd).1

/-! ### which histories fail -/

/-- SOUNDNESS AND COMPLETENESS of failure: a history succeeds iff there is a consistent closed
    store containing all its postings (satisfiable equations, no violated disequation, no
    suspended goal whose condition holds, bodies of all woken goals included). -/
theorem C26_succeeds_iff (ops : List Op) :
    (∃ st, run ops = some st) ↔ ∃ T, Target T ∧ Below ops T := by
  constructor
  · rintro ⟨st, h⟩
    obtain ⟨_, hT, hb, _⟩ := run_target h
    exact ⟨st, hT, hb⟩
  · rintro ⟨T, hT, hb⟩
    obtain ⟨st, h, _⟩ := exec_below hT ops Store.init inv_init (le_init T) hb
    exact ⟨st, h⟩

/-- dif/2 SOUNDNESS AND COMPLETENESS: a history of unifications and dif/2 posts fails — in
    whatever order — exactly when its equations have no solution or entail that the two sides of
    one of its disequations are identical. -/
theorem C26_dif_fails_iff {ops : List Op} (hn : noSusp ops) :
    run ops = none ↔
      ¬Sat (eqsOf ops) ∨ ∃ d ∈ difsOf ops, Entails (eqsOf ops) d := by
  constructor
  · intro hf
    by_cases hs : Sat (eqsOf ops)
    · by_cases hd : ∃ d ∈ difsOf ops, Entails (eqsOf ops) d
      · exact Or.inr hd
      · exfalso
        let T : Store := ⟨[], eqsOf ops, [], difsOf ops, [], []⟩
        have hT : Target T :=
          ⟨hs, fun d hd' he => hd ⟨d, hd', he⟩, fun s hs' => (by cases hs'), fun s hs' => (by cases hs')⟩
        obtain ⟨st, h⟩ := (C26_succeeds_iff ops).mpr
          ⟨T, hT, below_of_basic hn T (fun _ h => h) (fun _ h => h)⟩
        rw [hf] at h; cases h
    · exact Or.inl hs
  · intro h
    cases hr : run ops with
    | none => rfl
    | some st =>
        exfalso
        obtain ⟨i, _, hb, _⟩ := run_target hr
        obtain ⟨m1, m2⟩ := mem_of_below hb
        rcases h with h | ⟨d, hd, he⟩
        · exact h (i.mgu.sat.mono m1)
        · exact i.notEntailed d (m2 d hd) (he.mono m1)

/-- dif/2 SOUNDNESS AND COMPLETENESS over finite trees: a history of unifications and dif/2 posts
    fails — in whatever order — iff the conjunction of its equations and disequations has no solution
    `θ`. Any substitution counts as a solution here; that a ground one exists as well, the signature
    having infinitely many function symbols, is `independent_ground`. -/
theorem C26_dif_fails_iff_unsatisfiable {ops : List Op} (hn : noSusp ops) :
    run ops = none ↔
      ¬∃ θ, Unifies θ (eqsOf ops) ∧ ∀ d ∈ difsOf ops, d.1.subst θ ≠ d.2.subst θ := by
  rw [C26_dif_fails_iff hn]
  constructor
  · rintro (h | ⟨d, hd, he⟩) ⟨θ, hθ, hdif⟩
    · exact h ⟨θ, hθ⟩
    · exact hdif d hd (he θ hθ)
  · intro h
    by_cases hs : Sat (eqsOf ops)
    · right
      obtain ⟨σ, hσ⟩ := exists_mgu hs
      apply Classical.byContradiction
      intro hne
      exact h (independent hσ (difsOf ops) (fun d hd he => hne ⟨d, hd, he⟩))
    · exact Or.inl hs

/-- the end store of every successful history (with freeze/when goals too) is satisfiable: some
    solution of all equations posted falsifies every disequation posted. -/
theorem C26_end_store_satisfiable {ops : List Op} {st : Store} (h : run ops = some st) :
    ∃ θ, Unifies θ st.eqs ∧ ∀ d ∈ st.allDifs, d.1.subst θ ≠ d.2.subst θ := by
  obtain ⟨i, _, _, _⟩ := run_target h
  exact independent i.mgu st.allDifs i.notEntailed

/-! ### dif/2 alone -/

/-- `dif(s,t)` fails when `s` and `t` are identical under the current bindings (the converse:
    `C26_dif_not_identical`, and both directions for a dif posted alone: `C26_dif_alone`). -/
theorem C26_dif_identical_fails (st : Store) (s t : Term) (rest : List Op) :
    applyS st.σ s = applyS st.σ t → exec (.basic (.dif s t) :: rest) st = none := by
  intro e
  have : identical st.σ (s, t) = true := (eqb_iff _ _).mpr e
  simp [exec, this]

/-- … and otherwise succeeds; it leaves a residue exactly when the two sides are unifiable. -/
theorem C26_dif_not_identical (st : Store) (s t : Term) (rest : List Op)
    (hne : applyS st.σ s ≠ applyS st.σ t) :
    exec (.basic (.dif s t) :: rest) st = exec rest (afterDif st s t) ∧
    ((afterDif st s t).difs = st.difs ↔ ¬∃ θ, (applyS st.σ s).subst θ = (applyS st.σ t).subst θ) ∧
    ((afterDif st s t).difs = st.difs ++ [(s, t)] ↔
      ∃ θ, (applyS st.σ s).subst θ = (applyS st.σ t).subst θ) := by
  have hid : identical st.σ (s, t) = false :=
    Bool.eq_false_iff.mpr fun h => hne ((eqb_iff _ _).mp h)
  have hu : unifiable st.σ (s, t) = true ↔
      ∃ θ, (applyS st.σ s).subst θ = (applyS st.σ t).subst θ := by
    rw [unifiable, Option.isSome_iff_exists]
    exact exists_unifyOC_iff
  refine ⟨by rw [exec_dif, hid]; rfl, ?_, ?_⟩
  -- both remaining conjuncts are read off `afterDif` by the value of `unifiable`
  all_goals
    rw [← hu]
    cases h : unifiable st.σ (s, t) <;> simp [afterDif, h]

/-- `dif(X,Y)` posted alone: fails iff `X` and `Y` are identical, succeeds without residue iff
    they are not unifiable, otherwise it is suspended. -/
theorem C26_dif_alone (s t : Term) :
    (run [.basic (.dif s t)] = none ↔ s = t) ∧
    (∀ st, run [.basic (.dif s t)] = some st →
      (st.difs = [] ↔ ¬∃ θ, s.subst θ = t.subst θ) ∧
      (st.difs = [(s, t)] ↔ ∃ θ, s.subst θ = t.subst θ)) := by
  have hr : run [.basic (.dif s t)] =
      if identical [] (s, t) then none else some (afterDif Store.init s t) := by
    rw [run, exec_dif, exec]; rfl
  have hid : identical [] (s, t) = true ↔ s = t := eqb_iff s t
  rw [hr]
  by_cases e : s = t
  · rw [if_pos (hid.mpr e)]
    exact ⟨⟨fun _ => e, fun _ => rfl⟩, nofun⟩
  · rw [if_neg (mt hid.mp e)]
    refine ⟨⟨nofun, fun h => absurd h e⟩, ?_⟩
    rintro _ ⟨⟩
    exact (C26_dif_not_identical Store.init s t [] e).2

/-! ### freeze/2 and when/2: exactly once, exactly when the condition first holds -/

/-- `when/2` conditions are monotone in the bindings: once true, they stay true under every
    extension of the substitution. -/
theorem C26_cond_monotone (σ δ : Subst) : ∀ (c : Cond), c.holds σ = true → c.holds (δ ++ σ) = true
  | .nonvar t => by
      simp only [Cond.holds, Bool.not_eq_true', applyS_append]
      intro h
      rw [applyS_eq_subst δ]
      exact isVar_subst_of_nonvar _ h
  | .ground t => by
      simp only [Cond.holds, List.isEmpty_iff, applyS_append]
      intro h
      rw [applyS_eq_subst δ, subst_ground h _]
      exact h
  | .and a b => by
      simp only [Cond.holds, Bool.and_eq_true]
      exact And.imp (C26_cond_monotone σ δ a) (C26_cond_monotone σ δ b)
  | .or a b => by
      simp only [Cond.holds, Bool.or_eq_true]
      exact Or.imp (C26_cond_monotone σ δ a) (C26_cond_monotone σ δ b)

/-- … and semantically: a condition that holds in all solutions of `E` holds in all solutions of
    any larger set of equations. -/
theorem C26_cond_monotone_sem {E E' : Eqs} (h : ∀ p ∈ E, p ∈ E') (c : Cond) :
    c.Sem E → c.Sem E' := Cond.Sem.mono h

/-- a goal whose condition already holds when it is posted runs immediately. -/
theorem C26_runs_immediately (st : Store) (sp : Susp) (rest : List Op)
    (h : sp.cond.holds st.σ = true) :
    exec (.susp sp :: rest) st =
      exec (bodyOps sp ++ rest) { st with fired := st.fired ++ [sp] } := by
  simp [exec, h]

/-- a goal whose condition does not hold yet is suspended and nothing else happens. -/
theorem C26_suspends (st : Store) (sp : Susp) (rest : List Op)
    (h : sp.cond.holds st.σ = false) :
    exec (.susp sp :: rest) st = exec rest { st with susps := st.susps ++ [sp] } := by
  simp [exec, h]

/-- WAKE-UP TIMING: after every prefix of a history (whatever comes later), the suspended goals
    are exactly the posted goals whose condition does not hold under the current bindings and the
    woken goals are exactly those whose condition holds — a goal is woken within the very posting
    that makes its condition true, never before, and it is never left suspended. -/
theorem C26_wake_timing (pre post : List Op) :
    run (pre ++ post) = (run pre).bind (exec post) ∧
    ∀ st, run pre = some st →
      (∀ s ∈ st.susps, s.cond.holds st.σ = false) ∧
      (∀ s ∈ st.fired, s.cond.holds st.σ = true) ∧
      st.fired.Perm ((suspsOf pre).filter fun s => s.cond.holds st.σ) ∧
      st.susps.Perm ((suspsOf pre).filter fun s => !s.cond.holds st.σ) :=
  ⟨exec_append pre post Store.init, fun _ => fired_perm_filter⟩

/-- EXACTLY ONCE: in the end the run log contains the identifier of every posted goal whose
    condition holds under the final bindings exactly as often as the goal was posted, and no
    other identifier — independently of where in the history the goal was posted. -/
theorem C26_exactly_once {ops : List Op} {st : Store} (h : run ops = some st) :
    st.log.Perm (((suspsOf ops).filter fun s => s.cond.holds st.σ).map (·.id)) :=
  (fired_perm_filter h).2.2.1.map _

/-- `freeze(X, G)` posted anywhere in a history: at the end `G` has been run iff `X` is bound
    to a non-variable term, and it is still suspended iff `X` is still a variable. -/
theorem C26_freeze_runs_iff_bound {ops : List Op} {st : Store} (h : run ops = some st)
    (x : String) (id : Nat) (body : List Basic)
    (hpost : (⟨.nonvar (.var x), id, body⟩ : Susp) ∈ suspsOf ops) :
    ((⟨.nonvar (.var x), id, body⟩ : Susp) ∈ st.fired ↔ isVar (applyS st.σ (.var x)) = false) ∧
    ((⟨.nonvar (.var x), id, body⟩ : Susp) ∈ st.susps ↔ isVar (applyS st.σ (.var x)) = true) := by
  obtain ⟨_, _, f1, f2⟩ := fired_perm_filter h
  constructor
  · rw [f1.mem_iff, List.mem_filter]
    simp [Cond.holds, hpost]
  · rw [f2.mem_iff, List.mem_filter]
    simp [Cond.holds, hpost]

/-! ### non-vacuity and witnesses (concrete histories evaluated by the model) -/

private def X : Term := .var "X"
private def Y : Term := .var "Y"
private def a : Term := .atom "a"
private def b : Term := .atom "b"
private def f (s t : Term) : Term := .str "f" [s, t]

/- the model is evaluated on the closed examples below by rewriting with these equations and, for
   `solve`, with the `@[simp]` lemmas `solve_*` of Proofs/Unify.lean (`exec` and `solve` are
   well-founded recursions: `decide` cannot unfold them) -/
attribute [local simp] run exec Store.init Store.log Cond.holds applyS unifyOC unify substE subst1
  single Term.vars Term.varsL afterUnify afterDif ready waiting readyOps identical
  unifiable bodyOps eqb_iff isVar freeze X Y a b f

/-- `dif(X,Y), X = Y` fails; so does `X = Y, dif(X,Y)`. -/
example : run [.basic (.dif X Y), .basic (.unify X Y)] = none ∧
    run [.basic (.unify X Y), .basic (.dif X Y)] = none := by
  constructor <;> simp

/-- `dif(f(X,Y), f(a,b)), X = a` succeeds with the disequation still pending;
    `dif(f(X,Y), f(a,b)), X = b` succeeds without residue. -/
example : (run [.basic (.dif (f X Y) (f a b)), .basic (.unify X a)]).map (·.difs)
      = some [(f X Y, f a b)] ∧
    (run [.basic (.dif (f X Y) (f a b)), .basic (.unify X b)]).map (·.difs) = some [] := by
  constructor <;> simp

/-- a frozen goal runs when its variable is bound, before or after the posting; it stays
    suspended when the variable is only aliased. -/
example : (run [freeze "X" 1 [], .basic (.unify X a)]).map (·.log) = some [1] ∧
    (run [.basic (.unify X a), freeze "X" 1 []]).map (·.log) = some [1] ∧
    (run [freeze "X" 1 [], .basic (.unify X Y)]).map (fun st => (st.log, st.susps.length))
      = some ([], 1) := by
  refine ⟨?_, ?_, ?_⟩ <;> simp

/-- woken goals post unifications that wake further goals: `freeze(X,(Y=a)), freeze(Y,G2), X=b`
    logs both goals in every order (both histories succeed: the hypotheses of `C26_confluence`
    are satisfiable with a non-trivial permutation). -/
example : (run [freeze "X" 1 [.unify Y a], freeze "Y" 2 [], .basic (.unify X b)]).map (·.log)
      = some [1, 2] ∧
    (run [.basic (.unify X b), freeze "Y" 2 [], freeze "X" 1 [.unify Y a]]).map (·.log)
      = some [1, 2] := by
  constructor <;> simp

/-- the ORDER of the log may depend on the posting order (only the multiset is invariant):
    two goals woken by the same unification run in the order in which they were posted. -/
example : (run [freeze "X" 1 [], freeze "Y" 2 [], .basic (.unify (f X Y) (f a b))]).map (·.log)
      = some [1, 2] ∧
    (run [freeze "Y" 2 [], freeze "X" 1 [], .basic (.unify (f X Y) (f a b))]).map (·.log)
      = some [2, 1] := by
  constructor <;> simp

/-- a woken goal can make the whole history fail: `freeze(X, Y = a), Y = b, X = b`. -/
example : run [freeze "X" 1 [.unify Y a], .basic (.unify Y b), .basic (.unify X b)] = none := by
  simp

/-- Finding C26-1 (witness): `when(ground(f(X,Y)), G), f(X,Y) = f(a,b)` must log `G` ONCE
    (the pinned when.pl ran `G` twice: once for each of the two variables bound by the one
    unification). -/
theorem C26_1_when_runs_once :
    (run [.susp ⟨.ground (f X Y), 1, []⟩, .basic (.unify (f X Y) (f a b))]).map (·.log)
      = some [1] := by
  simp

/-- Finding C26-2 (witness): `freeze(Y,G), dif(X,Y), X = a` must NOT run `G` (`Y` is not bound);
    the pinned dif.pl ran `G` inside the speculative unification `a \= Y` of the re-posted
    dif/2. -/
theorem C26_2_dif_does_not_wake :
    (run [freeze "Y" 1 [], .basic (.dif X Y), .basic (.unify X a)]).map
      (fun st => (st.log, st.susps.length, st.difs.length)) = some ([], 1, 1) := by
  simp

end Scryer.C26
