import ScryerModel.Proofs.PStr
/-!
# C20 — Strings behave exactly like the character lists they denote

Model: `Model/PStr.lean`. `Rep` = the heap representations of a list of characters (`Lis` cells,
`PStrLoc`s into string segments at any character offset, mixed, any tail); `denote` = the
characters and the final tail. Every string-specific mechanism is proved to COMMUTE with `denote`:
its result on representations is the list operation on the denoted lists — for every
representation, split point, offset, character content and tail. The byte-level theorems connect the
representation level with the bytes `push_pstr_segment` writes (UTF-8 text, sentinel zeros).
-/
namespace Scryer.PStr
open Scryer.Heap (pstrTailIdx)
open Scryer.Utf8 (encode lenUtf8 isScalar)

/-! ## representation level -/

/-- **Head/tail decomposition** (`get_list`/`unify_list` against a `PStrLoc`:
`last_str_char_and_tail`, `partial_string_to_pdl`): whenever it yields `(c, s)`, the denoted list is
`c :: denote s` with the same final tail; the successor is again well formed and smaller. -/
theorem C20_decompose_denote (r : Rep) (h : WF r) (c : Nat) (s : Rep) (e : step r = some (c, s)) :
    denote r = (c :: (denote s).1, (denote s).2) ∧ WF s ∧ size s < size r :=
  have a := step_adv h e
  ⟨a.den, a.wf, a.le⟩

/-- … and it yields nothing exactly for the bare tails `.tl t`, which denote no character. (That a
well-formed `PStrLoc` never denotes the empty list is `denote_seg_ne_nil`; it is not part of this
statement.) -/
theorem C20_decompose_none (r : Rep) (h : WF r) : step r = none ↔ (denote r).1 = [] ∧ ∃ t, r = .tl t := by
  rw [step_none_iff h]
  constructor
  · rintro ⟨t, rfl⟩; exact ⟨rfl, t, rfl⟩
  · exact fun h => h.2

/-- **Iteration** (`HeapPStrIter`: a whole slice per `PStrLoc`, one character per `Lis` cell) yields
the denoted characters and stops at the denoted tail. -/
theorem C20_iter_denote (r : Rep) : walk r = denote r := by
  induction r with
  | tl t => rfl
  | lis c r ih => simp only [walk, denote, ih]
  | seg cs k r ih => simp only [walk, denote, ih]

/-- **`compare_pstr_segments`** (character level) is prefix stripping: `Continue(tail, tail)` iff
the remaining texts are equal; `Continue(tail, offset q)` iff the first is a proper prefix of the
second and `q` is its length; never two offsets; `Less`/`Greater` iff they differ at a first
position, ordered by the characters there. -/
theorem C20_cmp_segments (a b : List Nat) (pos : Nat) :
    match cmpSeg a b pos with
    | .cont .tail .tail => a = b
    | .cont .tail (.off q) => ∃ b', b' ≠ [] ∧ b = a ++ b' ∧ q = pos + a.length
    | .cont (.off q) .tail => ∃ a', a' ≠ [] ∧ a = b ++ a' ∧ q = pos + b.length
    | .cont (.off _) (.off _) => False
    | .less => ∃ p x y a' b', a = p ++ x :: a' ∧ b = p ++ y :: b' ∧ x < y
    | .greater => ∃ p x y a' b', a = p ++ x :: a' ∧ b = p ++ y :: b' ∧ y < x := by
  obtain ⟨p, u, v, rfl, rfl, hd⟩ := lcp_split a b
  rw [cmpSeg_append]
  rcases u with _ | ⟨x, u⟩ <;> rcases v with _ | ⟨y, v⟩
  · rfl
  · exact ⟨y :: v, List.cons_ne_nil _ _, by rw [List.append_nil], by rw [List.append_nil]⟩
  · exact ⟨x :: u, List.cons_ne_nil _ _, by rw [List.append_nil], by rw [List.append_nil]⟩
  · have ne := hd x u y v rfl rfl
    simp only [cmpSeg, if_neg ne]
    by_cases hlt : x < y
    · rw [if_pos hlt]; exact ⟨p, x, y, u, v, rfl, rfl, hlt⟩
    · rw [if_neg hlt]; exact ⟨p, x, y, u, v, rfl, rfl, by omega⟩

/-- **Unification commutes with `denote`**: for ALL representations of two character lists (any
mixture of list cells and string segments, any offsets, any tails), the mirrored unification loop
(`unify_list`, `unify_partial_string`, `compare_pstr_segments`) fails iff unification of the denoted
lists fails, and otherwise produces the same tail binding up to representation. It never runs out
of fuel. -/
theorem C20_unify_denote (r1 r2 : Rep) (h1 : WF r1) (h2 : WF r2) :
    (unify (size r1 + size r2) r1 r2).den =
      (unifyList (denote r1).1 (denote r1).2 (denote r2).1 (denote r2).2).den ∧
    (unify (size r1 + size r2) r1 r2).isStuck = false :=
  (loops_denote _ r1 r2 h1 h2 (Nat.le_refl _)).1

/-- in particular a string and its explicit list (or any two representations of the same list with
the same tail) unify with each other exactly as the list unifies with itself. -/
theorem C20_unify_indistinguishable (r1 r1' r2 : Rep) (h1 : WF r1) (h1' : WF r1') (h2 : WF r2)
    (e : denote r1 = denote r1') :
    (unify (size r1 + size r2) r1 r2).den = (unify (size r1' + size r2) r1' r2).den := by
  rw [(C20_unify_denote r1 r2 h1 h2).1, (C20_unify_denote r1' r2 h1' h2).1, e]

/-- **Comparison commutes with `denote`** (`ParallelHeapIter` list arms + `compare_pstr_slices`):
the first differing character decides; if one list ends first or both end, the outcome is handed to
the comparison of the tails (C13). -/
theorem C20_compare_denote (r1 r2 : Rep) (h1 : WF r1) (h2 : WF r2) :
    compare (size r1 + size r2) r1 r2 =
      compareList (denote r1).1 (denote r1).2 (denote r2).1 (denote r2).2 :=
  (loops_denote _ r1 r2 h1 h2 (Nat.le_refl _)).2

theorem C20_compare_indistinguishable (r1 r1' r2 : Rep) (h1 : WF r1) (h1' : WF r1') (h2 : WF r2)
    (e : denote r1 = denote r1') :
    compare (size r1 + size r2) r1 r2 = compare (size r1' + size r2) r1' r2 := by
  rw [C20_compare_denote r1 r2 h1 h2, C20_compare_denote r1' r2 h1' h2, e]

/-- **Copying** (`copy_partial_string` / `copy_pstr_within`: the copy of a `PStrLoc` with an offset
is a fresh segment holding only the suffix) preserves the denotation and well-formedness. -/
theorem C20_copy_denote (r : Rep) (h : WF r) : denote (copy r) = denote r ∧ WF (copy r) := by
  induction r with
  | tl t => exact ⟨rfl, trivial⟩
  | lis c r ih => exact ⟨by simp only [copy, denote, (ih h).1], (ih h).2⟩
  | seg cs k r ih =>
    refine ⟨by simp only [copy, denote, (ih h.2).1, List.drop_zero], ?_, (ih h.2).2⟩
    have := h.1
    simp only [List.length_drop]; omega

/-! ## byte level -/

/-- **Tail cell**: for a segment of `L` text bytes laid out at cell `c`, `scan_slice_to_str` entered
at ANY byte offset `o ≤ L` (including the last character and the sentinel itself) computes the cell
right behind the segment — the cell `pstr_tail_idx` names for the segment's zero byte — for every
length (L mod 8 = 7 takes the extra zero cell). -/
theorem C20_tail_cell (c o L : Nat) (text r : List Nat) (ho : o ≤ L) (hL : text.length = L)
    (hz : ∀ b ∈ text, b ≠ 0) :
    scanTailIdx (8 * c + o) (text.drop o ++ 0 :: r) = c + segCells L ∧
    c + segCells L = pstrTailIdx (8 * c + L) := by
  refine ⟨?_, Scryer.Heap.segCells_eq_pstrTailIdx c L⟩
  rw [scanTailIdx_eq, scanLen_append _ _ (fun b hb => hz b (List.mem_of_mem_drop hb)), List.length_drop, hL,
    Scryer.Heap.segCells_eq_pstrTailIdx, Nat.add_assoc, Nat.add_sub_cancel' ho]

/-- **`last_str_char_and_tail`** on the bytes of a segment: at the character `c` followed by the
characters `post` (then the sentinel), it returns `c` and — if `post` is empty — the tail cell,
otherwise the `PStrLoc` of the next character (`loc + len_utf8(c)`), for every Unicode scalar value
(1–4 byte encodings) and every position. -/
theorem C20_last_char_and_tail (loc c : Nat) (post rest : List Nat) (hc : isScalar c = true)
    (hpost : ∀ d ∈ post, d ≠ 0) :
    lastCharAndTail loc (utf8 (c :: post) ++ 0 :: rest) =
      some (c, if post = [] then .tail (scanTailIdx loc (utf8 (c :: post) ++ 0 :: rest))
               else .pstr (loc + lenUtf8 c)) := by
  unfold lastCharAndTail
  rw [utf8_cons_append, Scryer.Utf8.decodeFirst_encode hc]
  simp only [Scryer.Utf8.drop_encode_append]
  cases post with
  | nil => simp [utf8]
  | cons d ps =>
    have hd : d ≠ 0 := hpost d List.mem_cons_self
    cases he : encode d with
    | nil => exact absurd he (Scryer.Utf8.encode_ne_nil d)
    | cons b t =>
      have hb : b ≠ 0 := Scryer.Utf8.encode_ne_zero hd b (by rw [he]; exact List.mem_cons_self)
      simp only [utf8, he, List.cons_append, if_neg hb]
      rw [if_neg (List.cons_ne_nil _ _)]

/-- **`PStrSegmentIter`** reads back exactly the characters that were encoded, whatever follows the
sentinel. -/
theorem C20_segment_iter (cs rest : List Nat) (h : ∀ c ∈ cs, isScalar c = true ∧ c ≠ 0) :
    segChars (cs.length + 1) (utf8 cs ++ 0 :: rest) = cs :=
  segChars_seg cs _ rest h (Nat.lt_succ_self _)

/-- **`compare_pstr_slices` on bytes = prefix stripping on bytes**, for zero-free texts followed by
their sentinel (whatever lies behind). -/
theorem C20_cmp_bytes (u v r1 r2 : List Nat) (pos : Nat) (hu : ∀ b ∈ u, b ≠ 0) (hv : ∀ b ∈ v, b ≠ 0) :
    cmpBytes (u ++ 0 :: r1) (v ++ 0 :: r2) pos = cmpSeg u v pos := by
  induction u generalizing v pos with
  | nil =>
    cases v with
    | nil => simp [cmpBytes, cmpSeg]
    | cons y b => simp [cmpBytes, cmpSeg, hv y List.mem_cons_self]
  | cons x a ih =>
    have hx : x ≠ 0 := hu x List.mem_cons_self
    cases v with
    | nil => simp [cmpBytes, cmpSeg, hx]
    | cons y b =>
      have hy : y ≠ 0 := hv y List.mem_cons_self
      simp only [List.cons_append, cmpBytes, cmpSeg, if_neg hx, if_neg hy]
      rw [ih b (pos + 1) (fun b hb => hu b (List.mem_cons_of_mem _ hb))
        (fun b hb => hv b (List.mem_cons_of_mem _ hb))]

/-- … and on UTF-8 texts with a common character prefix `p` the byte position reported is the byte
length of `p`, i.e. a character boundary of both. -/
theorem C20_cmp_bytes_prefix (p a b r1 r2 : List Nat) (h : ∀ c ∈ p ++ a ++ b, c ≠ 0) :
    cmpBytes (utf8 (p ++ a) ++ 0 :: r1) (utf8 (p ++ b) ++ 0 :: r2) 0 =
      cmpSeg (utf8 a) (utf8 b) (utf8 p).length := by
  have h1 : ∀ c ∈ p ++ a, c ≠ 0 := fun c hc => h c (by
    simp only [List.mem_append] at hc ⊢; exact Or.inl hc)
  have h2 : ∀ c ∈ p ++ b, c ≠ 0 := fun c hc => h c (by
    simp only [List.mem_append] at hc ⊢
    rcases hc with hc | hc
    · exact Or.inl (Or.inl hc)
    · exact Or.inr hc)
  rw [C20_cmp_bytes _ _ _ _ _ (utf8_ne_zero _ h1) (utf8_ne_zero _ h2),
    utf8_append, utf8_append, cmpSeg_append, Nat.zero_add]

/-- two different characters never make the byte comparison answer `Continue` (UTF-8 is prefix
free), so segment unification fails exactly at the first differing character. Stated for `cmpSeg` on
the byte lists, which is `cmpBytes` on zero-free texts (`C20_cmp_bytes`). (That the order of the
bytes there is the order of the code points is `C13_utf8_order`.) -/
theorem C20_cmp_bytes_mismatch (x y : Nat) (hx : isScalar x = true) (hy : isScalar y = true)
    (hxy : x ≠ y) (s t : List Nat) (pos : Nat) :
    cmpSeg (encode x ++ s) (encode y ++ t) pos = .less ∨
    cmpSeg (encode x ++ s) (encode y ++ t) pos = .greater := by
  obtain ⟨p, u, v, e1, e2, hd⟩ := lcp_split (encode x ++ s) (encode y ++ t)
  have dx := Scryer.Utf8.decodeFirst_encode hx
  have dy := Scryer.Utf8.decodeFirst_encode hy
  rw [e1, e2, cmpSeg_append]
  rcases u with _ | ⟨a, u⟩
  · -- the first text is a prefix of the second: both decode to the same first character
    rw [List.append_nil] at e1
    have := dy t; rw [e2, ← e1, List.append_assoc, dx] at this
    cases this; exact absurd rfl hxy
  rcases v with _ | ⟨b, v⟩
  · rw [List.append_nil] at e2
    have := dx s; rw [e1, ← e2, List.append_assoc, dy] at this
    cases this; exact absurd rfl hxy
  simp only [cmpSeg, if_neg (hd a u b v rfl rfl)]
  exact (Nat.lt_or_ge a b).imp (fun h => if_pos h) (fun h => if_neg (Nat.not_lt.mpr h))

/-! ## witnesses and non-vacuity -/

/-- "abc" as one segment, as list cells, as a suffix of "xyabc", and mixed. -/
def exSeg : Rep := .seg [97, 98, 99] 0 (.tl .nil)
def exLis : Rep := .lis 97 (.lis 98 (.lis 99 (.tl .nil)))
def exOff : Rep := .seg [120, 121, 97, 98, 99] 2 (.tl .nil)
def exMix : Rep := .seg [97] 0 (.lis 98 (.seg [122, 99] 1 (.tl .nil)))

example : denote exSeg = ([97, 98, 99], .nil) ∧ denote exLis = denote exSeg ∧
    denote exOff = denote exSeg ∧ denote exMix = denote exSeg := by decide

example : WF exSeg ∧ WF exLis ∧ WF exOff ∧ WF exMix := by
  simp only [exSeg, exLis, exOff, exMix, WF]; decide

/-- every arm of the unifier is reached: segment/segment with an offset continuation, segment/list,
list/list, binding of a variable tail to a string suffix, failure. -/
example : (unify 20 (.seg [97, 98] 0 (.tl (.var 1))) exOff).den = some (some (1, ([99], .nil))) := by
  decide
example : (unify 20 exMix exLis).den = some none := by decide
example : (unify 20 exSeg (.seg [97, 98, 100] 0 (.tl .nil))).den = none := by decide
example : compare 20 exOff (.seg [97, 98, 100] 0 (.tl .nil)) = .lt := by decide
example : compare 20 exMix exLis = .tails .nil .nil := by decide

/-- byte level: "a€" (1 + 3 bytes) followed by its sentinel: the decomposition at byte 0 yields `a`
and the PStrLoc of `€`; at `€` (the last character) the tail cell; a 7-byte text takes the extra cell. -/
example : lastCharAndTail 16 (utf8 [97, 0x20AC] ++ [0, 0, 0, 0]) = some (97, .pstr 17) := by decide
example : lastCharAndTail 17 (utf8 [0x20AC] ++ [0, 0, 0, 0]) = some (0x20AC, .tail 3) := by decide
example : segCells 7 = 2 ∧ segCells 8 = 2 ∧ segCells 6 = 1 := by decide

/-- **Witness for finding C20-3** (at the pinned commit `get_partial_string` compares the heap string
with the whole of a literal that contains a NUL character): `compare_pstr_slices` reads the literal's
embedded zero byte as the end of the literal. Heap segment "ab", literal bytes "a\0b": the answer is `Continue(offset 1, tail)` — "the
literal is exhausted, the heap string continues at offset 1" — although the literal's next character
is NUL and the heap's is `b`: the head unification must fail. -/
theorem C20_witness_literal_nul :
    cmpBytes ([97, 98] ++ [0, 0, 0, 0, 0, 0]) [97, 0, 98] 0 = .cont (.off 1) .tail := by decide

end Scryer.PStr
