import ScryerModel.Proofs.Fault
import ScryerModel.Proofs.Heap
/-!
# C30 — Memory exhaustion at any allocation raises a catchable error  (PARTIAL)

What is proved (for every program, goal, state, fuel, oracle / fault schedule):

* on the reference interpreter (`Scryer.Fault.solveInj` = `Scryer.Solve.step` + injection): an
  allocation fault at a step *is* the goal `throw(error(resource_error(memory), []))` at that step;
  it is caught by the innermost `catch/3` whose catcher unifies, the recovery starts from the
  substitution of the catch entry plus the catcher bindings, a non-matching catcher lets it pass,
  and what runs afterwards is a function of the recovered state only;
* on the protocol machine (`Scryer.Fault.exec`, quantified over fault schedules): a denied growth
  is the explicit throw, the heap top is restored to the mark of the catching frame, the frame stack
  to what it was at the catch entry, the abandoned rest of the goal does not run, and without faults
  nothing changes;
* bridge to the byte-level heap model of C33: an operation that returns `AllocError` leaves
  `byte_len` and the contents unchanged.

What is NOT proved (see `notes/design/C30.md`): that each `AllocError` propagation site of the
implementation really takes this path — that is the fault enumeration of `vlib/props/C30.py`.
-/
namespace Scryer.Fault
open Scryer.Solve

/-! ## the reference interpreter -/

/-- **A fault is a throw.**  If the oracle strikes when goal `g` is about to be reduced in state
    `s`, the faulted run of `g` is the unfaulted run of the goal
    `throw(error(resource_error(memory), []))` in the same state: no answers, the pre-stored ball. -/
theorem C30_fault_is_throw (φ : Oracle) (n : Nat) (prog : Prog) (g : Term) (s : St)
    (h : φ g s = true) :
    solveInj resBall φ (n + 9) prog g s = solve (n + 9) prog (throwGoal resBall) s
    ∧ (solveInj resBall φ (n + 9) prog g s).sols = []
    ∧ (solveInj resBall φ (n + 9) prog g s).exc = some (resBall, s.ctr + 1)
    ∧ (solveInj resBall φ (n + 9) prog g s).oof = false :=
  -- `n + 9`: the step that faults, above the `n + 8` with which `throw/1` copies the ball (`closed_resBall`)
  solveInj_fault resBall φ (n + 8) prog g s (closed_resBall n) h

/-- **Without faults nothing changes**: with an oracle that never strikes the faulted interpreter
    is the reference interpreter (all of C07/C12 carries over). -/
theorem C30_no_fault_is_reference (φ : Oracle) (hφ : ∀ g s, φ g s = false) (n : Nat) (prog : Prog)
    (g : Term) (s : St) : solveInj resBall φ n prog g s = solve n prog g s := by
  rw [solveInj_noFault resBall φ hφ prog n]

/-- where the oracle does not strike, a step of the faulted interpreter is `Solve.step` over the
    faulted interpreter one level down: the control constructs are those of the reference
    interpreter, and a fault in a sub-goal reaches them as the ball of that sub-goal. -/
theorem C30_faulted_run_uses_reference_step (φ : Oracle) (n : Nat) (prog : Prog) (g : Term) (s : St)
    (h : φ g s = false) :
    solveInj resBall φ (n + 1) prog g s = step prog (solveInj resBall φ n prog) n g s :=
  solveInj_succ resBall φ n prog g s h

/-- `error(E, V)` unifies with the resource error: `E = resource_error(memory)`, `V = []`. -/
theorem unify_errCatcher_resBall (n : Nat) (σ : Subst) (e v : String) (he : lookup σ e = none)
    (hv : lookup σ v = none) (hne : (e == v) = false) :
    unify (n + 6) σ (errCatcher e v) resBall
      = some (some ((v, .atom "[]") :: (e, resFormal) :: σ)) :=
  -- `n + 6`: `unify_errCatcher` at `n + 1`, the least at which its `occurs (· + 2)` gets through `resource_error(memory)`
  unify_errCatcher (n + 1) σ e v _ _ he hv hne nofun nofun (by simp [resFormal, occurs, occursList])
    (by simp [occurs])

/-- **Caught by a matching catch/3, recovery from the entry state.**  Whatever the goal did before
    the fault (`rec` is the faulted interpreter one level down — any function), if its run ends with
    the resource error then `catch(G, error(E,V), R)` delivers the answers `G` had produced before,
    then runs `R` as `call(R)` from the substitution of the catch ENTRY extended by
    `E = resource_error(memory), V = []`: every binding `G` made is gone, nothing else is added. -/
theorem C30_caught_and_state_restored (rec : Term → St → Res) (n : Nat) (s : St) (g r : Term)
    (e v : String) (c' : Nat)
    (he : lookup s.σ e = none) (hv : lookup s.σ v = none) (hne : (e == v) = false)
    (ho : (callGoal rec (n + 6) s g []).oof = false)
    (hx : (callGoal rec (n + 6) s g []).exc = some (resBall, c')) :
    catchRes rec (n + 6) s g (errCatcher e v) r =
      (let rR := callGoal rec (n + 6) ⟨(v, .atom "[]") :: (e, resFormal) :: s.σ, c'⟩ r []
       if rR.oof then Res.oofR
       else ⟨(callGoal rec (n + 6) s g []).sols ++ rR.sols, false, rR.exc, false⟩) :=
  -- `n + 6` is the fuel of `unify_errCatcher_resBall`: `catchRes` unifies catcher and ball with the fuel it runs at
  catchRes_caught rec _ s g _ r resBall c' _ ho hx (unify_errCatcher_resBall n s.σ e v he hv hne)

/-- with the recovery goal `true` the catch/3 has exactly one more answer — the recovered state —
    and no ball is left: the error is handled. -/
theorem C30_recovery_true_succeeds_once (φ : Oracle) (n : Nat) (prog : Prog) (s : St) (g : Term)
    (e v : String) (c' : Nat)
    (he : lookup s.σ e = none) (hv : lookup s.σ v = none) (hne : (e == v) = false)
    (ho : (callGoal (solveInj resBall φ (n + 6) prog) (n + 6) s g []).oof = false)
    (hx : (callGoal (solveInj resBall φ (n + 6) prog) (n + 6) s g []).exc = some (resBall, c'))
    (hs : (callGoal (solveInj resBall φ (n + 6) prog) (n + 6) s g []).sols = [])
    (hφ : φ (.atom "true") ⟨(v, .atom "[]") :: (e, resFormal) :: s.σ, c'⟩ = false) :
    catchRes (solveInj resBall φ (n + 6) prog) (n + 6) s g (errCatcher e v) (.atom "true")
      = Res.one ⟨(v, .atom "[]") :: (e, resFormal) :: s.σ, c'⟩ :=
  catchRes_true_once _ (n + 5) s g _ resBall c' _ ho hx hs
    (unify_errCatcher_resBall n s.σ e v he hv hne) (solveInj_true resBall φ (n + 5) prog _ hφ)

/-- **Fault transparency after recovery.**  `(catch(G, error(E,V), true), K)`: once the fault is
    handled, the continuation `K` runs in the recovered state exactly as the (faulted) interpreter
    runs `K` from that state — the result does not depend on `G`, on where in `G` the fault struck,
    or on what `G` had bound. -/
theorem C30_continuation_runs_from_recovered_state (φ : Oracle) (n : Nat) (prog : Prog) (s : St)
    (g k : Term) (e v : String) (c' : Nat)
    (he : lookup s.σ e = none) (hv : lookup s.σ v = none) (hne : (e == v) = false)
    (ho : (callGoal (solveInj resBall φ (n + 6) prog) (n + 6) s g []).oof = false)
    (hx : (callGoal (solveInj resBall φ (n + 6) prog) (n + 6) s g []).exc = some (resBall, c'))
    (hs : (callGoal (solveInj resBall φ (n + 6) prog) (n + 6) s g []).sols = [])
    (hφ : φ (.atom "true") ⟨(v, .atom "[]") :: (e, resFormal) :: s.σ, c'⟩ = false)
    (hφc : φ (.str "catch" [g, errCatcher e v, .atom "true"]) s = false)
    (hφk : φ (.str "," [.str "catch" [g, errCatcher e v, .atom "true"], k]) s = false) :
    let s' : St := ⟨(v, .atom "[]") :: (e, resFormal) :: s.σ, c'⟩
    let rK := solveInj resBall φ (n + 7) prog k s'
    solveInj resBall φ (n + 8) prog (.str "," [.str "catch" [g, errCatcher e v, .atom "true"], k]) s
      = if rK.oof then Res.oofR
        else if rK.exc.isSome || rK.cut then ⟨rK.sols, rK.exc.isNone, rK.exc, false⟩
        else ⟨rK.sols, false, none, false⟩ :=
  -- `','/2` is reduced at `n + 8`, so `K` and `catch/3` at `n + 7`, so `G` and the unification at the `n + 6` above
  (conj_catch_true resBall φ (n + 5) prog s g _ k c' _ ho hx hs
    (unify_errCatcher_resBall n s.σ e v he hv hne) hφ hφc hφk).trans (conjRes_single _ false _)

/-- **A catcher that does not unify lets the fault pass**: same ball, same copy, no recovery goal. -/
theorem C30_nonmatching_catch_propagates (rec : Term → St → Res) (n : Nat) (s : St) (g c r : Term)
    (c' : Nat) (ho : (callGoal rec n s g []).oof = false)
    (hx : (callGoal rec n s g []).exc = some (resBall, c'))
    (hu : unify n s.σ c resBall = some none) :
    catchRes rec n s g c r = callGoal rec n s g [] :=
  catchRes_passed rec n s g c r resBall c' ho hx hu

/-! ## the protocol machine (every fault schedule) -/

/-- **A denied growth is an explicit throw**: an operation one of whose growth attempts is denied
    behaves as `throw(error(resource_error(memory), []))` at that point (only the attempt counter
    records that attempts were made); nothing of the operation is kept. -/
theorem C30_denied_alloc_is_throw (deny : Nat → Bool) (n g j : Nat) (rest : List MOp) (s : MSt)
    (h : firstDenied deny s.att g = some j) :
    exec deny (.alloc n g :: rest) none s
      = exec deny (.throwRes :: rest) none { s with att := s.att + j + 1 } := by
  simp only [exec, h]

/-- **Fault at any growth inside catch/3: caught, heap top and frames restored, rest abandoned.**
    `catch(G, <matching>, true), Post` where `G` = allocations `pre` whose growth attempts are all
    granted, then an operation with a denied attempt (the `j`-th of its own), then ANY balanced
    rest: `Post` starts with the heap top and the frame stack of the catch entry, one more caught
    error, and nothing of `rest` has run. -/
theorem C30_fault_in_catch_restores (deny : Nat → Bool) (pre : List (Nat × Nat)) (n g j : Nat)
    (rest post : List MOp) (s : MSt)
    (hpre : ∀ i, i < attempts pre → deny (s.att + i) = false)
    (hden : firstDenied deny (s.att + attempts pre) g = some j)
    (hbal : balanced 0 rest = true) :
    exec deny (.enter true :: (allocs pre ++ .alloc n g :: (rest ++ .leave :: post))) none s
      = exec deny post none
          { s with att := s.att + attempts pre + j + 1, caught := s.caught + 1 } := by
  simp only [exec]
  rw [exec_allocs deny _ pre _ (by simpa using hpre)]
  simp only [exec, hden, unwind, if_true]
  rw [exec_skip deny post rest 0 _ hbal]

/-- **Without a denied attempt the catch/3 is transparent**: all of `pre` is allocated, the frame is
    popped, the frame stack is what it was. -/
theorem C30_no_fault_runs_through (deny : Nat → Bool) (pre : List (Nat × Nat)) (m : Bool)
    (post : List MOp) (s : MSt) (hpre : ∀ i, i < attempts pre → deny (s.att + i) = false) :
    exec deny (.enter m :: (allocs pre ++ .leave :: post)) none s
      = exec deny post none { s with len := s.len + cellsOf pre, att := s.att + attempts pre } := by
  simp only [exec]
  rw [exec_allocs deny _ pre _ (by simpa using hpre)]
  simp [exec]

/-- **An inner catch/3 whose catcher does not match is passed**: the fault is caught by the outer
    matching frame; the heap top goes back to the OUTER mark and both frames are gone. -/
theorem C30_inner_nonmatching_frame_is_passed (deny : Nat → Bool) (n0 n g j : Nat)
    (rest post : List MOp) (s : MSt)
    (hden : firstDenied deny s.att g = some j) (hbal : balanced 0 rest = true) :
    exec deny (.enter true :: .alloc n0 0 :: .enter false :: .alloc n g ::
        (rest ++ .leave :: .leave :: post)) none s
      = exec deny post none { s with att := s.att + j + 1, caught := s.caught + 1 } := by
  simp only [exec, firstDenied, Nat.add_zero, hden, unwind, if_true, Bool.false_eq_true, if_false]
  -- skip depth 1: `unwind` dropped the inner frame with the outer one, and its `leave` is still to pass
  rw [exec_skip_block deny (.leave :: .leave :: post) rest 0 1 _ hbal]
  simp [exec]

/-- **Uncaught without a matching frame**: the run ends `uncaught` at the faulting operation. -/
theorem C30_uncaught_without_matching_frame (deny : Nat → Bool) (n g j : Nat) (rest : List MOp)
    (s : MSt) (hden : firstDenied deny s.att g = some j) (hf : unwind s.frames = none) :
    exec deny (.alloc n g :: rest) none s = ({ s with att := s.att + j + 1 }, .uncaught) := by
  simp [exec, hden, hf]

/-- the hook's plan `set_grow_fault(k, persistent)`: attempts before the `k`-th are granted, the
    `k`-th is denied; in persistent mode so is every later one, in one-shot mode none. -/
theorem C30_schedule (k : Nat) (hk : 1 ≤ k) (p : Bool) :
    (∀ i, i + 1 < k → schedule k p i = false) ∧ schedule k p (k - 1) = true
    ∧ (∀ i, k < i + 1 → schedule k p i = p) := by
  have hk0 : k ≠ 0 := Nat.ne_of_gt hk
  refine ⟨fun i hi => ?_, ?_, fun i hi => ?_⟩
  · have h1 : i + 1 ≠ k := Nat.ne_of_lt hi
    have h2 : ¬ k < i + 1 := Nat.lt_asymm hi
    simp [schedule, h1, h2]
  · simp [schedule, Nat.sub_add_cancel hk, hk0]
  · have h3 : (k != 0) = true := bne_iff_ne.mpr hk0
    have h4 : (i + 1 == k) = false := beq_eq_false_iff_ne.mpr (Nat.ne_of_gt hi)
    simp [schedule, h3, h4, hi]

/-! ## bridge to the byte-level heap model (C33) -/

/-- an operation of the mirrored heap (`push_cell`, reservations, string allocation, copying,
    appending, list and functor writers) that returns `AllocError` — in whatever pattern its
    growths were granted or denied before — leaves `byte_len`, the contents and the write log as
    they were, and the heap consistent: there is no partially built term below the heap top. -/
theorem C30_failed_heap_operation_keeps_heap (h h' : Heap.Heap) (op : Heap.Op) (i : Heap.Inv h)
    (e : Heap.step h op = .allocErr h') :
    h'.len = h.len ∧ h'.mem = h.mem ∧ h'.log = h.log ∧ Heap.Inv h' := by
  have p := Heap.step_post h op i
  rw [e] at p
  exact ⟨p.len_eq, p.mem_eq, p.log_eq, p.inv i⟩

/-! ## non-vacuity -/

/-- a concrete faulted run on the reference interpreter: `catch((X = 1, '$alloc'), error(E,V), true)`
    with a fault at `'$alloc'` succeeds with `E`/`V` bound and `X` unbound again. -/
example :
    (solveInj resBall (fun g _ => match g with | .atom "$alloc" => true | _ => false) 12 []
        (Term.str "catch" [.str "," [.str "=" [.var "X", .int 1], .atom "$alloc"],
                errCatcher "E" "V", .atom "true"]) ⟨[], 0⟩).sols.map
      (fun st => (match lookup st.σ "E" with | some (.str "resource_error" [.atom "memory"]) => true | _ => false)
                  && (lookup st.σ "X").isNone)
      = [true] := by decide

/-- k-th growth denied inside a matching catch/3, persistent plan: caught, heap top restored. -/
example : exec (schedule 2 true) [.enter true, .alloc 10 1, .alloc 20 1, .alloc 5 1, .leave, .alloc 1 0]
    none {} = ({ len := 1, att := 2, frames := [], caught := 1 }, .done) := by decide

/-- the same without a frame: uncaught. -/
example : (exec (schedule 2 false) [.alloc 10 1, .alloc 20 1, .alloc 5 1] none {}).2 = .uncaught := by
  decide

end Scryer.Fault
