import ScryerModel.Proofs.IntRel
/-!
# C49 — Integer relation builtins enumerate exactly their relations

Property theorems over `Model/IntRel.lean`, the clause-by-clause transcription of `between/3`,
`succ/2`, `numlist/3` (library(between), library(iso_ext), library(error)) and `length/2`
(library(lists) with `'$skip_max_list'` / `'$det_length_rundown'` of system_calls.rs).

Conventions. A goal run for `n` answers yields `Res.ans as` (`as` = the first `n` answers; fewer than
`n` means finite failure after them), `Res.err e` (error before any answer) or `Res.hang as` (still
searching an unending candidate stream). Answers are tuples of the relation. All integers are
mathematical integers: no bound on magnitude anywhere except where a hypothesis says so.
`rangeIncl l u` is `[l, l+1, …, u]`.

Three theorems are `_partial` because the pinned code does not satisfy the full statement:
`C49_length_spec_partial` and `C49_length_errors_partial` (negative lengths below `-2^63`, finding
C49-1) — the full statement is proved for the repaired test of `skip_max_list` (/repo 49010bf,
`C49_length_spec_fixed`) — and `C49_numlist3_bound_list_partial` (no termination with a bound list
and an unbound bound, C49-2; the branch that /repo 26d27b9 put in front of the clause of `numlist/3`
for this case is not in the model).
-/
namespace Scryer.IntRel

/-! ## The interval `[l..u]` -/

/-- `[l..u]` contains exactly the integers between `l` and `u`, in ascending order, each once;
it has `u + 1 - l` elements (none if `u < l`). -/
theorem C49_range_exact (l u : Int) :
    (∀ x, x ∈ rangeIncl l u ↔ (l ≤ x ∧ x ≤ u)) ∧ (rangeIncl l u).Pairwise (· < ·) ∧
      (rangeIncl l u).Nodup ∧ (rangeIncl l u).length = (u + 1 - l).toNat := by
  have hs : (rangeIncl l u).Pairwise (· < ·) := pairwise_map_range_add l _
  refine ⟨fun x => ?_, hs, hs.imp (fun h => by omega), length_rangeIncl l u⟩
  rw [rangeIncl, mem_map_range_add]; omega

/-! ## between/3 -/

/-- `between/3` equals its specification for every combination of arguments (unbound, integer,
ill-typed) and every answer limit. -/
theorem C49_between_spec (n : Nat) (L U X : Arg) : between n L U X = specBetween n L U X :=
  between_eq_spec n L U X

/-- Enumeration mode: the first `n` answers of `between(l, u, X)` are the first `n` elements of
`[l..u]` — ascending, once each (with `C49_range_exact`). -/
theorem C49_between_enumerates (n : Nat) (l u : Int) (v : Nat) :
    between n (.int l) (.int u) (.var v) = .ans ((rangeIncl l u).take n) := by
  rw [between_eq_spec, specBetween, rangeTake_eq_take]

/-- … and the enumeration terminates: asked for more answers than `[l..u]` has, the goal delivers
exactly `[l..u]` and fails finitely. -/
theorem C49_between_terminates (n : Nat) (l u : Int) (v : Nat) (h : (u + 1 - l).toNat < n) :
    between n (.int l) (.int u) (.var v) = .ans (rangeIncl l u) ∧ (rangeIncl l u).length < n := by
  rw [C49_between_enumerates, List.take_of_length_le (by rw [length_rangeIncl]; omega)]
  exact ⟨rfl, by rw [length_rangeIncl]; exact h⟩

/-- no answer when the interval is empty -/
theorem C49_between_empty (n : Nat) (l u : Int) (v : Nat) (h : u < l) :
    between n (.int l) (.int u) (.var v) = .ans [] := by
  rw [between_eq_spec, specBetween, rangeTake_empty n l u h]

/-- An upper bound out of reach: every finite prefix of the answers is `l, l+1, l+2, …`. -/
theorem C49_between_unbounded_prefix (n : Nat) (l u : Int) (v : Nat) (h : l + n ≤ u + 1) :
    between n (.int l) (.int u) (.var v) = .ans ((List.range n).map fun (i : Nat) => l + (i : Int)) := by
  rw [between_eq_spec, specBetween, rangeTake]
  have e : min n (u + 1 - l).toNat = n := by omega
  rw [e]

/-- Test mode: `between(l, u, x)` succeeds (once) iff `l ≤ x ≤ u`. -/
theorem C49_between_test (n : Nat) (l u x : Int) (hn : 1 ≤ n) :
    between n (.int l) (.int u) (.int x) = (if l ≤ x ∧ x ≤ u then .ans [x] else .ans []) := by
  rw [between_eq_spec, specBetween]
  split
  · exact ansN_one hn x
  · rfl

/-- Error table of `between/3`: the first argument, in the order Lower, Upper, X, that is unbound
(Lower, Upper only) or not an integer decides. An atom such as `inf` is ill-typed: this version of
the library has no infinite upper bound. -/
theorem C49_between_errors (n : Nat) (U X : Arg) (l u : Int) (v k : Nat) :
    between n (.var v) U X = .err .inst ∧
    between n (.bad k) U X = .err (.typeInt (.bad k)) ∧
    between n (.int l) (.var v) X = .err .inst ∧
    between n (.int l) (.bad k) X = .err (.typeInt (.bad k)) ∧
    between n (.int l) (.int u) (.bad k) = .err (.typeInt (.bad k)) := by
  simp only [between_eq_spec]
  refine ⟨rfl, rfl, ?_, ?_, rfl⟩ <;> cases X <;> rfl

/-! ## succ/2 -/

theorem C49_succ_spec (n : Nat) (I S : Arg) : succ n I S = specSucc n I S := succ_eq_spec n I S

/-- Mode (+,-): `S = I + 1` for `I ≥ 0`, a domain error for negative `I`. -/
theorem C49_succ_forward (n : Nat) (i : Int) (v : Nat) (hn : 1 ≤ n) :
    succ n (.int i) (.var v) = (if 0 ≤ i then .ans [(i, i + 1)] else .err (.domNlz i)) := by
  split
  · rename_i h; rw [succ_int_var n h, ansN_one hn]
  · exact succ_err_left n (specNlzErr_neg (by omega)) _

/-- Mode (-,+): `I = S - 1` for `S ≥ 1`, failure for `S = 0` (no natural number precedes it), a
domain error for negative `S`. -/
theorem C49_succ_backward (n : Nat) (s : Int) (v : Nat) (hn : 1 ≤ n) :
    succ n (.var v) (.int s) =
      (if s < 0 then .err (.domNlz s) else if 1 ≤ s then .ans [(s - 1, s)] else .ans []) := by
  split
  · rename_i h; exact succ_err_right n rfl (specNlzErr_neg h)
  · rw [succ_var_int n v (by omega), ansN_one hn]

/-- Mode (+,+) on natural numbers: succeeds iff `S = I + 1`. -/
theorem C49_succ_test (n : Nat) (i s : Int) (hn : 1 ≤ n) (hi : 0 ≤ i) (hs : 0 ≤ s) :
    succ n (.int i) (.int s) = (if s = i + 1 then .ans [(i, s)] else .ans []) := by
  rw [succ_int_int n hi hs, ansN_one hn]

/-- Every answer of `succ/2`, in every mode, is a pair `(i, i + 1)` with `i ≥ 0` that is compatible
with the arguments; there is at most one. -/
theorem C49_succ_sound (n : Nat) (I S : Arg) (as : List (Int × Int)) (h : succ n I S = .ans as) :
    as.length ≤ 1 ∧ ∀ p ∈ as, p.2 = p.1 + 1 ∧ 0 ≤ p.1 ∧ argAdmits I p.1 = true ∧ argAdmits S p.2 = true := by
  have adm : ∀ j : Int, argAdmits (.int j) j = true := fun j => decide_eq_true rfl
  cases hI : specNlzErr I with
  | some e => rw [succ_err_left n hI] at h; cases h
  | none =>
    cases hS : specNlzErr S with
    | some e => rw [succ_err_right n hI hS] at h; cases h
    | none =>
      -- both arguments are unbound or non-negative integers: the four modes, of which the first,
      -- both unbound, throws
      cases I <;> cases S <;> simp [specNlzErr] at hI hS
      · cases h
      · rename_i v s
        rw [succ_var_int n v hS] at h
        split at h
        · exact ansN_singleton_sound ⟨by simp, by simp; omega, rfl, adm s⟩ h
        · cases h; simp
      · rename_i i w
        rw [succ_int_var n hI] at h
        exact ansN_singleton_sound ⟨rfl, hI, adm i, rfl⟩ h
      · rename_i i s
        rw [succ_int_int n hI hS] at h
        split at h
        · rename_i e
          exact ansN_singleton_sound ⟨e, hI, adm i, adm s⟩ h
        · cases h; simp

/-- … and every such pair is found: if some `i ≥ 0` is compatible with `I` and `i + 1` with `S`,
and not both are unbound, the goal answers exactly `(i, i + 1)`. -/
theorem C49_succ_complete (n : Nat) (I S : Arg) (i : Int) (hn : 1 ≤ n) (hi : 0 ≤ i)
    (hI : argAdmits I i = true) (hS : argAdmits S (i + 1) = true)
    (hv : ¬ ∃ v w, I = .var v ∧ S = .var w) : succ n I S = .ans [(i, i + 1)] := by
  rw [← ansN_one hn]
  cases I with
  | bad k => cases hI
  | var v =>
    cases S with
    | bad k => cases hS
    | var w => exact absurd ⟨v, w, rfl, rfl⟩ hv
    | int s =>
      cases of_decide_eq_true hS
      rw [succ_var_int n v (by omega), if_pos (by omega), Int.add_sub_cancel]
  | int i' =>
    cases of_decide_eq_true hI
    cases S with
    | bad k => cases hS
    | var w => exact succ_int_var n hi w
    | int s =>
      cases of_decide_eq_true hS
      rw [succ_int_int n hi (by omega), if_pos rfl]

/-- Error table of `succ/2`: an argument that is not an integer gives `type_error(integer, _)`, a
negative integer `domain_error(not_less_than_zero, _)` (the first argument is examined first), two
unbound arguments an instantiation error. -/
theorem C49_succ_errors (n : Nat) (S : Arg) (i : Int) (v w k : Nat) (hi : i < 0) :
    succ n (.bad k) S = .err (.typeInt (.bad k)) ∧
    succ n (.int i) S = .err (.domNlz i) ∧
    succ n (.var v) (.bad k) = .err (.typeInt (.bad k)) ∧
    succ n (.var v) (.int i) = .err (.domNlz i) ∧
    succ n (.var v) (.var w) = .err .inst :=
  have hneg := specNlzErr_neg hi
  ⟨succ_err_left n rfl S, succ_err_left n hneg S, succ_err_right n rfl rfl, succ_err_right n rfl hneg, rfl⟩

/-! ## numlist/3 -/

/-- With integer bounds: `numlist(l, u, Xs)` holds iff `l ≤ u` and `Xs = [l..u]` (one answer, then
finite failure). -/
theorem C49_numlist3_ints (n fuel : Nat) (l u : Int) (Xs : LArg) :
    numlist3 n fuel (.int l) (.int u) Xs
      = (if l ≤ u ∧ unifyInts (rangeIncl l u) Xs = true then ansN n [(l, u, rangeIncl l u)] else .ans []) := by
  simp only [numlist3, canBeInt, numlistFound, numlistBody_eq]
  split <;> simp [ansN]

/-- the specification used as oracle by the correspondence check agrees with it -/
theorem C49_numlist3_ints_spec (n fuel : Nat) (l u : Int) (Xs : LArg) :
    numlist3 n fuel (.int l) (.int u) Xs = specNumlist3 n fuel (.int l) (.int u) Xs := by
  rw [C49_numlist3_ints]
  simp [specNumlist3, canBeInt]

/-- a list is `[l..u]` with `l ≤ u` for exactly the bounds the specification computes from it -/
theorem C49_boundsOf_iff (xs : List Int) (l u : Int) :
    boundsOf xs = some (l, u) ↔ (l ≤ u ∧ xs = rangeIncl l u) := by
  cases xs with
  | nil =>
    refine ⟨fun h => (nomatch h), ?_⟩
    rintro ⟨h, e⟩
    rw [rangeIncl_cons _ _ h] at e
    cases e
  | cons x t =>
    simp only [boundsOf]
    constructor
    · intro h
      split at h
      · rename_i g
        cases h
        exact ⟨by simp only [List.length_cons]; omega, g⟩
      · cases h
    · rintro ⟨h1, h2⟩
      have hl := congrArg List.length h2
      rw [length_rangeIncl] at hl
      obtain rfl : x = l := by
        rw [rangeIncl_cons _ _ h1] at h2
        exact (List.cons.inj h2).1
      rw [show x + ((x :: t).length : Int) - 1 = u by omega, if_pos h2]

/-- Error table of `numlist/3`: `can_be(integer, Lower)`, then `can_be(integer, Upper)`. -/
theorem C49_numlist3_errors (n fuel : Nat) (L U : Arg) (Xs : LArg) (k : Nat) (hL : canBeInt L = none) :
    numlist3 n fuel (.bad k) U Xs = .err (.typeInt (.bad k)) ∧
    numlist3 n fuel L (.bad k) Xs = .err (.typeInt (.bad k)) := by
  constructor
  · simp [numlist3, canBeInt]
  · cases L <;> simp_all [numlist3, canBeInt]

/-- Soundness in every mode: each answer `(l, u, xs)` satisfies `l ≤ u`, `xs = [l..u]`, and is
compatible with the arguments. -/
theorem C49_numlist3_sound (n fuel : Nat) (L U : Arg) (Xs : LArg) (as : List Tuple)
    (h : numlist3 n fuel L U Xs = .ans as ∨ numlist3 n fuel L U Xs = .hang as) :
    ∀ t ∈ as, t.1 ≤ t.2.1 ∧ t.2.2 = rangeIncl t.1 t.2.1 ∧ unifyInts t.2.2 Xs = true ∧
      (∀ l, L = .int l → t.1 = l) ∧ (∀ u, U = .int u → t.2.1 = u) := by
  intro t ht
  apply numlistFound_sound (fuel := fuel)
  -- a result that carries answers carries some of those found: the two error exits carry none, `ansN`
  -- (both bounds given) and a `search` that has its `n` answers a prefix, a `search` that hangs all
  unfold numlist3 search ansN at h
  split at h
  · simp at h
  · split at h
    · simp at h
    · split at h
      · simp at h; subst h; exact List.mem_of_mem_take ht
      · split at h
        · simp at h; subst h; exact List.mem_of_mem_take ht
        · simp at h; subst h; exact ht

/-- Fairness in every mode: each tuple of the relation that is compatible with the arguments is
among the answers found once enough candidates have been scanned (and stays there). -/
theorem C49_numlist3_complete (L U : Arg) (Xs : LArg) (hL : canBeInt L = none) (hU : canBeInt U = none)
    (l u : Int) (hlu : l ≤ u) (hx : unifyInts (rangeIncl l u) Xs = true)
    (hl : ∀ l', L = .int l' → l = l') (hu : ∀ u', U = .int u' → u = u') :
    ∃ fuel0, ∀ fuel, fuel0 ≤ fuel → (l, u, rangeIncl l u) ∈ numlistFound fuel L U Xs := by
  have hb : (l, u, rangeIncl l u) ∈ numlistBody l u Xs := mem_numlistBody.2 ⟨rfl, hlu, hx⟩
  cases L with
  | bad k => cases hL
  | int l' =>
    cases hl l' rfl
    cases U with
    | bad k => cases hU
    | int u' =>
      cases hu u' rfl
      exact ⟨0, fun fuel _ => hb⟩
    | var w =>
      exact ⟨u.natAbs + 1, fun fuel hf => List.mem_flatMap.2 ⟨u, mem_enumerateInts_zero.2 hf, hb⟩⟩
  | var v =>
    cases U with
    | bad k => cases hU
    | int u' =>
      cases hu u' rfl
      exact ⟨l.natAbs + 1, fun fuel hf => List.mem_flatMap.2 ⟨l, mem_enumerateInts_zero.2 hf, hb⟩⟩
    | var w =>
      exact ⟨_, fun fuel hf => List.mem_flatMap.2 ⟨(l, u), mem_diagInts.2 hf, hb⟩⟩

/-- No tuple is answered twice, in any mode. -/
theorem C49_numlist3_no_duplicates (fuel : Nat) (L U : Arg) (Xs : LArg) :
    (numlistFound fuel L U Xs).Nodup := by
  unfold numlistFound
  split
  · exact numlistBody_nodup _ _ _
  · exact nodup_flatMap_of_key (fun t : Tuple => t.2.1) (enumerateInts_nodup fuel)
      (fun u => numlistBody_nodup _ u _) fun u t ht => by rw [(mem_numlistBody.1 ht).1]
  · exact nodup_flatMap_of_key (fun t : Tuple => t.1) (enumerateInts_nodup fuel)
      (fun l => numlistBody_nodup l _ _) fun l t ht => by rw [(mem_numlistBody.1 ht).1]
  · exact nodup_flatMap_of_key (fun t : Tuple => (t.1, t.2.1)) (diagInts_nodup fuel)
      (fun p => numlistBody_nodup _ _ _) fun p t ht => by rw [(mem_numlistBody.1 ht).1]

/-- The candidate generators never run dry: `gen_int/1` has produced at least `d` candidates after
`d` levels, for every `d`. -/
theorem C49_gen_int_unending (d : Nat) : d ≤ (enumerateInts d 0).length := length_enumerateInts_ge d 0

/-- `gen_int/1` enumerates every integer exactly once (`0, 1, -1, 2, -2, …`). -/
theorem C49_gen_int_bijective (d : Nat) (x : Int) :
    (x ∈ enumerateInts d 0 ↔ x.natAbs < d) ∧ (enumerateInts d 0).Nodup :=
  ⟨mem_enumerateInts_zero, enumerateInts_nodup d⟩

/-- `diag_ints/2` enumerates every pair of integers exactly once. -/
theorem C49_diag_ints_bijective (q : Int × Int) : (∃ d, q ∈ diagInts d) ∧ ∀ d, (diagInts d).Nodup :=
  ⟨⟨_, mem_diagInts.2 (Nat.le_refl _)⟩, diagInts_nodup⟩

/-- PARTIAL (finding C49-2). With a bound list and an unbound bound the pinned code finds at most one
tuple (that it finds the one there is: `C49_numlist3_complete`) and goes on searching for ever: asked
for two answers it never returns, whatever the scan fuel. What is missing for the property:
termination. -/
theorem C49_numlist3_bound_list_partial (fuel : Nat) (L U : Arg) (xs : List Int)
    (hL : canBeInt L = none) (hU : canBeInt U = none) (hm : ¬ ∃ l u, L = .int l ∧ U = .int u) :
    numlist3 2 fuel L U (.ints xs) = .hang (numlistFound fuel L U (.ints xs)) ∧
      (numlistFound fuel L U (.ints xs)).length ≤ 1 := by
  -- every answer is the same tuple: the list itself between the bounds that `boundsOf` reads off it
  have hall : ∀ t ∈ numlistFound fuel L U (.ints xs), boundsOf xs = some (t.1, t.2.1) ∧ t.2.2 = xs := by
    intro t ht
    obtain ⟨h1, h2, h3, -⟩ := numlistFound_sound ht
    have e : xs = t.2.2 := by simpa [unifyInts] using h3
    exact ⟨(C49_boundsOf_iff xs _ _).2 ⟨h1, e.trans h2⟩, e.symm⟩
  have hlen := length_le_one_of_nodup (C49_numlist3_no_duplicates fuel L U _) fun a ha b hb => by
    have e := (hall a ha).1.symm.trans (hall b hb).1
    simp only [Option.some.injEq, Prod.mk.injEq] at e
    exact Prod.ext e.1 (Prod.ext e.2 ((hall a ha).2.trans (hall b hb).2.symm))
  refine ⟨?_, hlen⟩
  unfold numlist3
  simp only [hL, hU]
  split
  · rename_i l u; exact absurd ⟨l, u, rfl, rfl⟩ hm
  · have : ¬ (numlistFound fuel L U (.ints xs)).length ≥ 2 := by omega
    simp [search, this]

/-! ## length/2 -/

/-- PARTIAL (finding C49-1). `length/2` of the pinned code equals its specification for lists that
fit a 64-bit address space, lengths whose list fits the heap (`cap`), and integer lengths not below
`-2^63`. What is missing: the domain error for integers below `-2^63` (see the examples below). -/
theorem C49_length_spec_partial (cap n fresh : Nat) (xs : PList) (N : Arg)
    (hk : (xs.k : Int) < 2 ^ 63)
    (hN : ∀ i, N = .int i → -(2 ^ 63) ≤ i ∧ (∀ t, xs.tail = .var t → i - xs.k ≤ cap)) :
    length true cap n fresh xs N = specLength n fresh xs N :=
  length_eq_spec true cap n fresh xs N hk (fun i e => ⟨fun _ => (hN i e).1, (hN i e).2⟩)

/-- With the repaired test (`is_integer() && !is_negative()`: /repo 49010bf, notes/findings/C49-1.md)
the specification holds for every integer length. -/
theorem C49_length_spec_fixed (cap n fresh : Nat) (xs : PList) (N : Arg)
    (hk : (xs.k : Int) < 2 ^ 63)
    (hN : ∀ i, N = .int i → ∀ t, xs.tail = .var t → i - xs.k ≤ cap) :
    length false cap n fresh xs N = specLength n fresh xs N :=
  length_eq_spec false cap n fresh xs N hk (fun i e => ⟨fun h => (by cases h), hN i e⟩)

/-- A proper list with `k` elements has length `k`: `N` unbound gives the single answer `k`; an
integer `N ≥ 0` succeeds iff `N = k` (negative `N`: `C49_length_errors_partial`). -/
theorem C49_length_proper (p : Bool) (cap n fresh k v : Nat) (hn : 1 ≤ n) (hk : (k : Int) < 2 ^ 63) :
    length p cap n fresh ⟨k, .nil⟩ (.var v) = .ans [⟨k, []⟩] ∧
    ∀ i : Int, 0 ≤ i →
      length p cap n fresh ⟨k, .nil⟩ (.int i) = (if i = k then .ans [⟨i, []⟩] else .ans []) := by
  constructor
  · rw [length_eq_spec p cap n fresh ⟨k, .nil⟩ (.var v) hk (by intro i e; cases e)]
    exact ansN_one hn _
  · intro i hi
    rw [length_eq_spec p cap n fresh ⟨k, .nil⟩ (.int i) hk
      (by intro j e; cases e; exact ⟨fun _ => by omega, fun t e => by cases e⟩)]
    have : ¬ i < 0 := by omega
    simp only [specLength, this, ↓reduceIte, ansN_one hn]

/-- A partial list with `k` elements and an unbound length (not the tail itself): for every `n`,
the first `n` answers are `N = k, k+1, …, k+n-1`, the `j`-th with the tail bound to a list of `j`
variables that are pairwise distinct and do not occur in the query (`≥ fresh`). The enumeration
never ends (there are `n` answers for every `n`). -/
theorem C49_length_partial_enumerates (p : Bool) (cap n fresh k t v : Nat) (hvt : v ≠ t)
    (hk : (k : Int) < 2 ^ 63) :
    length p cap n fresh ⟨k, .var t⟩ (.var v)
        = .ans ((List.range n).map fun (j : Nat) => (⟨(k : Int) + (j : Int), freshVars fresh j⟩ : LenAns)) ∧
      ∀ j, (freshVars fresh j).length = j ∧ (freshVars fresh j).Nodup ∧ ∀ x ∈ freshVars fresh j, fresh ≤ x := by
  constructor
  · rw [length_eq_spec p cap n fresh ⟨k, .var t⟩ (.var v) hk (by intro i e; cases e)]
    simp [specLength, hvt]
  · intro j
    exact ⟨length_freshVars _ _, freshVars_nodup _ _, fun x hx => ((mem_freshVars _ _ _).1 hx).1⟩

/-- A partial list with `k` elements and an integer length `i ≥ 0`: failure if `i < k`; otherwise the
tail becomes a list of `i - k` fresh variables (when such a list fits the heap). -/
theorem C49_length_partial_bound (p : Bool) (cap n fresh k t : Nat) (i : Int) (hn : 1 ≤ n) (hi : 0 ≤ i)
    (hk : (k : Int) < 2 ^ 63) (hc : i - k ≤ cap) :
    length p cap n fresh ⟨k, .var t⟩ (.int i)
      = (if i < k then .ans [] else .ans [⟨i, freshVars fresh (i - k).toNat⟩]) := by
  rw [length_eq_spec p cap n fresh ⟨k, .var t⟩ (.int i) hk
    (by intro j e; cases e; exact ⟨fun _ => by omega, fun _ _ => hc⟩)]
  have : ¬ i < 0 := by omega
  simp only [specLength, this, ↓reduceIte, ansN_one hn]

/-- Error table of `length/2`, whatever the first argument: a length that is not an integer gives
`type_error(integer, N)`; a negative integer (for the pinned code: not below `-2^63`) gives
`domain_error(not_less_than_zero, N)`; a partial list whose tail is the length variable gives
`resource_error(finite_memory)`. A term that is no (partial) list just fails. -/
theorem C49_length_errors_partial (p : Bool) (cap n fresh : Nat) (xs : PList) (b k t : Nat) (i : Int)
    (hk : (xs.k : Int) < 2 ^ 63) (hi : i < 0) (hp : p = true → -(2 ^ 63) ≤ i) :
    length p cap n fresh xs (.bad b) = .err (.typeInt (.bad b)) ∧
    length p cap n fresh xs (.int i) = .err (.domNlz i) ∧
    length p cap n fresh ⟨k, .var t⟩ (.var t) = .err .resFinite ∧
    length p cap n fresh ⟨k, .nonlist⟩ (.var t) = .ans [] := by
  refine ⟨?_, ?_, ?_, ?_⟩
  · rw [length_eq_spec p cap n fresh xs (.bad b) hk (by intro j e; cases e)]; rfl
  · rw [length_eq_spec p cap n fresh xs (.int i) hk
      (by intro j e; cases e; exact ⟨hp, fun _ _ => by omega⟩)]
    simp [specLength, hi]
  · simp [length, skip_var]
  · simp [length, skip_var]

/-! ## Non-vacuity and the two findings on the model of the pinned code -/

example : between 8 (.int 1) (.int 3) (.var 0) = .ans [1, 2, 3] := by decide +kernel
example : between 3 (.int (2 ^ 64 - 1)) (.int (2 ^ 70)) (.var 0) = .ans [2 ^ 64 - 1, 2 ^ 64, 2 ^ 64 + 1] := by decide +kernel
example : between 8 (.int 1) (.bad 0) (.var 0) = .err (.typeInt (.bad 0)) := by decide +kernel
example : succ 2 (.var 0) (.int 0) = .ans [] := by decide +kernel
example : succ 2 (.int (2 ^ 63 - 1)) (.var 0) = .ans [(2 ^ 63 - 1, 2 ^ 63)] := by decide +kernel
example : length true 100 3 2 ⟨2, .var 0⟩ (.var 1)
    = .ans [⟨2, []⟩, ⟨3, [2]⟩, ⟨4, [2, 3]⟩] := by decide +kernel
example : length true 100 3 2 ⟨2, .var 0⟩ (.int 1) = .ans [] := by decide +kernel
example : length true 100 3 2 ⟨2, .var 0⟩ (.int (-1)) = .err (.domNlz (-1)) := by decide +kernel
/-- the hypotheses of `C49_length_spec_partial` are satisfiable with a bignum length -/
example : length true 100 3 2 ⟨3, .nil⟩ (.int (2 ^ 64)) = specLength 3 2 ⟨3, .nil⟩ (.int (2 ^ 64)) := by decide +kernel
/-- finding C49-1 on the model: below `-2^63` the pinned code fails / runs out of memory … -/
example : length true 100 3 2 ⟨3, .nil⟩ (.int (-(2 ^ 63) - 1)) = .ans [] := by decide +kernel
example : length true 100 3 2 ⟨0, .var 0⟩ (.int (-(2 ^ 63) - 1)) = .err .resMemory := by decide +kernel
/-- … where the specification, and the fixed code, raise the domain error -/
example : specLength 3 2 ⟨3, .nil⟩ (.int (-(2 ^ 63) - 1)) = .err (.domNlz (-(2 ^ 63) - 1)) := by decide +kernel
example : length false 100 3 2 ⟨3, .nil⟩ (.int (-(2 ^ 63) - 1)) = .err (.domNlz (-(2 ^ 63) - 1)) := by decide +kernel
/-- finding C49-2 on the model: `numlist(L, U, [0,1])` finds `(0,1)` and is still searching -/
example : numlist3 1 3 (.var 0) (.var 1) (.ints [0, 1]) = .ans [(0, 1, [0, 1])] := by
  simp only [numlist3, canBeInt, numlistFound, numlistBody_eq]
  decide +kernel
example : ∀ fuel, ∃ as, numlist3 2 fuel (.var 0) (.var 1) (.ints [0, 1]) = .hang as :=
  fun fuel => ⟨_, (C49_numlist3_bound_list_partial fuel (.var 0) (.var 1) [0, 1] rfl rfl (by simp)).1⟩
example : specNumlist3 2 9 (.var 0) (.var 1) (.ints [0, 1]) = .ans [(0, 1, [0, 1])] := by decide +kernel

end Scryer.IntRel
