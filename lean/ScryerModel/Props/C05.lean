import ScryerModel.Proofs.IntRepr
/-!
# C05 — Equal integers behave identically regardless of how they were produced

`Num.fix v` and `Num.big v` are the two representations an integer value can have at run
time (the second also for small values, e.g. the result of `2^60 - 2^60 + 2`). The theorems say
that every modelled consumer depends on the VALUE only. The models mirror unify.rs, the
integer arm of the standard order, and first-argument indexing as repaired by the `fix:`
commit (arena integers take the variable chain).
-/
namespace Scryer.IntRepr
open Scryer.Arith

/-- unification of two integers succeeds exactly when their values are equal, for all four
    pairings of representations. -/
theorem C05_unify_by_value (a b : Num) : unifyInt a b = true ↔ a.val = b.val :=
  unifyInt_iff a b

/-- standard-order comparison (hence `==`, `compare/3`, `sort/2`, `keysort/2` keys) of integers
    is comparison of values. -/
theorem C05_compare_by_value (a b : Num) : compareInt a b = compare a.val b.val := by
  cases a <;> cases b <;> rfl

theorem C05_identical_by_value (a b : Num) : identical a b = true ↔ a.val = b.val := by
  unfold identical; rw [C05_compare_by_value]
  simp only [beq_iff_eq]
  exact Std.LawfulEqOrd.compare_eq_iff_eq

/-- database lookup: first-argument indexing followed by head unification selects exactly the
    clauses whose integer equals the call argument's value, in textual order. -/
theorem C05_lookup_exact (heads : List Num) (a : Num)
    (hh : ∀ h ∈ heads, h.wf) (ha : a.wf) :
    matchesFrom 0 heads a = specFrom 0 heads a.val :=
  matchesFrom_eq_spec heads a 0 ha

/-- headline: two integers of equal value (any representations) retrieve the same clauses. -/
theorem C05_lookup_repr_independent (heads : List Num) (r1 r2 : Num)
    (hh : ∀ h ∈ heads, h.wf) (h1 : r1.wf) (h2 : r2.wf) (e : r1.val = r2.val) :
    matchesFrom 0 heads r1 = matchesFrom 0 heads r2 := by
  rw [C05_lookup_exact heads r1 hh h1, C05_lookup_exact heads r2 hh h2, e]

/-- sensitivity witness: with the routing the code had before the repair (arena integers
    looked up by address) the statement is false — `p(2)` is not found by a computed `2`. -/
theorem C05_old_routing_counterexample :
    matchesFromOld 0 [Num.fix 2] (Num.big 2) ≠ matchesFromOld 0 [Num.fix 2] (Num.fix 2) := by
  decide

-- non-vacuity: a computed small value in a bignum, a literal bignum head, a fixnum head
example : matchesFrom 0 [.fix 2, .big (10^20), .big 2, .fix 3] (.big 2) = [0, 2] := by decide +kernel
example : matchesFrom 0 [.fix 2, .big (10^20), .big 2, .fix 3] (.fix 2) = [0, 2] := by decide +kernel
example : matchesFrom 0 [.fix 2, .big (10^20)] (.big (10^20)) = [1] := by decide +kernel

end Scryer.IntRepr
