import ScryerModel.Proofs.BDDCount
/-!
# C46 — clp(B) decides satisfiability and counts models exactly

Property theorems over `Model/BDD.lean`: Boolean expressions `Fm` over every clp(B) connective
(`0 1 ~ * + # =:= =\= =< >= < > ^ +(L) *(L) card/2`) with the reference semantics `Fm.eval`, and
the ROBDD algorithms of `src/lib/clpb.pl` (`make_node`, `apply`, `bdd_restriction`, `existential`,
the `card/2` counter network, `sat_rewrite`+`sat_bdd`, `bdd_count`, `labeling`), for all
expressions. Sharing is implicit in the tree representation, so `OrdAbove` with `Reduced` is exactly
clpb's invariant (`is_bdd/1`). The library itself (attributed variables, propagation, one BDD per
component, hash tables) is tied to this model only by the correspondence run (`vlib/props/C46.py`).
-/
namespace Scryer.BDD
open BDD

/-- `apply/4` computes the operator pointwise: `eval (apply op a b) ρ = op (eval a ρ) (eval b ρ)`.
    No hypothesis: true for arbitrary (even unordered) decision diagrams. -/
theorem C46_apply_sem (op : Op) (a b : BDD) (ρ : Nat → Bool) :
    (apply op a b).eval ρ = op.fn (a.eval ρ) (b.eval ρ) := eval_apply op a b ρ

/-- `apply/4` preserves the reduced-ordered invariant. -/
theorem C46_apply_invariant (op : Op) {a b : BDD} {n : Nat} (ha : OrdAbove n a) (ra : Reduced a)
    (hb : OrdAbove n b) (rb : Reduced b) :
    OrdAbove n (apply op a b) ∧ Reduced (apply op a b) :=
  have h := GoodAbove.apply op (.of ha ra) (.of hb rb)
  ⟨h.ord, h.red⟩

/-- `bdd_restriction/4` (variable `i` := `x`) on an ordered BDD: semantics and invariant. -/
theorem C46_restrict {b : BDD} {n : Nat} (hb : OrdAbove n b) (rb : Reduced b) (i : Nat) (x : Bool) :
    (∀ ρ, (restrict i x b).eval ρ = b.eval (upd ρ i x)) ∧
    OrdAbove n (restrict i x b) ∧ Reduced (restrict i x b) :=
  have h := (GoodAbove.of hb rb).restrict i x
  ⟨eval_restrict hb i x, h.ord, h.red⟩

/-- `existential/3`: `V^F` is true iff `F` is true for some value of `V`. -/
theorem C46_exists {b : BDD} {n : Nat} (hb : OrdAbove n b) (rb : Reduced b) (i : Nat) :
    (∀ ρ, (exQ i b).eval ρ = (b.eval (upd ρ i false) || b.eval (upd ρ i true))) ∧
    OrdAbove n (exQ i b) ∧ Reduced (exQ i b) :=
  have h := (GoodAbove.of hb rb).exQ i
  ⟨eval_exQ hb i, h.ord, h.red⟩

/-- Canonicity: two reduced ordered BDDs (same variable order) denoting the same Boolean
    function are equal. -/
theorem C46_canonical {a b : BDD} {n : Nat} (ha : OrdAbove n a) (ra : Reduced a) (hb : OrdAbove n b)
    (rb : Reduced b) (h : ∀ ρ, a.eval ρ = b.eval ρ) : a = b := canonical ha ra hb rb h

/-- Hence the decisions are comparisons with the terminals: a reduced ordered BDD is `0` iff
    unsatisfiable and `1` iff valid. -/
theorem C46_terminal_decision {b : BDD} {n : Nat} (hb : OrdAbove n b) (rb : Reduced b) :
    (b = leaf false ↔ ∀ ρ, b.eval ρ = false) ∧ (b = leaf true ↔ ∀ ρ, b.eval ρ = true) :=
  ⟨eq_leaf_iff hb rb false, eq_leaf_iff hb rb true⟩

/-- `sat_rewrite/2` + `sat_bdd/2`: the BDD built for ANY expression denotes the expression's
    truth function, is reduced and ordered, and only branches on variables of the expression
    (the auxiliary variables of `card/2` are gone). `fr` is any index above the expression's
    variables (the library's global variable counter). -/
theorem C46_build (f : Fm) {fr : Nat} (h : ∀ v ∈ f.allVars, v < fr) :
    (∀ ρ, (f.build fr).eval ρ = f.eval ρ) ∧ OrdAbove 0 (f.build fr) ∧ Reduced (f.build fr) ∧
    Supp (· ∈ f.allVars) (f.build fr) :=
  have ⟨g, e⟩ := build_ok f fr h
  ⟨e, g.ord, g.red, g.supp⟩

/-- `card(Is, Fs)`: the counter network (with auxiliary variables for repeated variables and
    non-variable elements, quantified away afterwards) is true iff the number of true elements
    is in `Is`. -/
theorem C46_card (is : List (Nat × Nat)) (l : FmL) {fr : Nat} (h : ∀ v ∈ l.allVars, v < fr)
    (ρ : Nat → Bool) :
    ((Fm.card is l).build fr).eval ρ = inRanges is (l.countT ρ) :=
  (build_ok (.card is l) fr h).2 ρ

/-- Incremental posting: `sat(F)` on a store that is the (reduced ordered) conjunction of what
    was posted before fails iff store ∧ F is unsatisfiable; otherwise the new store is a reduced
    ordered BDD denoting store ∧ F. -/
theorem C46_post {S : Nat → Prop} {fr : Nat} {st : BDD} {f : Fm} (hst : Good S st)
    (hv : ∀ v ∈ f.allVars, v < fr) :
    (post fr st f = none ↔ ∀ ρ, ¬ (st.eval ρ = true ∧ f.eval ρ = true)) ∧
    ∀ st', post fr st f = some st' →
      Good (fun v => S v ∨ v ∈ f.allVars) st' ∧ ∀ ρ, st'.eval ρ = (st.eval ρ && f.eval ρ) := by
  have hz := conj_unsat_iff hst hv
  unfold post
  simp only
  split
  · next e => exact ⟨⟨fun _ => hz.1 e, fun _ => rfl⟩, nofun⟩
  · next ne =>
    refine ⟨⟨nofun, fun h => absurd (hz.2 h) ne⟩, fun st' h => ?_⟩
    cases h
    exact conj_denotes hst hv


/-- `sat/1` succeeds iff the expression is satisfiable. -/
theorem C46_sat_iff (f : Fm) : sat f = true ↔ ∃ ρ, f.eval ρ = true := by
  rw [sat, Option.isSome_iff_ne_none, Ne, (C46_post (S := fun _ => True) Good.leaf (fresh_spec f)).1,
    Classical.not_forall_not]
  exact exists_congr fun ρ => and_iff_right rfl

/-- `taut/2` w.r.t. posted constraints: `T = 0` iff store ∧ F is unsatisfiable; `T = 1` iff it is
    satisfiable and F holds in every model of the store; otherwise failure. -/
theorem C46_taut_under {S : Nat → Prop} {fr : Nat} {st : BDD} {f : Fm} (hst : Good S st)
    (hv : ∀ v ∈ f.allVars, v < fr) :
    (tautUnder fr st f = some false ↔ ∀ ρ, ¬ (st.eval ρ = true ∧ f.eval ρ = true)) ∧
    (tautUnder fr st f = some true ↔
      (∃ ρ, st.eval ρ = true ∧ f.eval ρ = true) ∧ ∀ ρ, st.eval ρ = true → f.eval ρ = true) := by
  have h1 := conj_unsat_iff hst hv
  -- `1 # F` conjoined with the store is `0` iff the store entails `F`
  have h2 : apply .and (apply .xor (leaf true) (f.build fr)) st = leaf false ↔
      ∀ ρ, st.eval ρ = true → f.eval ρ = true := by
    have d := Denotes.apply (S := fun _ => True) .and
      (Denotes.neg ((build_ok f).denotes fun v hm => ⟨hv v hm, trivial⟩))
      ⟨hst.mono fun _ _ => trivial, fun _ => rfl⟩
    refine (d.eq_leaf_iff false).trans (forall_congr' fun ρ => ?_)
    show (!f.eval ρ && st.eval ρ) = false ↔ _
    cases st.eval ρ <;> cases f.eval ρ <;> decide
  unfold tautUnder
  by_cases c1 : apply .and st (f.build fr) = leaf false
  · rw [if_pos c1]
    exact ⟨⟨fun _ => h1.1 c1, fun _ => rfl⟩, nofun, fun ⟨⟨ρ, hρ⟩, _⟩ => absurd hρ (h1.1 c1 ρ)⟩
  · have hex : ∃ ρ, st.eval ρ = true ∧ f.eval ρ = true :=
      Classical.not_forall_not.1 fun h => c1 (h1.2 h)
    rw [if_neg c1]
    by_cases c2 : apply .and (apply .xor (leaf true) (f.build fr)) st = leaf false
    · rw [if_pos c2]
      exact ⟨⟨nofun, fun h => absurd (h1.2 h) c1⟩, fun _ => ⟨hex, h2.1 c2⟩, fun _ => rfl⟩
    · rw [if_neg c2]
      exact ⟨⟨nofun, fun h => absurd (h1.2 h) c1⟩, nofun, fun h => absurd (h2.2 h.2) c2⟩


/-- `taut/2`: `T = 1` iff the expression is a tautology, `T = 0` iff it is unsatisfiable,
    failure iff it is neither. -/
theorem C46_taut (f : Fm) :
    (taut f = some true ↔ ∀ ρ, f.eval ρ = true) ∧
    (taut f = some false ↔ ∀ ρ, f.eval ρ = false) ∧
    (taut f = none ↔ (∃ ρ, f.eval ρ = true) ∧ ∃ ρ, f.eval ρ = false) := by
  have hs := C46_taut_under (S := fun _ => True) (st := leaf true) (f := f) Good.leaf (fresh_spec f)
  have h1 : taut f = some true ↔ ∀ ρ, f.eval ρ = true :=
    hs.2.trans ⟨fun h ρ => h.2 ρ rfl, fun h => ⟨⟨fun _ => false, rfl, h _⟩, fun ρ _ => h ρ⟩⟩
  have h0 : taut f = some false ↔ ∀ ρ, f.eval ρ = false :=
    hs.1.trans (forall_congr' fun ρ => 
      (not_congr (and_iff_right rfl)).trans (Bool.not_eq_true _ ▸ Iff.rfl))
  refine ⟨h1, h0, ?_⟩
  -- neither answer is given iff neither universal statement holds
  have hopt : taut f = none ↔ ¬ taut f = some false ∧ ¬ taut f = some true := by
    cases taut f with
    | none => simp
    | some b => cases b <;> simp
  rw [hopt, h1, h0, Classical.not_forall, Classical.not_forall]
  simp only [Bool.not_eq_false, Bool.not_eq_true]

/-- `sat(A), sat(B)` leaves the same store as `sat(A*B)` (canonicity). -/
theorem C46_post_seq_eq_conj {S : Nat → Prop} {fr : Nat} {st sa sb sab : BDD} {a b : Fm} (hst : Good S st)
    (ha : ∀ v ∈ a.allVars, v < fr) (hb : ∀ v ∈ b.allVars, v < fr)
    (h1 : post fr st a = some sa) (h2 : post fr sa b = some sb) (h3 : post fr st (.and a b) = some sab) :
    sb = sab := by
  have ga := (C46_post hst ha).2 sa h1
  have gb := (C46_post ga.1 hb).2 sb h2
  have gab := (C46_post (f := .and a b) hst fun v hv =>
    (List.mem_append.1 hv).elim (ha v) (hb v)).2 sab h3
  refine canonical gb.1.ord gb.1.red gab.1.ord gab.1.red (fun ρ => ?_)
  rw [gb.2, ga.2, gab.2]
  simp [Fm.eval, Bool.and_assoc]

/-- The counting algorithm (`renumber_variable/3`, `bdd_count/3` with the level-skipping weights
    `2^(var_u(child) - index - 1)`, final factor `2^(var_u(root) - 1)`) returns exactly the number
    of assignments of the variables `vs` (strictly ascending, containing every variable of the
    BDD) under which the BDD is true. -/
theorem C46_bdd_count {vs : List Nat} {b : BDD} (hvs : vs.Pairwise (· < ·)) (hb : Good (· ∈ vs) b) :
    satCountBDD vs b = ((allBits vs.length).filter fun bits => b.eval (envOf vs bits)).length := by
  have ho : OrdAbove 1 (b.renumber fun v => vs.idxOf v + 1) :=
    ordAbove_renumber (r := fun v => vs.idxOf v + 1)
      (fun a ha b hb hab => Nat.succ_lt_succ (idxOf_lt_of_sorted hvs a ha b hb hab))
      b 0 1 hb.ord hb.supp (fun w _ _ => Nat.succ_pos _)
  have hs : Supp (· ≤ vs.length) (b.renumber fun v => vs.idxOf v + 1) :=
    supp_renumber (S := (· ∈ vs)) (T := (· ≤ vs.length)) (fun v hv => List.idxOf_lt_length_of_mem hv) hb.supp
  rw [satCountBDD, ← count_spec vs.length _ 1 vs.length (Nat.add_comm ..) ho hs, cntFrom,
    List.countP_eq_length_filter]
  simp only [eval_renumber]
  rfl

/-- `allBits n` lists every row of `n` truth values exactly once (so the filtered lengths above
    and below are cardinalities of sets of assignments), in lexicographic order. -/
theorem C46_allBits (n : Nat) :
    (∀ bits, bits ∈ allBits n ↔ bits.length = n) ∧ (allBits n).Nodup ∧ (allBits n).Pairwise RowLt := by
  have hs : ∀ n, (allBits n).Pairwise RowLt := fun n => by
    induction n with
    | zero => exact List.pairwise_singleton _ _
    | succ n ih => exact sorted_append_bits ih ih
  refine ⟨?_, nodup_of_sorted (hs n), hs n⟩
  induction n with
  | zero => exact fun bits => by rw [allBits, List.mem_singleton, List.length_eq_zero_iff]
  | succ n ih =>
    intro bits
    simp only [allBits, List.mem_append, List.mem_map, ih]
    constructor
    · rintro (⟨r, h, rfl⟩ | ⟨r, h, rfl⟩) <;> exact congrArg (· + 1) h
    · intro h
      match bits, h with
      | false :: r, h => exact Or.inl ⟨r, Nat.succ.inj h, rfl⟩
      | true :: r, h => exact Or.inr ⟨r, Nat.succ.inj h, rfl⟩

/-- `sat_count/2` after posted constraints counts the assignments of the expression's variables
    that extend to a model of store ∧ expression. "Extends to a model" quantifies over `ρ` and is no
    `Bool`, so the rows counted are those of some `p : List Bool → Bool` that is true exactly of them. -/
theorem C46_sat_count_under {S : Nat → Prop} {fr : Nat} {st : BDD} {f : Fm} (hst : Good S st)
    (hv : ∀ v ∈ f.allVars, v < fr) :
    ∃ p : List Bool → Bool,
      (∀ bits, p bits = true ↔ ∃ ρ, (∀ v ∈ sortU f.allVars, ρ v = envOf (sortU f.allVars) bits v) ∧
        st.eval ρ = true ∧ f.eval ρ = true) ∧
      satCountUnder fr st f = ((allBits (sortU f.allVars).length).filter p).length := by
  have d := conj_denotes hst hv
  simp only [satCountUnder]
  generalize apply .and st (f.build fr) = b1 at d ⊢
  generalize hvs : sortU f.allVars = vs
  generalize hoth : (sortU b1.vars).filter (fun v => !vs.contains v) = others
  -- the support of `b1` is split into the expression's variables and the others
  have hsplit : ∀ v ∈ b1.vars, v ∈ vs ∨ v ∈ others := fun v hm =>
    (Classical.em (v ∈ vs)).imp_right fun h => by
      rw [← hoth, List.mem_filter, mem_sortU]
      exact ⟨hm, by simpa using h⟩
  have hfold := foldl_exQ_spec (S := (· ∈ vs)) others
    (fun w hw => by rw [← hoth, List.mem_filter] at hw; simpa using hw.2) b1
    ⟨d.1.ord, d.1.red, (supp_self _).mono hsplit⟩
  refine ⟨fun bits => (others.foldl (fun b v => exQ v b) b1).eval (envOf vs bits), fun bits => ?_,
    C46_bdd_count (hvs ▸ sorted_sortU _) hfold.1⟩
  simp only [hfold.2, d.2, Bool.and_eq_true]

/-- `sat_count/2` returns the number of assignments of the expression's variables
    (`term_variables/2`: binders of `^` included, as the library documents) that satisfy it. -/
theorem C46_sat_count (f : Fm) : satCount f = specCount f := by
  obtain ⟨p, hp, hc⟩ := C46_sat_count_under (S := fun _ => True) (st := leaf true) Good.leaf (fresh_spec f)
  have hg := build_ok f f.fresh (fresh_spec f)
  -- with nothing posted, a row extends to a model iff it is one: `f` only reads its own variables
  have e : p = fun bits => f.eval (envOf (sortU f.allVars) bits) := funext fun bits =>
    Bool.eq_iff_iff.2 <| (hp bits).trans
      ⟨fun ⟨ρ, h, _, hf⟩ => by
        rwa [← hg.2, ← hg.1.eval_congr (ρ := ρ) fun v hv => h v (mem_sortU.2 hv), hg.2],
      fun h => ⟨_, fun _ _ => rfl, rfl, h⟩⟩
  rw [satCount, hc, e, specCount]

/-- `labeling/1` on the variables `vs` in index order (distinct): the rows are exactly the
    assignments of `vs` that extend to a model of the store, each exactly once, in lexicographic
    order with 0 before 1. (A strictly increasing list with a given set of members is unique, so
    this determines the answer list completely.) -/
theorem C46_labeling_rows {n : Nat} {vs : List Nat} {b : BDD} (hb : OrdAbove n b) (rb : Reduced b)
    (hvs : vs.Nodup) :
    (∀ row, row ∈ labelRows vs b ↔ ∃ ρ, b.eval ρ = true ∧ row = vs.map ρ) ∧
    (labelRows vs b).Pairwise RowLt ∧ (labelRows vs b).Nodup :=
  ⟨mem_labelRows vs b (.of hb rb) hvs, sorted_labelRows vs b, nodup_labelRows vs b⟩

/-- `findall(Vs, labeling(Vs), Rows)` for a list `Vs` in any order: `Rows` are exactly the
    assignments of `Vs` that extend to a model, without duplicates. -/
theorem C46_labeling {n : Nat} {vs : List Nat} {b : BDD} (hb : OrdAbove n b) (rb : Reduced b) :
    (∀ row, row ∈ labeling vs b ↔ ∃ ρ, b.eval ρ = true ∧ row = vs.map ρ) ∧ (labeling vs b).Nodup := by
  have hm := mem_labelRows (sortU vs) b (.of hb rb) (nodup_sortU vs)
  refine ⟨fun row => ?_,
    List.pairwise_map.2 ((nodup_labelRows _ b).imp_of_mem fun {r1 r2} h1 h2 ne e => ne ?_)⟩
  · simp only [labeling, List.mem_map, hm]
    constructor
    · rintro ⟨r, ⟨ρ, hρ, rfl⟩, rfl⟩
      exact ⟨ρ, hρ, map_getD_sortU vs ρ⟩
    · rintro ⟨ρ, hρ, rfl⟩
      exact ⟨_, ⟨ρ, hρ, rfl⟩, map_getD_sortU vs ρ⟩
  · -- rows of `labelRows` that read back equal on `vs` agree on the sorted variables
    obtain ⟨ρ1, _, rfl⟩ := (hm r1).1 h1
    obtain ⟨ρ2, _, rfl⟩ := (hm r2).1 h2
    rw [map_getD_sortU, map_getD_sortU] at e
    exact List.map_congr_left fun v hv => List.map_inj_left.1 e v (mem_sortU.1 hv)

/-- Residual consistency: after `sat(F)` succeeded, labeling any variables finds a solution. -/
theorem C46_sat_then_labeling_nonempty (f : Fm) (vs : List Nat) (st : BDD)
    (h : post f.fresh (leaf true) f = some st) : labeling vs st ≠ [] := by
  have hs := (C46_post (S := fun _ => True) Good.leaf (fresh_spec f)).2 st h
  obtain ⟨ρ, hρ⟩ := (C46_sat_iff f).1 (by rw [sat, h]; rfl)
  exact List.ne_nil_of_mem (((C46_labeling hs.1.ord hs.1.red).1 _).2 ⟨ρ, (hs.2 ρ).trans hρ, rfl⟩)

/-! ## non-vacuity -/

/-- a satisfiable expression: `sat/1` succeeds. -/
example : sat (.and (.var 0) (.not (.var 1))) = true :=
  (C46_sat_iff _).2 ⟨fun v => v == 0, rfl⟩

/-- an unsatisfiable one: `sat/1` fails. -/
example : sat (.and (.var 0) (.not (.var 0))) = false :=
  Bool.eq_false_iff.2 fun h => by
    obtain ⟨ρ, hρ⟩ := (C46_sat_iff _).1 h
    change (ρ 0 && !ρ 0) = true at hρ
    cases h0 : ρ 0 <;> rw [h0] at hρ <;> cases hρ

/-- all three answers of `taut/2` occur. -/
example : taut (.or (.var 0) (.not (.var 0))) = some true :=
  (C46_taut _).1.2 fun ρ => by
    change (ρ 0 || !ρ 0) = true
    cases ρ 0 <;> rfl
example : taut (.card [(2, 3)] (.cons (.var 0) .nil)) = some false :=
  (C46_taut _).2.1.2 fun ρ => by
    change inRanges [(2, 3)] ((if ρ 0 = true then 1 else 0) + 0) = false
    cases ρ 0 <;> rfl
example : taut (.var 0) = none :=
  (C46_taut _).2.2.2 ⟨⟨fun _ => true, rfl⟩, ⟨fun _ => false, rfl⟩⟩

/-- the hypotheses of the BDD-level theorems hold for the BDD of every expression. -/
example (f : Fm) : OrdAbove 0 (f.build f.fresh) ∧ Reduced (f.build f.fresh) :=
  ⟨(C46_build f (fresh_spec f)).2.1, (C46_build f (fresh_spec f)).2.2.1⟩

/-- model counts: `X + Y` has 3 models, `X^(X+Y)` has 4 (the binder counts as a free dimension). -/
example : specCount (.or (.var 0) (.var 1)) = 3 := by decide
example : specCount (.ex 0 (.or (.var 0) (.var 1))) = 4 := by decide

end Scryer.BDD
