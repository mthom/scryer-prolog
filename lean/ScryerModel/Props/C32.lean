import ScryerModel.Proofs.AtomProto
/-!
# C32 — Concurrent machines intern atoms consistently

Model: `Model/AtomProto.lean`, a transition system mirroring `AtomTable::build_with`
(`src/atom_table.rs`) action by action: shared state = all versions of the RCU-published inner
table (block) and of the RCU-published index, the id of the published version, the owner of the
`update` mutex; local state per thread = program counter, text, the two snapshots it holds.
`run cfg (init cfg scripts) sched` executes the schedule `sched` (ANY list of thread ids) from the
fresh table, thread `t` interning the texts `scripts t` one after the other.  There are infinitely
many threads (`Tid = Nat`), `scripts`, the initial capacity and the static-atom predicate are
arbitrary, so growth happens wherever the texts make it happen.

PARTIAL in this sense (and only this): each protocol action is one atomic, sequentially
consistent step.  Hardware memory ordering, the internals of the `arcu` crate (epoch counters,
`wait_for_epochs`, reclamation of old versions) and of `std::sync::Mutex` are outside the model.
-/
namespace Scryer.AtomProto

/-- the states reachable by some schedule from the fresh table -/
def Reachable (cfg : Cfg) (s : State) : Prop :=
  ∃ scripts sched, s = run cfg (init cfg scripts) sched

theorem reachable_inv {cfg : Cfg} (hr : cfg.recheck = true) {s : State} (h : Reachable cfg s) :
    Inv cfg s := by
  obtain ⟨scripts, sched, rfl⟩ := h
  exact (inv_run hr (inv_init cfg scripts) sched).1

/-- **(I1) The index is consistent with the block and injective**, in every state reachable by any
schedule: every entry of the published index is the offset of a written cell, the index has no
duplicate entry, two entries with the same text are the same entry, and whenever nobody owns the
update lock every written cell is indexed. -/
theorem C32_index_consistent (cfg : Cfg) (hr : cfg.recheck = true) (s : State)
    (h : Reachable cfg s) :
    (∀ o, o ∈ s.sh.tbl → ∃ x, s.sh.blk.textAt o = some x) ∧
    s.sh.tbl.Nodup ∧
    (∀ o1 o2 x, o1 ∈ s.sh.tbl → o2 ∈ s.sh.tbl → s.sh.blk.textAt o1 = some x →
        s.sh.blk.textAt o2 = some x → o1 = o2) ∧
    (s.sh.lock = none → ∀ o x, s.sh.blk.textAt o = some x → o ∈ s.sh.tbl) := by
  have i := (reachable_inv hr h).g
  have hk := i.tcur_lt _ i.cur_lt
  exact ⟨i.tbl_cells _ hk, i.nodup _ hk, fun o1 o2 x _ _ h1 h2 => i.inj o1 o2 x h1 h2, i.unlocked⟩

/-- **(I2) No text is stored at two offsets** of the published block (including a cell that is
written but not yet indexed), in every reachable state. -/
theorem C32_no_text_twice (cfg : Cfg) (hr : cfg.recheck = true) (s : State) (h : Reachable cfg s)
    (o1 o2 : Nat) (x : Text) (h1 : s.sh.blk.textAt o1 = some x) (h2 : s.sh.blk.textAt o2 = some x) :
    o1 = o2 :=
  (reachable_inv hr h).g.inj o1 o2 x h1 h2

/-- **(I3) Published versions only grow**: along any continuation of any schedule — in-place
appends as well as growth (a new, bigger block published by RCU replace) — every
`offset ↦ text` pair of the published block and every entry of the published index is still
there, and index versions, once created, never change. -/
theorem C32_versions_only_grow (cfg : Cfg) (hr : cfg.recheck = true) (s : State)
    (h : Reachable cfg s) (sched : List Tid) :
    (∀ o x, s.sh.blk.textAt o = some x → (run cfg s sched).sh.blk.textAt o = some x) ∧
    (∀ o, o ∈ s.sh.tbl → o ∈ (run cfg s sched).sh.tbl) ∧
    (∀ k, k < s.sh.ntables → (run cfg s sched).sh.tables k = s.sh.tables k) := by
  have e := (inv_run hr (reachable_inv hr h) sched).2
  exact ⟨e.pairs, e.tbl_mono, e.tables_eq⟩

/-- **(I3, across versions)** In every reachable state every `offset ↦ text` pair of EVERY inner
table version ever created — superseded blocks that readers may still hold (an outstanding
`AtomString::Dynamic` points into one), and a grown copy that is not yet published — is a pair of
the published block: all versions agree on the text of an offset. -/
theorem C32_all_versions_agree (cfg : Cfg) (hr : cfg.recheck = true) (s : State)
    (h : Reachable cfg s) (i : Nat) (hi : i < s.sh.ninners) (o : Nat) (x : Text)
    (hx : (s.sh.inners i).block.textAt o = some x) : s.sh.blk.textAt o = some x :=
  (reachable_inv hr h).g.vers i hi o x hx

/-- **(I4) Mutual exclusion of writers**: in every reachable state two threads that are both
between `lock` and `unlock` are the same thread (and that thread owns the lock). -/
theorem C32_mutual_exclusion (cfg : Cfg) (hr : cfg.recheck = true) (s : State)
    (h : Reachable cfg s) (t u : Tid) (ht : inCS (s.locals t).pc = true)
    (hu : inCS (s.locals u).pc = true) : t = u ∧ s.sh.lock = some t := by
  have i := reachable_inv hr h
  have h1 := (i.l t).mutex ht
  have h2 := (i.l u).mutex hu
  rw [h1] at h2
  exact ⟨Option.some.inj h2, h1⟩

/-- **Which atom a call returns**: an inlined atom exactly for the inlinable texts (1..6 bytes
without NUL; these never touch the table), the static atom exactly for the other texts of the
build-time table, and otherwise an offset of the shared block that holds the text. -/
theorem C32_result_kind (cfg : Cfg) (hr : cfg.recheck = true) (s : State) (h : Reachable cfg s)
    (t : Tid) (x : Text) (a : Atom) (ha : (x, a) ∈ (s.locals t).results) :
    (inlinable x = true → a = .inl x) ∧
    (inlinable x = false → cfg.isStatic x = true → a = .stat x) ∧
    (inlinable x = false → cfg.isStatic x = false →
      ∃ o, a = .dyn o ∧ s.sh.blk.textAt o = some x ∧ o < s.sh.blk.used) := by
  have i := reachable_inv hr h
  obtain ⟨r, k⟩ := (i.l t).res _ ha
  cases a <;> simp only [atomText] at r k
  -- `inl`, `stat`, `dyn`: in each, `k` refutes the premises of the other two clauses
  · refine ⟨fun _ => by rw [Option.some.inj r], fun h1 => ?_, fun h1 => ?_⟩ <;> (rw [k] at h1; cases h1)
  · refine ⟨fun h1 => ?_, fun _ _ => by rw [Option.some.inj r], fun _ h2 => ?_⟩
    · rw [k.1] at h1; cases h1
    · rw [k.2] at h2; cases h2
  · refine ⟨fun h1 => ?_, fun _ h2 => ?_, fun _ _ => ⟨_, rfl, r, i.g.cells_lt _ _ r⟩⟩
    · rw [k.1] at h1; cases h1
    · rw [k.2] at h2; cases h2

/-- **Same text ⇒ same atom.** Any two completed `build_with x` calls, in any threads, under any
schedule, across any number of growths, returned the same atom. -/
theorem C32_same_text_same_atom (cfg : Cfg) (hr : cfg.recheck = true) (s : State)
    (h : Reachable cfg s) (t u : Tid) (x : Text) (a b : Atom)
    (ha : (x, a) ∈ (s.locals t).results) (hb : (x, b) ∈ (s.locals u).results) : a = b := by
  have ka := C32_result_kind cfg hr s h t x a ha
  have kb := C32_result_kind cfg hr s h u x b hb
  cases hi : inlinable x
  · cases hs : cfg.isStatic x
    · obtain ⟨o, rfl, ho, _⟩ := ka.2.2 hi hs
      obtain ⟨o', rfl, ho', _⟩ := kb.2.2 hi hs
      rw [C32_no_text_twice cfg hr s h o o' x ho ho']
    · rw [ka.2.1 hi hs, kb.2.1 hi hs]
  · rw [ka.1 hi, kb.1 hi]

/-- **Distinct texts ⇒ distinct atoms.** -/
theorem C32_distinct_texts_distinct_atoms (cfg : Cfg) (hr : cfg.recheck = true) (s : State)
    (h : Reachable cfg s) (t u : Tid) (x y : Text) (a b : Atom) (hxy : x ≠ y)
    (ha : (x, a) ∈ (s.locals t).results) (hb : (y, b) ∈ (s.locals u).results) : a ≠ b := by
  have i := reachable_inv hr h
  rintro rfl
  exact hxy (Option.some.inj (((i.l t).res _ ha).1.symm.trans ((i.l u).res _ hb).1))

/-- **Every atom keeps its text**: the atom returned by a completed `build_with x` reads back as
`x` (`Atom::as_str`, resolved against the published table of the moment) in the state where the
call completed and after ANY continuation of the schedule, whatever other threads intern and
however often the table grows meanwhile. -/
theorem C32_atom_keeps_text (cfg : Cfg) (hr : cfg.recheck = true) (s : State)
    (h : Reachable cfg s) (t : Tid) (x : Text) (a : Atom)
    (ha : (x, a) ∈ (s.locals t).results) (sched : List Tid) :
    atomText (run cfg s sched).sh a = some x :=
  have i := reachable_inv hr h
  atomText_ext (inv_run hr i sched).2 ((i.l t).res _ ha).1

/-! ## Sensitivity: the protocol WITHOUT the re-check under the lock -/

/-- the protocol with the re-check removed; tiny table, no static atoms -/
def cfgNoRecheck : Cfg := { initCap := 64, isStatic := fun _ => false, recheck := false }
/-- the same with the re-check -/
def cfgSmall : Cfg := { initCap := 64, isStatic := fun _ => false }

/-- threads 0 and 1 both intern the same 8-byte text -/
def raceScripts : Tid → List Text := fun t => if t < 2 then [[1, 2, 3, 4, 5, 6, 7, 8]] else []

/-- both threads miss in the lookup, then enter the critical section one after the other -/
def raceSched : List Tid := [0, 0, 0, 0, 1, 1, 1, 1, 0, 0, 0, 0, 0, 0, 1, 1, 1, 1, 1, 1]

/-- **Without the re-check the property fails**: under `raceSched` the two threads get DIFFERENT
atoms (offsets 0 and 16) for the same text, the text is stored twice, and the index published last
(built from a stale snapshot) has even lost the first thread's entry. -/
theorem C32_without_recheck_duplicate :
    let s := run cfgNoRecheck (init cfgNoRecheck raceScripts) raceSched
    ([1, 2, 3, 4, 5, 6, 7, 8], Atom.dyn 0) ∈ (s.locals 0).results ∧
    ([1, 2, 3, 4, 5, 6, 7, 8], Atom.dyn 16) ∈ (s.locals 1).results ∧
    s.sh.blk.textAt 0 = some [1, 2, 3, 4, 5, 6, 7, 8] ∧
    s.sh.blk.textAt 16 = some [1, 2, 3, 4, 5, 6, 7, 8] ∧
    s.sh.tbl = [16] := by
  decide +kernel

/-- The same schedule WITH the re-check: the second thread's re-check fails, it starts over, finds
the first thread's entry and returns the same atom (two more steps complete its retry). -/
example :
    let s := run cfgSmall (init cfgSmall raceScripts) (raceSched ++ [1, 1])
    (s.locals 0).results = [([1, 2, 3, 4, 5, 6, 7, 8], Atom.dyn 0)] ∧
    (s.locals 1).results = [([1, 2, 3, 4, 5, 6, 7, 8], Atom.dyn 0)] ∧
    s.sh.tbl = [0] ∧ s.sh.lock = none := by
  decide +kernel

/-! ## Non-vacuity: growth and all result kinds are reached -/

/-- three threads, overlapping texts; 40-byte and 20-byte texts overflow the 64-byte block -/
def growScripts : Tid → List Text := fun t =>
  if t = 0 then [List.replicate 40 7, [1, 2, 3], List.replicate 20 9]
  else if t = 1 then [List.replicate 20 9, List.replicate 40 7]
  else if t = 2 then [[5, 0], List.replicate 40 7]
  else []

/-- round-robin to completion: the table has grown (64 → 128 bytes, a second inner-table version
is published), every thread has its results, overlapping texts got the same offsets, the
inlinable text was inlined, and a 2-byte text with a NUL went through the table. -/
example :
    let s := runRR cfgSmall 3 40 (init cfgSmall growScripts)
    (List.range 3).all (finished s) = true ∧
    s.sh.cur = 1 ∧ s.sh.blk.cap = 128 ∧ s.sh.blk.used = 96 ∧ s.sh.tbl = [0, 48, 80] ∧
    (s.locals 0).results = [(List.replicate 20 9, .dyn 48), ([1, 2, 3], .inl [1, 2, 3]),
                            (List.replicate 40 7, .dyn 0)] ∧
    (s.locals 1).results = [(List.replicate 40 7, .dyn 0), (List.replicate 20 9, .dyn 48)] ∧
    (s.locals 2).results = [(List.replicate 40 7, .dyn 0), ([5, 0], .dyn 80)] := by
  decide +kernel

end Scryer.AtomProto
