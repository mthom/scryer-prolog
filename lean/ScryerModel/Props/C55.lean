import ScryerModel.Proofs.QuoteSeq
/-!
# C55 — writeq and print quote and space exactly as ISO requires

The definitions the theorems talk about (`Model/Quote.lean`) mirror `heap_print.rs`
(`non_quoted_token`, `char_to_string`, `print_op_addendum`, `requires_space`, …) and `lexer.rs` over the
character classes *extracted* from `src/parser/macros.rs` on every run (`Extracted/CharClass.lean`).
`u : UC` holds Rust's Unicode predicates (`char::is_alphabetic` …) as parameters; `UCWF u` says they
answer on ASCII what ASCII says. All theorems hold for every text (any length, any characters).
-/
namespace Scryer.C55
open Scryer.Quote Scryer.CharClass

/-! ## The ISO side (written here by hand from ISO/IEC 13211-1 6.4.2, 6.5) -/

/-- 6.5.1 graphic char -/
def isoGraphic : List Char := ['#', '$', '&', '*', '+', '-', '.', '/', ':', '<', '=', '>', '?', '@', '^', '~']
/-- 6.5.3 solo char -/
def isoSolo : List Char := ['!', '(', ')', ',', ';', '[', ']', '{', '}', '|', '%']
/-- 6.5.5 meta char -/
def isoMeta : List Char := ['\\', '\'', '"', '`']
/-- 6.4.2 letter digit token, with the processor's extended small letters / alphanumerics -/
def IsLetterDigitToken (u : UC) (s : List Char) : Prop :=
  ∃ c r, s = c :: r ∧ small_letter_char u c = true ∧ ∀ d ∈ r, alpha_numeric_char u d = true
/-- 6.4.2 graphic token: graphic token char {graphic token char}, graphic token char = graphic | backslash -/
def IsGraphicToken (s : List Char) : Prop := s ≠ [] ∧ ∀ d ∈ s, d ∈ isoGraphic ∨ d = '\\'
/-- a graphic token "that cannot be misread": it does not open a bracketed comment (6.4.2: "a graphic
    token shall not begin with the character sequence comment open") and is not the end char alone -/
def NotMisread (s : List Char) : Prop := (¬ ∃ r, s = '/' :: '*' :: r) ∧ s ≠ ['.']
/-- the atoms made of solo characters: `[]`, `{}`, `!`, `;` (6.3.1.3 and 6.4.2 cut / semicolon token) -/
def IsSoloAtom (s : List Char) : Prop := s = ['[', ']'] ∨ s = ['{', '}'] ∨ s = ['!'] ∨ s = [';']

/-- The extracted classes are the ISO tables (checked again whenever `macros.rs` changes):
    graphic, solo, meta characters, and on ASCII: alpha = letter or `_`, small letter = a..z,
    capital letter = A..Z, alphanumeric = alpha or digit. -/
theorem C55_classes_are_iso (u : UC) (hu : UCWF u) (c : Char) :
    (graphic_char u c = true ↔ c ∈ isoGraphic) ∧ (solo_char u c = true ↔ c ∈ isoSolo) ∧
    (meta_char u c = true ↔ c ∈ isoMeta) ∧ (graphic_token_char u c = true ↔ (c ∈ isoGraphic ∨ c = '\\')) ∧
    (c.toNat < 128 → alpha_char u c = (c.isAlpha || c == '_')) ∧
    (c.toNat < 128 → small_letter_char u c = c.isLower) ∧
    (c.toNat < 128 → capital_letter_char u c = c.isUpper) ∧
    (c.toNat < 128 → alpha_numeric_char u c = (c.isAlpha || c == '_' || c.isDigit)) := by
  have hg : graphic_char u c = true ↔ c ∈ isoGraphic := by simp [graphic_char, isoGraphic, or_assoc]
  refine ⟨hg, ?_, ?_, ?_, fun h => ?_, fun h => small_ascii hu h, fun h => cap_ascii hu h, fun h => alnum_ascii hu h⟩
  · simp [solo_char, isoSolo, or_assoc]
  · simp [meta_char, isoMeta, or_assoc]
  · simp only [graphic_token_char, Bool.or_eq_true, hg, backslash_char, beq_iff_eq]
  · rw [wf_alpha hu h, ascii_alpha_iso c h]

/-- **Quoting decision = ISO.** `non_quoted_token` answers "unquoted" exactly for letter-digit tokens that
    start with a small letter, graphic tokens that cannot be misread, and the solo atoms. -/
theorem C55_unquoted_iff_iso (u : UC) (hu : UCWF u) (s : List Char) :
    nonQuotedToken u s = true ↔
      IsLetterDigitToken u s ∨ (IsGraphicToken s ∧ NotMisread s) ∨ IsSoloAtom s := by
  have gt := fun d => (C55_classes_are_iso u hu d).2.2.2.1
  simp only [nonQuoted_cases hu, IsLetterDigitToken, IsGraphicToken, NotMisread, IsSoloAtom, gt]

/-- **Round trip.** For every text, what `writeq`/`write_canonical`/`write_term(quoted(true))` write for
    the atom (repaired printer, see C55-1) reads back as exactly that atom. -/
theorem C55_quoted_roundtrip (u : UC) (hu : UCWF u) (s : List Char) :
    readAtom u (printAtom u true s) = some s := by
  rw [readAtom, tokens_printAtom hu]
  exact atomOfTokens_atomToks s

/-- **Soundness and minimality of unquoted output.** The printer leaves a text unquoted exactly when the
    text itself, read by the token reader, is one atom and denotes the atom with that text
    (a name token, or `[` `]`, or `{` `}`). So unquoted output never changes meaning, and quotes are
    never added to a text that does not need them. -/
theorem C55_unquoted_iff_reads_as_itself (u : UC) (hu : UCWF u) (s : List Char) :
    printAtom u true s = s ↔ readAtom u s = some s :=
  ⟨fun h => by have := C55_quoted_roundtrip u hu s; rwa [h] at this,
   fun h => printAtom_of_nonQuoted (nonQuoted_of_readAtom hu h)⟩

/-- **The escapes are the standard ones.** Inside quotes every character is written as itself, except:
    the quote as `\'`, the backslash as `\\`, the seven control characters with a symbolic escape as
    `\a \b \f \n \r \t \v`, and every other white-space or control character (everything but the space)
    as the hexadecimal escape `\xH..\`. -/
theorem C55_escapes_standard (u : UC) (c : Char) :
    charToString u true c =
      if c = '\'' then ['\\', '\''] else if c = '\\' then ['\\', '\\']
      else if c = Char.ofNat 7 then ['\\', 'a'] else if c = Char.ofNat 8 then ['\\', 'b']
      else if c = Char.ofNat 12 then ['\\', 'f'] else if c = '\n' then ['\\', 'n']
      else if c = '\r' then ['\\', 'r'] else if c = '\t' then ['\\', 't']
      else if c = Char.ofNat 11 then ['\\', 'v']
      else if c = ' ' ∨ c = '"' then [c]
      else if u.is_whitespace c = true ∨ u.is_control c = true then
        ['\\', 'x'] ++ hexDigits c.toNat ++ ['\\']
      else [c] := by
  rcases charToString_true (u := u) c with ⟨e, he, h⟩ | ⟨hn, h⟩
  · rw [h]
    simp only [symEscapes, List.mem_cons, List.not_mem_nil, or_false, Prod.mk.injEq] at he
    rcases he with ⟨rfl, rfl⟩ | ⟨rfl, rfl⟩ | ⟨rfl, rfl⟩ | ⟨rfl, rfl⟩ | ⟨rfl, rfl⟩ | ⟨rfl, rfl⟩ | ⟨rfl, rfl⟩ |
      ⟨rfl, rfl⟩ | ⟨rfl, rfl⟩ <;> rfl
  · rw [h]
    simp [symEscapes] at hn
    simp [hn]

/-- `renderT` prints with the model's printer primitives (`emitItem` = `push_space_if_amb!` + `append_str!`,
    `pushChar` = `push_char!`), one item after the other. -/
theorem C55_renderT_is_render (u : UC) (items : List PItem) :
    (renderT u items).1 = render u true (items.map (·.toItem u)) := by
  rw [render, List.foldl_map]
  exact (List.foldl_hom Prod.fst fun _ _ => rfl).symm

/-- **No token fusion.** Take any sequence of printed items — atoms with arbitrary text (written with
    `quoted = true`), non-negative integers, the pushed characters `, ) [ ] | { }` and `(`, explicit
    spaces — printed one after the other by the printer's own primitives, i.e. a space is inserted exactly
    where `ambiguity_check` / `requires_space` ask for one (whatever text the ambiguity check is given).
    Then the token reader reads the printed text back as exactly the tokens of the items, in order:
    no two adjacent tokens merge, no token is split, and `(` is `Open` after a space and `OpenCT`
    otherwise (so `foo (` never turns into a functional-notation `foo(`). Negative numbers are the
    items `-` and the integer. -/
theorem C55_no_token_fusion (u : UC) (hu : UCWF u) (items : List PItem) (hv : ∀ x ∈ items, x.Valid) :
    tokens u (renderT u items).1.text = some (renderT u items).2 :=
  (seqInv_renderT hu items hv).tokens

/-- `write/1` (quoted = false) never quotes: the atom text is written unchanged. -/
theorem C55_write_never_quotes (u : UC) (s : List Char) : printAtom u false s = s := by
  simp [printAtom, printAtomImpl]

/-- Witness for finding C55-1: the pinned (unrepaired) code prints the atom whose text is two quote characters
    as `''`, which reads back as the *empty* atom; the repaired printer (/repo from b16bb39) writes `'\'\''`. -/
theorem C55_pinned_two_quotes_witness :
    printAtomImpl false asciiUC true ['\'', '\''] = ['\'', '\''] ∧
    readAtom asciiUC (printAtomImpl false asciiUC true ['\'', '\'']) = some [] ∧
    printAtom asciiUC true ['\'', '\''] = ['\'', '\\', '\'', '\\', '\'', '\''] := by
  decide +kernel

/-! ## Non-vacuity -/

/-- `asciiUC` satisfies the hypothesis of the theorems. -/
example : UCWF asciiUC := asciiUC_wf
/-- every `mkUC` table (what the driver uses) satisfies it. -/
example (tbl : List (Nat × Nat)) : UCWF (mkUC tbl) := mkUC_wf tbl
example : nonQuotedToken asciiUC "foo_Bar1".toList = true := by decide +kernel
example : nonQuotedToken asciiUC "=..".toList = true := by decide +kernel
example : nonQuotedToken asciiUC "[]".toList = true := by decide +kernel
example : nonQuotedToken asciiUC "/*".toList = false := by decide +kernel
example : nonQuotedToken asciiUC ".".toList = false := by decide +kernel
example : nonQuotedToken asciiUC "Foo".toList = false := by decide +kernel
example : nonQuotedToken asciiUC ",".toList = false := by decide +kernel
example : nonQuotedToken asciiUC "|".toList = false := by decide +kernel
example : printAtom asciiUC true "a b\n".toList = "'a b\\n'".toList := by decide +kernel
example : (renderT asciiUC [.atom [] ['a'], .atom [] ['-'], .atom [] ['-'], .atom [] ['b']]).1.text = "a- -b".toList := by
  decide +kernel
example : (renderT asciiUC [.atom [] ['-'], .space, .open, .atom [] ['-'], .punct ')']).1.text = "- (-)".toList ∧
    (renderT asciiUC [.atom [] ['-'], .space, .open, .atom [] ['-'], .punct ')']).2 =
      [.name ['-'], .punct '(', .name ['-'], .punct ')'] := by decide +kernel
example : (renderT asciiUC [.atom [] ['f'], .open, .atom [] [','], .punct ')']).2 =
    [.name ['f'], .openCT, .name [','], .punct ')'] := by decide +kernel
example : hexDigits 27 = ['1', 'b'] := by
  rw [hexDigits]; simp only [show ¬ (27 < 16) by decide, dite_false]; rw [hexDigits]; decide

end Scryer.C55
