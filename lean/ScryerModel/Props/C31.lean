import ScryerModel.Proofs.Fault
/-!
# C31 — An interrupt at any point is caught cleanly  (PARTIAL)

The interrupt is an asynchronous exception: the flag `INTERRUPT` is raised at an arbitrary moment,
the dispatch loop polls it every `P` iterations and, when it finds it set, clears it and raises
`error('$interrupt_thrown', repl/0)` at that instruction boundary.

Proved here, for every program / goal / state / fuel / oracle resp. every event sequence:

* reference interpreter (`solveInj intBall φ`): an interrupt delivered when goal `g` is about to be
  reduced *is* the goal `throw(error('$interrupt_thrown', repl/0))` at that point; `catch/3` with a
  matching catcher handles it from the entry substitution, later goals run from the recovered state
  only; a catcher that does not unify lets it pass; an unbound catcher (catch-all) swallows it — the
  mechanism behind finding C31-2;
* polling transition system (`pstep`): a raised flag is observed within one polling period, it is
  cleared exactly when it is delivered, never delivered without having been raised, never delivered
  twice for one raise, never lost; `deliveryPoint P n` is the first multiple of `P` from `n` on
  (arithmetic; it is set against `prun` only in an example).

Not proved: signal delivery itself, and that the implementation's instructions are atomic with
respect to the poll (they are: the poll sits between instructions) — tied by the sweep of
`vlib/props/C31.py`.
-/
namespace Scryer.Fault
open Scryer.Solve

/-! ## the reference interpreter -/

/-- **An interrupt delivered at a step is a throw at that step.** -/
theorem C31_interrupt_is_throw (φ : Oracle) (n : Nat) (prog : Prog) (g : Term) (s : St)
    (h : φ g s = true) :
    solveInj intBall φ (n + 9) prog g s = solve (n + 9) prog (throwGoal intBall) s
    ∧ (solveInj intBall φ (n + 9) prog g s).sols = []
    ∧ (solveInj intBall φ (n + 9) prog g s).exc = some (intBall, s.ctr + 1)
    ∧ (solveInj intBall φ (n + 9) prog g s).oof = false :=
  -- `n + 9`: the step that is interrupted, above the `n + 8` with which `throw/1` copies the ball (`closed_intBall`)
  solveInj_fault intBall φ (n + 8) prog g s (closed_intBall n) h

/-- **No interrupt, no difference.** -/
theorem C31_no_interrupt_is_reference (φ : Oracle) (hφ : ∀ g s, φ g s = false) (n : Nat) (prog : Prog)
    (g : Term) (s : St) : solveInj intBall φ n prog g s = solve n prog g s := by
  rw [solveInj_noFault intBall φ hφ prog n]

theorem C31_interrupted_run_uses_reference_step (φ : Oracle) (n : Nat) (prog : Prog) (g : Term)
    (s : St) (h : φ g s = false) :
    solveInj intBall φ (n + 1) prog g s = step prog (solveInj intBall φ n prog) n g s :=
  solveInj_succ intBall φ n prog g s h

/-- `error(E, V)` unifies with the interrupt ball: `E = '$interrupt_thrown'`, `V = repl/0`. -/
theorem unify_errCatcher_intBall (n : Nat) (σ : Subst) (e v : String) (he : lookup σ e = none)
    (hv : lookup σ v = none) (hne : (e == v) = false) :
    unify (n + 8) σ (errCatcher e v) intBall
      = some (some ((v, .str "/" [.atom "repl", .int 0]) :: (e, intFormal) :: σ)) :=
  -- `n + 8`: `unify_errCatcher` at `n + 3`, the least at which its `occurs (· + 1)` gets through `repl/0`
  unify_errCatcher (n + 3) σ e v _ _ he hv hne nofun nofun (by simp [intFormal, occurs])
    (by simp [occurs, occursList])

/-- **The documented exception is catchable, and the state is the one of the catch entry.**
    If the run of `G` ends with the interrupt ball, `catch(G, error(E,V), R)` delivers the answers
    `G` had produced, then runs `R` from the ENTRY substitution extended by
    `E = '$interrupt_thrown', V = repl/0`: all bindings of the interrupted goal are undone. -/
theorem C31_caught_and_state_restored (rec : Term → St → Res) (n : Nat) (s : St) (g r : Term)
    (e v : String) (c' : Nat)
    (he : lookup s.σ e = none) (hv : lookup s.σ v = none) (hne : (e == v) = false)
    (ho : (callGoal rec (n + 8) s g []).oof = false)
    (hx : (callGoal rec (n + 8) s g []).exc = some (intBall, c')) :
    catchRes rec (n + 8) s g (errCatcher e v) r =
      (let rR := callGoal rec (n + 8)
          ⟨(v, .str "/" [.atom "repl", .int 0]) :: (e, intFormal) :: s.σ, c'⟩ r []
       if rR.oof then Res.oofR
       else ⟨(callGoal rec (n + 8) s g []).sols ++ rR.sols, false, rR.exc, false⟩) :=
  catchRes_caught rec _ s g _ r intBall c' _ ho hx (unify_errCatcher_intBall n s.σ e v he hv hne)

/-- with the recovery goal `true` the catch/3 succeeds exactly once, in the recovered state, and no
    ball is left: the interrupt is handled. -/
theorem C31_recovery_true_succeeds_once (φ : Oracle) (n : Nat) (prog : Prog) (s : St) (g : Term)
    (e v : String) (c' : Nat)
    (he : lookup s.σ e = none) (hv : lookup s.σ v = none) (hne : (e == v) = false)
    (ho : (callGoal (solveInj intBall φ (n + 8) prog) (n + 8) s g []).oof = false)
    (hx : (callGoal (solveInj intBall φ (n + 8) prog) (n + 8) s g []).exc = some (intBall, c'))
    (hs : (callGoal (solveInj intBall φ (n + 8) prog) (n + 8) s g []).sols = [])
    (hφ : φ (.atom "true") ⟨(v, .str "/" [.atom "repl", .int 0]) :: (e, intFormal) :: s.σ, c'⟩ = false) :
    catchRes (solveInj intBall φ (n + 8) prog) (n + 8) s g (errCatcher e v) (.atom "true")
      = Res.one ⟨(v, .str "/" [.atom "repl", .int 0]) :: (e, intFormal) :: s.σ, c'⟩ :=
  catchRes_true_once _ (n + 7) s g _ intBall c' _ ho hx hs
    (unify_errCatcher_intBall n s.σ e v he hv hne) (solveInj_true intBall φ (n + 7) prog _ hφ)

/-- **Later goals are unaffected**: in `(catch(G, error(E,V), true), K)` the continuation `K` runs
    from the recovered state exactly as the interpreter runs `K` from that state — independent of
    `G` and of the instruction at which the interrupt arrived. -/
theorem C31_later_goals_run_from_recovered_state (φ : Oracle) (n : Nat) (prog : Prog) (s : St)
    (g k : Term) (e v : String) (c' : Nat)
    (he : lookup s.σ e = none) (hv : lookup s.σ v = none) (hne : (e == v) = false)
    (ho : (callGoal (solveInj intBall φ (n + 8) prog) (n + 8) s g []).oof = false)
    (hx : (callGoal (solveInj intBall φ (n + 8) prog) (n + 8) s g []).exc = some (intBall, c'))
    (hs : (callGoal (solveInj intBall φ (n + 8) prog) (n + 8) s g []).sols = [])
    (hφ : φ (.atom "true") ⟨(v, .str "/" [.atom "repl", .int 0]) :: (e, intFormal) :: s.σ, c'⟩ = false)
    (hφc : φ (.str "catch" [g, errCatcher e v, .atom "true"]) s = false)
    (hφk : φ (.str "," [.str "catch" [g, errCatcher e v, .atom "true"], k]) s = false) :
    let s' : St := ⟨(v, .str "/" [.atom "repl", .int 0]) :: (e, intFormal) :: s.σ, c'⟩
    let rK := solveInj intBall φ (n + 9) prog k s'
    solveInj intBall φ (n + 10) prog (.str "," [.str "catch" [g, errCatcher e v, .atom "true"], k]) s
      = if rK.oof then Res.oofR
        else if rK.exc.isSome || rK.cut then ⟨rK.sols, rK.exc.isNone, rK.exc, false⟩
        else ⟨rK.sols, false, none, false⟩ :=
  -- `','/2` is reduced at `n + 10`, so `K` and `catch/3` at `n + 9`, so `G` and the unification at the `n + 8`
  -- of `unify_errCatcher_intBall`
  (conj_catch_true intBall φ (n + 7) prog s g _ k c' _ ho hx hs
    (unify_errCatcher_intBall n s.σ e v he hv hne) hφ hφc hφk).trans (conjRes_single _ false _)

/-- a catcher that does not unify lets the interrupt pass unchanged. -/
theorem C31_nonmatching_catch_propagates (rec : Term → St → Res) (n : Nat) (s : St) (g c r : Term)
    (c' : Nat) (ho : (callGoal rec n s g []).oof = false)
    (hx : (callGoal rec n s g []).exc = some (intBall, c'))
    (hu : unify n s.σ c intBall = some none) :
    catchRes rec n s g c r = callGoal rec n s g [] :=
  catchRes_passed rec n s g c r intBall c' ho hx hu

/-- **A catch-all catcher swallows the interrupt** (the hazard of `catch(G, _, Recovery)` in library
    code, finding C31-2): with an unbound variable as catcher the interrupt ball is caught like any
    other, the recovery goal runs, and unless it re-throws the enclosing goal never sees the
    interrupt. -/
theorem C31_catch_all_swallows (rec : Term → St → Res) (n : Nat) (s : St) (g r : Term) (x : String)
    (c' : Nat) (hxv : lookup s.σ x = none)
    (ho : (callGoal rec (n + 8) s g []).oof = false)
    (hx : (callGoal rec (n + 8) s g []).exc = some (intBall, c')) :
    catchRes rec (n + 8) s g (.var x) r =
      (let rR := callGoal rec (n + 8) ⟨(x, intBall) :: s.σ, c'⟩ r []
       if rR.oof then Res.oofR
       else ⟨(callGoal rec (n + 8) s g []).sols ++ rR.sols, false, rR.exc, false⟩) := by
  have hu : unify (n + 8) s.σ (.var x) intBall = some (some ((x, intBall) :: s.σ)) := by
    simp [intBall, intFormal, unify, walk, hxv, bindVar, occurs, occursList]
  exact catchRes_caught rec _ s g _ r intBall c' _ ho hx hu

/-! ## the polling transition system -/

/-- **Never delivered without being raised, never twice for one raise, and the flag is set exactly
    while a raise is pending** — for every sequence of raise and tick events. -/
theorem C31_polling_invariant (P : Nat) (hP : 1 ≤ P) (evs : List Ev) :
    let s := prun P {} evs
    s.delivered + s.pending ≤ s.raised ∧ (s.flag = true ↔ s.pending ≠ 0) ∧ s.cnt < P := by
  have i := prun_inv P hP evs {} (pinv_init P hP)
  exact ⟨i.once, i.flag_pending, i.cnt_lt⟩

/-- in particular the number of deliveries never exceeds the number of raises, and with no raise
    there is no delivery (no spurious interrupt). -/
theorem C31_no_spurious_delivery (P : Nat) (hP : 1 ≤ P) (evs : List Ev) :
    (prun P {} evs).delivered ≤ (prun P {} evs).raised := by
  have := (C31_polling_invariant P hP evs).1
  omega

/-- **The flag is cleared exactly when it is delivered**: one event changes the delivery count by at
    most one; it does so iff it is the polling tick and the flag is set; afterwards the flag is
    clear and nothing is pending; no other event clears the flag. -/
theorem C31_cleared_exactly_at_delivery (P : Nat) (s : PSt) (e : Ev) :
    ((pstep P s e).delivered = s.delivered + 1 ↔ (e = .tick ∧ s.cnt + 1 ≥ P ∧ s.flag = true))
    ∧ ((pstep P s e).delivered = s.delivered + 1 → (pstep P s e).flag = false ∧ (pstep P s e).pending = 0)
    ∧ ((pstep P s e).delivered ≠ s.delivered + 1 →
        (pstep P s e).delivered = s.delivered ∧ (s.flag = true → (pstep P s e).flag = true)) := by
  cases e with
  | raise => simp [pstep]
  | tick =>
    by_cases hc : s.cnt + 1 ≥ P <;> by_cases hf : s.flag = true <;> simp [pstep, hc, hf]

/-- **Observed within one polling period, never lost**: from any state with the flag set, the
    `(P - cnt)`-th following loop iteration delivers it (and `P - cnt ≤ P`). -/
theorem C31_delivered_within_one_period (P : Nat) (s : PSt) (hf : s.flag = true) (hc : s.cnt < P) :
    (prun P s (List.replicate (P - s.cnt) .tick)).delivered = s.delivered + 1
    ∧ (prun P s (List.replicate (P - s.cnt) .tick)).flag = false
    ∧ P - s.cnt ≤ P
    ∧ ∀ m, m < P - s.cnt → (prun P s (List.replicate m .tick)).delivered = s.delivered
          ∧ (prun P s (List.replicate m .tick)).flag = true := by
  rw [delivered_within_period P s hf hc]
  refine ⟨rfl, rfl, by omega, ?_⟩
  intro m hm
  rw [ticks_before_poll P m s (by omega)]
  exact ⟨rfl, hf⟩

/-- **The delivery point**: `deliveryPoint P n` is the first multiple of `P` that is `≥ n`, less
    than `P` after `n`. Arithmetic only: that a flag raised just before iteration `n` is consumed
    at that iteration of `prun` is shown for `P = 5`, in the example below. -/
theorem C31_delivery_point (P n : Nat) (hP : 1 ≤ P) (hn : 1 ≤ n) :
    n ≤ deliveryPoint P n ∧ deliveryPoint P n < n + P ∧ P ∣ deliveryPoint P n := by
  unfold deliveryPoint
  have h1 : (n + P - 1) / P * P ≤ n + P - 1 := Nat.div_mul_le_self _ _
  have h2 : n + P - 1 < (n + P - 1) / P * P + P := Nat.lt_div_mul_add (by omega)
  exact ⟨by omega, by omega, Nat.dvd_mul_left _ _⟩

/-! ## non-vacuity -/

/-- an interrupt delivered inside a loop body is caught by the enclosing `catch/3`; the binding made
    before the interrupt is undone. -/
example :
    (solveInj intBall (fun g _ => match g with | .atom "$poll" => true | _ => false) 14 []
        (Term.str "catch" [.str "," [.str "=" [.var "X", .int 1], .atom "$poll"],
                errCatcher "E" "V", .atom "true"]) ⟨[], 0⟩).sols.map
      (fun st => (match lookup st.σ "E" with | some (.atom "$interrupt_thrown") => true | _ => false)
                  && (lookup st.σ "X").isNone)
      = [true] := by decide

/-- raise before iteration 7 with period 5: delivered at iteration 10, exactly once. -/
example : deliveryPoint 5 7 = 10
    ∧ (prun 5 {} (List.replicate 6 .tick ++ [.raise] ++ List.replicate 3 .tick)).delivered = 0
    ∧ (prun 5 {} (List.replicate 6 .tick ++ [.raise] ++ List.replicate 4 .tick)).delivered = 1
    ∧ (prun 5 {} (List.replicate 6 .tick ++ [.raise] ++ List.replicate 12 .tick)).delivered = 1 := by
  refine ⟨by decide, by decide, by decide, by decide⟩

/-- the real period: 255 dispatched instructions per poll. -/
example : deliveryPoint 255 300 = 510 ∧ deliveryPoint 255 255 = 255 ∧ deliveryPoint 255 256 = 510 := by
  decide

end Scryer.Fault
